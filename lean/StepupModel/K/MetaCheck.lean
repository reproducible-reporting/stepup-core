import StepupModel.K.Scheduler
/-!
The refresh of `_safe` / `_safe_ignoring_hold` (`KState.updateMetaSafe`) restated in named pieces (`stepCreator`: the
`LEFT JOIN creator_step` of the seed; `allRows`: the rows of the CTE `trace`; `bestRow`: `MAX(depth)`; `writeBack`),
and the cache disciplines of the two refreshes in executable form, as the driver's check request evaluates them.
Definitions only; what is proved about them is in `Lemmas/MetaSafe.lean` and `Lemmas/MetaAfter.lean`.
-/
namespace StepupModel.K.MetaSafe

/-- The step creator of a row, as the seed of `FILL_SAFE_UPDATE` joins it. -/
def stepCreator (s : KState) (n : Node) : Option Node :=
  match n.creator with
  | some c => if c.kind = Kind.step then s.find? c else none
  | none => none

def localSafe (s : KState) (n : Node) : Bool :=
  match stepCreator s n with
  | some c => c.safe && c.sstate.active && c.holding == 0
  | none => true

def localSafeNH (s : KState) (n : Node) : Bool :=
  match stepCreator s n with
  | some c => c.safeNH && c.sstate.active
  | none => true

def SafeLocal (s : KState) (n : Node) : Prop := n.safe = localSafe s n
def SafeNHLocal (s : KState) (n : Node) : Prop := n.safeNH = localSafeNH s n

def flagged (s : KState) : List Node := s.nodes.filter fun n => n.key.kind = .step ∧ n.checkSafe

def seedRow (s : KState) (n : Node) : SafeRow :=
  { key := n.key, safe := localSafe s n, chain := localSafe s n && n.sstate.active && n.holding == 0,
    safeNH := localSafeNH s n, chainNH := localSafeNH s n && n.sstate.active }

def prodRow (r : SafeRow) (p : Node) : SafeRow :=
  { key := p.key, safe := r.chain, chain := r.chain && p.sstate.active && p.holding == 0,
    safeNH := r.chainNH, chainNH := r.chainNH && p.sstate.active, depth := r.depth + 1 }

def stepProducts (s : KState) (k : Key) : List Node :=
  s.nodes.filter fun p => p.key.kind = .step ∧ p.creator = some k ∧ p.key ≠ k

def expandRows (s : KState) (rows : List SafeRow) : List SafeRow :=
  rows.flatMap fun r => (stepProducts s r.key).map (prodRow r)

def pick (best : Option SafeRow) (r : SafeRow) : Option SafeRow :=
  match best with
  | none => some r
  | some b => if b.depth < r.depth then some r else some b

def bestRow (rows : List SafeRow) (k : Key) : Option SafeRow :=
  (rows.filter (·.key = k)).foldl pick none

def setBest (rows : List SafeRow) (n : Node) : Node :=
  match bestRow rows n.key with
  | some r => { n with safe := r.safe, safeNH := r.safeNH }
  | none => n

def applyRows (rows : List SafeRow) (n : Node) : Node :=
  if rows.any (·.key = n.key) then setBest rows n else n

def clearFlag (n : Node) : Node :=
  if (decide (n.key.kind = Kind.step)) = true then { n with checkSafe := false } else n

def allRows (s : KState) : Option (List SafeRow) :=
  KState.updateMetaSafe.go (expandRows s) (s.nodes.length + 1) ((flagged s).map (seedRow s)) ((flagged s).map (seedRow s))

def writeBack (s : KState) (rows : List SafeRow) : KState :=
  { s with nodes := s.nodes.map fun n => clearFlag (applyRows rows n) }

def bothLocalB (s : KState) (n : Node) : Bool := n.safe == localSafe s n && n.safeNH == localSafeNH s n

/-- The weakest discipline, decided with the rows of `trace` (when the recursion ends). -/
def cacheInvSafeWB (s : KState) : Bool :=
  match allRows s with
  | some rows => s.nodes.all fun n => !decide (n.key.kind = .step) || rows.any (·.key = n.key) || bothLocalB s n
  | none => false

end StepupModel.K.MetaSafe

namespace StepupModel.K.MetaAfter

def afterLocalB (s : KState) (cfg : KConfig) (n : Node) : Bool :=
  decide ((n.impliedNeed, n.tail) = s.afterValues cfg n)

def afterConsistentB (s : KState) (cfg : KConfig) : Bool :=
  s.nodes.all fun n => !(decide (n.key.kind = .step) && !n.detached) || afterLocalB s cfg n

def cacheInvAfterB (s : KState) (cfg : KConfig) : Bool :=
  s.nodes.all fun n => !(decide (n.key.kind = .step) && !n.detached && !n.checkAfter) || afterLocalB s cfg n

def cacheInvAfterWB (s : KState) (cfg : KConfig) : Bool :=
  s.nodes.all fun n => !(decide (n.key.kind = .step) && !n.detached && !n.checkAfter) ||
    (afterLocalB s cfg n || (s.consumerSteps n.key).any (·.checkAfter))

end StepupModel.K.MetaAfter
