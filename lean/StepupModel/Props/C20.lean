import StepupModel.Lemmas.Path
/-!
# C20  A path means the same file to a step and to the director

Theorems about the model in `P/Path.lean`, for all path strings (lists of code points).
The meaning of a path is `resolve base p`: the normalized component list of
`normpath(join(base, p))`, i.e. lexical resolution on a symlink-free tree (`..` through a
symbolic link is out of scope).  The correspondence harness (`harness/props/c20.py`) ties every
modelled function to the implementation and checks the same statements on a real directory tree.
-/
namespace StepupModel.Props.C20
open StepupModel.P.Path

/-! ## Supporting facts about `posixpath` -/

theorem normpath_idempotent (s : Str) : normpath (normpath s) = normpath s := normpath_idem s

/-- `normpath` keeps the meaning of a path, from every absolute base directory. -/
theorem normpath_denotes (base s : Str) (hb : isabs base = true) :
    resolve base (normpath s) = resolve base s := by
  rw [resolve_eq_den hb, resolve_eq_den hb, den_normpath]

/-- Relative path round trip on normalized absolute component lists:
`normalize(start ++ relpath(target, start)) = target`. -/
theorem relpath_roundtrip (start target : List Str) (hs : Clean start) (ht : Clean target) :
    normComps true (start ++ relSegs start target) = target := by
  rw [normComps_eq, run_relSegs hs ht, List.append_nil, List.reverse_reverse]

/-- The same at string level, for `path.Path.relpath`: `Path(dest).relpath(origin)` interpreted in
`origin` designates `dest` (also when the roots `/` and `//` differ and the result is absolute). -/
theorem relpath_denotes (cwd origin dest : Str) (ho : isabs origin = true) (hd : isabs dest = true) :
    resolve origin (relpathTo cwd origin dest) = resolve origin dest := by
  rw [resolve_eq_den ho, resolve_eq_den ho, den_relpathTo ho hd [] (den origin [])]

/-- An absolute path is returned unchanged up to `normpath`. -/
theorem translate_abs (cwd root here wd p : Str) (hp : isabs p = true) :
    translate cwd root here p wd = normpath p := by
  rw [translate, if_pos ((isabs_normpath p).trans hp)]

/-- A path given by a step that runs in `root/here`, with working directory argument `wd`
(relative to the step's directory, or absolute), is translated to a path that, interpreted in the
root, designates the same location as the original path interpreted in `root/here/wd`.
No hypothesis on `here`, `wd` or `p`: relative, absolute, with `.`/`..`, `//`, trailing slashes. -/
theorem translate_denotes (cwd root here wd p : Str) (hroot : isabs root = true) :
    resolve root (translate cwd root here p wd) = resolve (join (join root here) wd) p := by
  rw [resolve_eq_den hroot, resolve_stepDir hroot, den_translate _ _ _ _ _ hroot]

/-- A path recorded by the director (relative to the root, or absolute) is handed back as a path
that, interpreted in the step's directory `root/here/wd`, designates the same location. -/
theorem translate_back_denotes (cwd root here wd p : Str) (hroot : isabs root = true) :
    resolve (join (join root here) wd) (translateBack cwd root here p wd) = resolve root p := by
  rw [resolve_eq_den hroot, resolve_stepDir hroot, den_translateBack _ _ _ _ _ hroot]

/-- Round trip: what a step gets back for a path it declared designates, from the step's directory,
the file it named. -/
theorem roundtrip_denotes (cwd root here wd p : Str) (hroot : isabs root = true) :
    resolve (join (join root here) wd) (translateBack cwd root here (translate cwd root here p wd) wd) =
      resolve (join (join root here) wd) p := by
  rw [translate_back_denotes _ _ _ _ _ hroot, translate_denotes _ _ _ _ _ hroot]

/-- The other round trip: translating a handed-back path again designates the recorded location. -/
theorem roundtrip_back_denotes (cwd root here wd q : Str) (hroot : isabs root = true) :
    resolve root (translate cwd root here (translateBack cwd root here q wd) wd) = resolve root q := by
  rw [translate_denotes _ _ _ _ _ hroot, translate_back_denotes _ _ _ _ _ hroot]

/-! ## The recorded path is normalized and canonical -/

/-- The recorded label is a function of the designated location alone: for relative arguments it is
the relative path from the root's location to the location of `root/here/wd/p`. -/
theorem translate_label_of_location (cwd root here wd p : Str) (hroot : isabs root = true)
    (hhere : isabs here = false) (hwd : isabs wd = false) (hp : isabs p = false) :
    translate cwd root here p wd =
      renderRel (relSegs (resolve root dot) (resolve (join (join root here) wd) p)) := by
  have hj := isabs_join_rel ((isabs_normpath wd).trans hwd) ((isabs_normpath p).trans hp)
  have hX : isabs (normpath (join (join root here) (join (normpath wd) (normpath p)))) = true :=
    (isabs_normpath _).trans (isabs_join_join hroot)
  rw [translate_of_rel hp hwd, relpathTo_same hroot hX (by rw [rootK_normpath, rootK_join hj, rootK_join hhere]),
    resolve_dot hroot, ← den_abs_reverse hX [], resolve_stepDir hroot, den_normpath, den_join, den_join, den_join,
    den_normpath, den_normpath]

/-- Two spellings of the same location, given from any two step directories, are recorded under the
same label. -/
theorem translate_same_location_same_label (cwd root here₁ wd₁ p₁ here₂ wd₂ p₂ : Str)
    (hroot : isabs root = true)
    (h1 : isabs here₁ = false ∧ isabs wd₁ = false ∧ isabs p₁ = false)
    (h2 : isabs here₂ = false ∧ isabs wd₂ = false ∧ isabs p₂ = false)
    (hloc : resolve (join (join root here₁) wd₁) p₁ = resolve (join (join root here₂) wd₂) p₂) :
    translate cwd root here₁ p₁ wd₁ = translate cwd root here₂ p₂ wd₂ := by
  rw [translate_label_of_location _ _ _ _ _ hroot h1.1 h1.2.1 h1.2.2,
    translate_label_of_location _ _ _ _ _ hroot h2.1 h2.2.1 h2.2.2, hloc]

/-- The meaning of a path is a normalized absolute component list. -/
theorem resolve_clean (base p : Str) (hb : isabs base = true) : Clean (resolve base p) := by
  rw [resolve_eq_den hb]; exact (den_clean _ (den_clean _ Clean.nil)).reverse

/-- The translated path is always normalized, also when the join is with an absolute working directory
(`translate("../x", "/a/b")` is `"/a/x"`, not `"/a/b/../x"`). -/
theorem translate_normalized (cwd root here wd p : Str) (hroot : isabs root = true) :
    normpath (translate cwd root here p wd) = translate cwd root here p wd :=
  translate_cases cwd root here p wd (fun r => normpath r = r) (fun _ => normpath_idem _) (fun _ _ => normpath_idem _)
    fun _ _ => normpath_relpathTo hroot ((isabs_normpath _).trans (isabs_join_join hroot))

/-- That witness evaluates to the normalized path `/a/x`. -/
theorem translate_abs_workdir_witness :
    translate [47, 114] [47, 114] [46] [46, 46, 47, 120] [47, 97, 47, 98] = [47, 97, 47, 120] := by decide +kernel

/-- The canonical label of a location `d` (the relative path from the root to it) is a fixed point
of the director's `translate`. -/
theorem translate_relSegs {cwd root : Str} (hroot : isabs root = true) {d : List Str} (hd : Clean d)
    (hs : Segs d) :
    translate cwd root dot (renderRel (relSegs (normComps true (comps root)) d)) dot =
      renderRel (relSegs (normComps true (comps root)) d) := by
  have hq := isabs_renderRel (relSegs_segs (o := normComps true (comps root)) hs)
  rw [translate_label_of_location _ _ _ _ _ hroot isabs_dot isabs_dot hq, resolve_dot hroot,
    resolve_stepDir hroot, den_dot, den_dot, den_renderRel_relSegs hroot hd hs, List.reverse_reverse]

/-- A translated path is canonical: translating it again as the director would (from the root,
`HERE = "."`, `workdir = "."`) leaves it unchanged. -/
theorem translate_canonical (cwd root here wd p : Str) (hroot : isabs root = true) :
    translate cwd root dot (translate cwd root here p wd) dot = translate cwd root here p wd := by
  have habs : ∀ {s : Str}, isabs s = true → translate cwd root dot (normpath s) dot = normpath s :=
    fun h => by rw [translate_abs _ _ _ _ _ ((isabs_normpath _).trans h), normpath_idem]
  refine translate_cases cwd root here p wd (fun r => translate cwd root dot r dot = r) habs
    (fun _ hwd => habs (isabs_join_left ((isabs_normpath wd).trans hwd))) fun _ _ => ?_
  have hX := isabs_join_join (b := here) (c := join (normpath wd) (normpath p)) hroot
  have hXn := (isabs_normpath _).trans hX
  by_cases hk : rootK root = rootK (normpath (join (join root here) (join (normpath wd) (normpath p))))
  · rw [relpathTo_same hroot hXn hk]
    exact translate_relSegs hroot (normComps_clean _) (normComps_segs true _)
  · rw [relpathTo_diff hroot hXn hk, normpath_idem]; exact habs hX

theorem translate_idempotent (cwd root p : Str) (hroot : isabs root = true) :
    translate cwd root dot (translate cwd root dot p dot) dot = translate cwd root dot p dot :=
  translate_canonical cwd root dot dot p hroot

/-- `translate_fixed_partial` without its hypothesis on `..`: every normalized relative path. -/
def translate_fixed_full : Prop :=
  ∀ cwd root p : Str, isabs root = true → isabs p = false → normpath p = p →
    translate cwd root dot p dot = p

/-- `translate` leaves an already normalized path inside the root (no `..` component) unchanged
when `HERE` is `.` and the working directory is `.`. -/
theorem translate_fixed_partial (cwd root p : Str) (hroot : isabs root = true) (hp : isabs p = false)
    (hn : normpath p = p) (hin : dotdot ∉ comps p) : translate cwd root dot p dot = p := by
  have hN := parseNorm_normal p
  have hk : (parseNorm p).1 = 0 := by rw [parseNorm_eq, ← bne_eq_false_iff_eq, ← isabs_eq]; exact hp
  -- a normalized relative path without `..` is a clean list of names: the root's location followed
  -- by it is a location whose canonical label is `p` itself
  have hcl : Clean (parseNorm p).2 := by
    rw [parseNorm_eq]
    exact fun c hc => ⟨(normComps_noDot _ _ c hc).1, (normComps_noDot _ _ c hc).2,
      fun e => hin (e ▸ (mem_normComps hc).1)⟩
  have := translate_relSegs (cwd := cwd) hroot ((normComps_clean (comps root)).append hcl)
    (fun c hc => (List.mem_append.mp hc).elim (normComps_segs true root c) (hN.2.1 c))
  rwa [relSegs_prefix, renderRel_eq_render hN.2.1, ← hk, ← normpath_def, hn] at this

/-- A normalized path that leaves the root and comes back is rewritten (correctly) to its canonical
form: with root `/r/a`, `translate("../a/x") = "x"`. -/
theorem translate_fixed_negation : ¬ translate_fixed_full := by
  intro h
  have := h [47, 114] [47, 114, 47, 97] [46, 46, 47, 97, 47, 120] rfl rfl (by decide +kernel)
  revert this; decide +kernel

/-- `get_affixes` only ever returns `""`/`"./"` and `""`/`"/"`. -/
theorem get_affixes_shape (p : Str) :
    ((getAffixes p).1 = [] ∨ (getAffixes p).1 = dotSlash) ∧
    ((getAffixes p).2 = [] ∨ (getAffixes p).2 = [slash]) :=
  getAffixes_shape p

/-- `apply_affixes` raises exactly in the documented cases: a leading affix other than `./`, a
leading affix on a path that starts with `/` or `./`, a trailing affix other than `/`, a trailing
affix on a path (after the leading affix was added) that ends with `/`. -/
theorem apply_affixes_rejects_iff (p l t : Str) :
    (∃ n, applyAffixes p l t = .error n) ↔
      (l ≠ [] ∧ (l ≠ dotSlash ∨ isabs p = true ∨ dotSlash.isPrefixOf p = true)) ∨
      (t ≠ [] ∧ (t ≠ [slash] ∨ endsSlash (l ++ p) = true)) := by
  rw [applyAffixes_eq]
  by_cases h1 : l ≠ [] ∧ l ≠ dotSlash
  · rw [if_pos h1]; exact iff_of_true ⟨1, rfl⟩ (.inl ⟨h1.1, .inl h1.2⟩)
  rw [if_neg h1]
  by_cases h2 : l ≠ [] ∧ (isabs p = true ∨ dotSlash.isPrefixOf p = true)
  · rw [if_pos h2]; exact iff_of_true ⟨2, rfl⟩ (.inl ⟨h2.1, .inr h2.2⟩)
  rw [if_neg h2]
  by_cases h3 : t ≠ [] ∧ t ≠ [slash]
  · rw [if_pos h3]; exact iff_of_true ⟨3, rfl⟩ (.inr ⟨h3.1, .inl h3.2⟩)
  rw [if_neg h3]
  by_cases h4 : t ≠ [] ∧ endsSlash (l ++ p) = true
  · rw [if_pos h4]; exact iff_of_true ⟨4, rfl⟩ (.inr ⟨h4.1, .inr h4.2⟩)
  rw [if_neg h4]
  refine iff_of_false (fun ⟨n, h⟩ => nomatch h) ?_
  rintro (⟨a, b | b⟩ | ⟨a, b | b⟩)
  · exact h1 ⟨a, b⟩
  · exact h2 ⟨a, b⟩
  · exact h3 ⟨a, b⟩
  · exact h4 ⟨a, b⟩

/-- When `apply_affixes` succeeds the result is the plain concatenation. -/
theorem apply_affixes_value (p l t r : Str) (h : applyAffixes p l t = .ok r) : r = l ++ p ++ t := by
  have hb := (not_congr (apply_affixes_rejects_iff p l t)).mp (by rw [h]; exact fun ⟨n, hn⟩ => nomatch hn)
  rw [applyAffixes_eq, if_neg, if_neg, if_neg, if_neg] at h
  · exact (Except.ok.inj h).symm
  · exact fun c => hb (.inr ⟨c.1, .inr c.2⟩)
  · exact fun c => hb (.inr ⟨c.1, .inl c.2⟩)
  · exact fun c => hb (.inl ⟨c.1, .inr c.2⟩)
  · exact fun c => hb (.inl ⟨c.1, .inl c.2⟩)

/-- Full statement: `_keep_affixes(p, translate)` succeeds for every path and the result carries
exactly the affixes of the argument. -/
def affixes_preserved_full : Prop :=
  ∀ cwd root here p : Str, isabs root = true → isabs here = false →
    ∃ r, keepAffixes (fun x => translate cwd root here x dot) p = .ok r ∧ getAffixes r = getAffixes p

/-- Unless `p` is a spelling of the root directory, its translation has no affixes of its own, and
is absolute only if `p` is. -/
theorem translate_plain (cwd root here p : Str) (hroot : isabs root = true)
    (hhere : isabs here = false) (hnr : isabs p = true → normComps true (comps p) ≠ []) :
    Plain (translate cwd root here p dot) ∧ (isabs (translate cwd root here p dot) = true → isabs p = true) := by
  have habs : isabs (translate cwd root here p dot) = true → isabs p = true := by
    intro h
    cases hp : isabs p with
    | true => rfl
    | false =>
      rw [translate_label_of_location _ _ _ _ _ hroot hhere isabs_dot hp] at h
      exact nomatch (isabs_renderRel (relSegs_segs (parseNorm_normal _).2.1)).symm.trans h
  exact ⟨normal_plain (translate_normalized _ _ _ _ _ hroot)
    (fun h => ⟨habs h, translate_abs _ _ _ _ _ (habs h)⟩) hnr, habs⟩

/-- `_keep_affixes(p, translate)`: unless `p` is a spelling of the root directory (`/`, `//.`, `/..`),
the result is the translated path with a leading `./` and a trailing `/` exactly when `p` had them,
and it designates the same location as the translated path. -/
theorem affixes_preserved_partial (cwd root here p : Str) (hroot : isabs root = true)
    (hhere : isabs here = false) (hnr : isabs p = true → normComps true (comps p) ≠ []) :
    keepAffixes (fun x => translate cwd root here x dot) p =
      .ok ((getAffixes p).1 ++ translate cwd root here p dot ++ (getAffixes p).2) ∧
    getAffixes ((getAffixes p).1 ++ translate cwd root here p dot ++ (getAffixes p).2) = getAffixes p ∧
    resolve root ((getAffixes p).1 ++ translate cwd root here p dot ++ (getAffixes p).2) =
      resolve root (translate cwd root here p dot) :=
  have habs := (translate_plain cwd root here p hroot hhere hnr).2
  keepAffixes_normal hroot (fun x => translate cwd root here x dot) p (translate_normalized _ _ _ _ _ hroot)
    (fun h => ⟨habs h, translate_abs _ _ _ _ _ (habs h)⟩) hnr

/-- `_keep_affixes("/", translate)` raises (`Path already has a trailing slash`). -/
theorem affixes_preserved_negation : ¬ affixes_preserved_full := by
  intro h
  obtain ⟨r, hr, _⟩ := h [47, 114] [47, 114] [46] [47] rfl rfl
  have hv : keepAffixes (fun x => translate [47, 114] [47, 114] [46] x dot) [47] = .error 4 := by rfl
  rw [hv] at hr; cases hr

/-- `_translate_glob_path(p)` (the patterns and matches that `glob()` and `static()` send to the
director): unless `p` is a spelling of the root directory, the result is the translated path followed
by `/` exactly when `p` ended with one; it never starts with `./`, whatever the spelling of `p`, and
it designates the same location as the translated path. -/
theorem glob_path_trailing_only (cwd root here p : Str) (hroot : isabs root = true)
    (hhere : isabs here = false) (hnr : isabs p = true → normComps true (comps p) ≠ []) :
    globPath (fun x => translate cwd root here x dot) p =
      .ok (translate cwd root here p dot ++ (getAffixes p).2) ∧
    getAffixes (translate cwd root here p dot ++ (getAffixes p).2) = ([], (getAffixes p).2) ∧
    resolve root (translate cwd root here p dot ++ (getAffixes p).2) =
      resolve root (translate cwd root here p dot) := by
  have h := apply_plain (l := []) hroot (translate_plain cwd root here p hroot hhere hnr).1 (.inl rfl)
    (get_affixes_shape p).2 (fun _ => rfl)
  rwa [List.nil_append] at h

/-- Two spellings of one pattern that differ only by a leading `./` are recorded identically, given
(`htr`, `hsuf`: assumed, not proved here) that they translate alike and have the same trailing affix. -/
theorem glob_path_dot_slash_irrelevant (cwd root here p : Str) (hroot : isabs root = true)
    (hhere : isabs here = false) (hrel : isabs p = false)
    (htr : translate cwd root here (dotSlash ++ p) dot = translate cwd root here p dot)
    (hsuf : (getAffixes (dotSlash ++ p)).2 = (getAffixes p).2) :
    globPath (fun x => translate cwd root here x dot) (dotSlash ++ p) =
      globPath (fun x => translate cwd root here x dot) p := by
  have hrel2 : isabs (dotSlash ++ p) = false := rfl
  rw [(glob_path_trailing_only cwd root here p hroot hhere (fun h => by rw [hrel] at h; cases h)).1,
    (glob_path_trailing_only cwd root here (dotSlash ++ p) hroot hhere
      (fun h => by rw [hrel2] at h; cases h)).1, htr, hsuf]

example : globPath (fun x => translate [47] [47, 114] [115, 117, 98] x dot) [46, 47, 42, 46, 116, 47] =
    .ok [115, 117, 98, 47, 42, 46, 116, 47] := by rfl

/-- The same for `_keep_affixes(p, translate_back)` (`getenv(..., back=True)`). -/
theorem affixes_preserved_back_partial (cwd root here p : Str) (hroot : isabs root = true)
    (hhere : isabs here = false) (hnr : isabs p = true → normComps true (comps p) ≠ []) :
    keepAffixes (fun x => translateBack cwd root here x dot) p =
      .ok ((getAffixes p).1 ++ translateBack cwd root here p dot ++ (getAffixes p).2) ∧
    getAffixes ((getAffixes p).1 ++ translateBack cwd root here p dot ++ (getAffixes p).2) = getAffixes p ∧
    resolve (join root here) ((getAffixes p).1 ++ translateBack cwd root here p dot ++ (getAffixes p).2) =
      resolve (join root here) (translateBack cwd root here p dot) := by
  -- with working directory `.` an absolute path comes back normalized, never made relative
  have hval : isabs p = true → translateBack cwd root here p dot = normpath p := fun hp => by
    rw [translateBack_of_abs hp, if_neg fun h => nomatch h.1]
  have habs : isabs (translateBack cwd root here p dot) = true → isabs p = true := by
    intro h
    cases hp : isabs p with
    | true => rfl
    | false => rw [isabs_translateBack_rel hroot hhere hp isabs_dot] at h; cases h
  have hnorm : normpath (translateBack cwd root here p dot) = translateBack cwd root here p dot := by
    cases hp : isabs p with
    | true => rw [hval hp, normpath_idem]
    | false =>
      rw [translateBack_of_rel hp]
      exact normpath_relpathTo (isabs_join_join hroot) (isabs_join_left hroot)
  exact keepAffixes_normal (isabs_join_left hroot) (fun x => translateBack cwd root here x dot) p hnorm
    (fun h => ⟨habs h, hval (habs h)⟩) hnr

/-- And for `_keep_affixes(p, Path.normpath)` (`script`, `runsh`, `getenv`). -/
theorem affixes_preserved_normpath_partial (base p : Str) (hb : isabs base = true)
    (hnr : isabs p = true → normComps true (comps p) ≠ []) :
    keepAffixes normpath p = .ok ((getAffixes p).1 ++ normpath p ++ (getAffixes p).2) ∧
    getAffixes ((getAffixes p).1 ++ normpath p ++ (getAffixes p).2) = getAffixes p ∧
    resolve base ((getAffixes p).1 ++ normpath p ++ (getAffixes p).2) = resolve base p := by
  rw [← normpath_denotes base p hb]
  exact keepAffixes_normal hb normpath p (normpath_idem p) (fun h => ⟨(isabs_normpath p).symm.trans h, rfl⟩) hnr

/-! ## `STEPUP_ROOT`, `HERE` and `ROOT` -/

/-- `get_stepup_root()` is absolute and normalized, whatever `STEPUP_ROOT` contains. -/
theorem stepup_root_normal (cwd : Str) (envRoot : Option Str) (hc : isabs cwd = true) :
    isabs (getRoot cwd envRoot) = true ∧ normpath (getRoot cwd envRoot) = getRoot cwd envRoot := by
  refine ⟨isabs_abspath hc, ?_⟩
  rw [getRoot, abspath_eq, normpath_idem]

/-- `translate` as a step calls it (root and `HERE` from the environment, any values). -/
theorem translate_env_denotes (cwd : Str) (envRoot envHere : Option Str) (wd p : Str) (hc : isabs cwd = true) :
    resolve (getRoot cwd envRoot) (translateEnv cwd envRoot envHere p wd) =
      resolve (join (join (getRoot cwd envRoot) (getHere cwd (getRoot cwd envRoot) envHere)) wd) p :=
  translate_denotes _ _ _ _ _ (isabs_abspath hc)

/-- Without `HERE` in the environment the step's directory is the current directory:
the translated path designates `cwd/wd/p`. -/
theorem translate_default_here_denotes (cwd root wd p : Str) (hc : isabs cwd = true) (hroot : isabs root = true) :
    resolve root (translate cwd root (getHere cwd root none) p wd) = resolve (join cwd wd) p := by
  rw [resolve_eq_den hroot, resolve_eq_den (isabs_join_left hc), den_join, den_translate _ _ _ _ _ hroot,
    den_abs_irrel hroot [] (den cwd []), show getHere cwd root none = relpathTo cwd root dot from rfl,
    den_relpathTo_gen hc, den_dot]

/-- `HERE` as set by the executor (director's directory = root, step working directory `w`):
`HERE` designates `root/w`. -/
theorem env_here_denotes (root w : Str) (hroot : isabs root = true) :
    resolve root (envHereVar root w) = resolve root w := by
  rw [resolve_eq_den hroot, resolve_eq_den hroot, den_envHereVar root w hroot]

/-- `ROOT` as set by the executor designates the root from the step's directory `root/w`. -/
theorem env_root_denotes (root w : Str) (hroot : isabs root = true) :
    resolve (join root w) (envRootVar root w) = resolve root dot := by
  rw [resolve_eq_den hroot, resolve_eq_den (isabs_join_left hroot), den_join, den_dot]
  exact congrArg _ ((den_relpathTo_gen hroot w root []).trans (den_abs_irrel hroot _ _))

/-- With `HERE` from the executor, a path given by the step (running in `root/w`) is recorded as the
path that designates `root/w/wd/p` from the root. -/
theorem translate_executor_here (cwd root w wd p : Str) (hroot : isabs root = true) :
    resolve root (translate cwd root (envHereVar root w) p wd) = resolve (join (join root w) wd) p := by
  rw [resolve_eq_den hroot, resolve_stepDir hroot, den_translate _ _ _ _ _ hroot, den_envHereVar root w hroot]

/-- With an absolute working directory argument the result is the normalized join of the two
arguments. -/
theorem translate_abs_workdir_value (cwd root here wd p : Str) (hwd : isabs wd = true) (hp : isabs p = false) :
    translate cwd root here p wd = normpath (join wd p) := by
  have hp1 := (isabs_normpath p).trans hp
  rw [translate_of_rel_abs hp hwd]
  refine normpath_abs_congr (isabs_join_left ((isabs_normpath wd).trans hwd)) (isabs_join_left hwd) ?_ ?_
  · rw [rootK_join hp1, rootK_join hp, rootK_normpath]
  · rw [den_join, den_join, den_normpath, den_normpath]

/-! ## Non-vacuity: the hypotheses hold for ordinary values, and the functions compute

Root `/r`, `HERE = sub`: `translate("../a/./b", "w") = "sub/a/b"`, `translate_back("sub/a/b", "w") =
"../a/b"`, `translate("../../é/y/") = "../é/y"`, `_keep_affixes("./../a b/", translate) = "./a b/"`. -/
example : isabs [47, 114] = true ∧ isabs [115, 117, 98] = false ∧ isabs dot = false := by decide
example : translate [47] [47, 114] [115, 117, 98] [46, 46, 47, 97, 47, 46, 47, 98] [119] =
    [115, 117, 98, 47, 97, 47, 98] := by decide +kernel
example : translateBack [47] [47, 114] [115, 117, 98] [115, 117, 98, 47, 97, 47, 98] [119] =
    [46, 46, 47, 97, 47, 98] := by decide +kernel
example : translate [47] [47, 114] [115, 117, 98] [46, 46, 47, 46, 46, 47, 233, 47, 121, 47] dot =
    [46, 46, 47, 233, 47, 121] := by decide +kernel
example : resolve [47, 114] (translate [47] [47, 114] [115, 117, 98] [46, 46, 47, 97, 47, 46, 47, 98] [119]) =
    [[114], [115, 117, 98], [97], [98]] := by decide +kernel
example : keepAffixes (fun x => translate [47] [47, 114] [115, 117, 98] x dot) [46, 47, 46, 46, 47, 97, 32, 98, 47] =
    .ok [46, 47, 97, 32, 98, 47] := by rfl
/-- hypotheses of `translate_fixed_partial` -/
example : isabs [97, 47, 98] = false ∧ normpath [97, 47, 98] = [97, 47, 98] ∧ dotdot ∉ comps [97, 47, 98] := by
  decide +kernel
/-- hypothesis `hnr` of the affix theorems for an absolute path that is not the root -/
example : normComps true (comps [47, 97, 47]) ≠ [] := by decide +kernel
/-- hypotheses of `relpath_roundtrip` -/
example : Clean [[114], [97]] ∧ Clean [[114], [98], [99]] ∧
    relSegs [[114], [97]] [[114], [98], [99]] = [dotdot, [98], [99]] := by
  unfold Clean Name
  decide +kernel

end StepupModel.Props.C20
