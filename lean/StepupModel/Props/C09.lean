import StepupModel.Lemmas.StableInst
import StepupModel.Lemmas.Acyclic
import StepupModel.Lemmas.Reach
import StepupModel.Lemmas.EverOutput
import StepupModel.Lemmas.SuccOutputs
import StepupModel.Lemmas.SuccOutputsWitness
/-!
# C09  The stored workflow satisfies its invariants after every transaction

Theorems about the kernel model (`K/*.lean`); the tie is the kernel correspondence over all
scopes plus the regenerated tables.  Table obligations, the per-primitive state/hash invariants and
the creator-cycle guard; then, for every request (`KState.exec`, the function the driver runs and the
correspondence compares) and every history of accepted and rejected requests (`KState.run`):
state/hash consistency, edge kinds, unique keys, detached iff unreachable from the root, UNDECLARED
files detached, acyclic dependencies, and under side conditions shown to be needed the outputs of
SUCCEEDED steps (I4) and the step rows.  The oracle (`harness/props/c09.py`) evaluates the invariants on
the real database after every request; DESIGN.md section 9 calls their conjunction `Inv`.
-/
namespace StepupModel.Props.C09
open StepupModel.K StepupModel.Generated

/-! ## Obligations on the regenerated transition table -/

/-- Every hash transition keeps the role of the file: the documented state transitions of a
file never turn a static file into an output or vice versa. -/
theorem transitions_preserve_role :
    ∀ e ∈ hashTransitions, (e.1.2.1).role? = (e.2.1).role? := hashTransitions_role

/-- A transition into CONFIRMED / BUILT / OUTDATED always comes with a known hash, one into
MISSING happens only when the hash is unknown (the file is not on disk). -/
theorem transitions_hash_consistent :
    ∀ e ∈ hashTransitions,
      ((e.2.1 = .confirmed ∨ e.2.1 = .built ∨ e.2.1 = .outdated) → e.1.2.2 = true) ∧
      (e.2.1 = .missing → e.1.2.2 = false) := by decide

/-- No transition starts from or leads to UNDECLARED, VOLATILE: hash updates only concern
declared static files and regular outputs. -/
theorem transitions_domain :
    ∀ e ∈ hashTransitions, e.1.2.1 ≠ .undeclared ∧ e.1.2.1 ≠ .volatile ∧ e.2.1 ≠ .undeclared ∧
      e.2.1 ≠ .volatile ∧ e.2.1 ≠ .unconfirmed := hashTransitions_domain

/-- The table is a function: one entry per (cause, state, known). -/
theorem transitions_functional :
    ∀ e ∈ hashTransitions, ∀ f ∈ hashTransitions, e.1 = f.1 → e.2 = f.2 := fun e he f hf h => by
  have h1 := hashTransitions_find_row e he
  rw [h, hashTransitions_find_row f hf] at h1
  rw [Option.some.inj h1]

/-- Every "deleted" action leaves the file MISSING or PLANNED; "completed" leaves it available. -/
theorem transitions_actions :
    ∀ e ∈ hashTransitions,
      (e.2.2 = some .deleted → e.2.1 = .missing ∨ e.2.1 = .planned) ∧
      (e.2.2 = some .completed → e.2.1 = .confirmed ∨ e.2.1 = .built) := by decide

/-! ## State / hash consistency of one file row (I5) -/

/-! The row-level invariant the `file` table keeps is `K.HashInv` (`Lemmas/Inv.lean`): states that
promise a hash have one, states that must not have one do not. -/

/-- Whatever is written to a `file` row (every `UPDATE file` of the code goes through
`fileRowWrite`), the row it leaves satisfies `HashInv`: the CHECK constraint rejects the first
kind of violation and the `file_clear_hash` trigger repairs the second.  The write touches no
other column of the row, and an UNDECLARED state is only ever written on a detached node (I3). -/
theorem fileRowWrite_inv (n n' : Node) (st : FileState) (nh : Option (Option Nat))
    (h : fileRowWrite n st nh = .ok n') :
    HashInv n'.fstate n'.fhash ∧ n'.fstate = st ∧ (st = .undeclared → n'.detached = true) ∧
      n'.key = n.key ∧ n'.creator = n.creator ∧ n'.detached = n.detached := by
  obtain ⟨_, hund, e⟩ := fileRowWrite_ok_iff.1 h
  refine ⟨fileRowWrite_hashInv n n' st nh h, ?_⟩
  subst e
  refine ⟨rfl, fun hu => ?_, rfl, rfl, rfl⟩
  cases hd : n.detached with
  | true => rfl
  | false => exact absurd ⟨hu, by simp [hd]⟩ hund

/-- Row-level invariant of the `step` table: a deferred step is PENDING, a holding step is
RUNNING.  This is `StepRowOK` of `Lemmas/StableInst.lean` (`stepRowInv_eq`, by `Iff.rfl`). -/
def StepRowInv (n : Node) : Prop :=
  (n.deferred = true → n.sstate = .pending) ∧ (0 < n.holding → n.sstate = .running)

/-- Every `UPDATE step SET state` (all of them go through `stepRowWrite`) leaves a row that
satisfies `StepRowInv`, whatever the row was before: the CHECK constraint and the triggers
`step_reset_holding`, `step_clear_deferred` enforce it.  It also flags `_check_safe`, and a
SUCCEEDED step restarts its defer count. -/
theorem stepRowWrite_inv (n n' : Node) (st : StepState) (d : Option Bool)
    (h : stepRowWrite n st d = .ok n') :
    StepRowInv n' ∧ n'.sstate = st ∧ n'.checkSafe = true ∧ (st = .succeeded → n'.deferCount = 0) ∧
      n'.key = n.key ∧ n'.creator = n.creator ∧ n'.detached = n.detached ∧ n'.shash = n.shash := by
  refine ⟨stepRowWrite_rowOK n n' st d h, ?_⟩
  cases stepRowWrite_eq h
  exact ⟨rfl, rfl, fun hs => by simp [hs], rfl, rfl, rfl, rfl⟩

/-- A write is rejected exactly when the state promises a hash and none is at hand (the CHECK
constraint), or UNDECLARED is written on an attached node; it then returns an error, no row. -/
theorem fileRowWrite_rejects (n : Node) (st : FileState) (nh : Option (Option Nat)) :
    (∃ e, fileRowWrite n st nh = .error e) ↔
      (((st = .confirmed ∨ st = .built ∨ st = .outdated) ∧
          (pickHash nh n.fhash).isNone = true) ∨
        (st = .undeclared ∧ n.detached = false)) := by
  cases h : fileRowWrite n st nh with
  | ok n' =>
    obtain ⟨h1, h2, _⟩ := fileRowWrite_ok_iff.1 h
    exact ⟨fun ⟨_, he⟩ => (nomatch he), fun h' => h'.elim (absurd · h1) fun ⟨a, b⟩ => absurd ⟨a, by simp [b]⟩ h2⟩
  | error e =>
    refine ⟨fun _ => Decidable.byContradiction fun hn => ?_, fun _ => ⟨e, rfl⟩⟩
    have hok := (fileRowWrite_ok_iff (n := n) (st := st) (nh := nh)).2
      ⟨fun h1 => hn (.inl h1), fun h2 => hn (.inr ⟨h2.1, by simpa using h2.2⟩), rfl⟩
    rw [h] at hok
    cases hok

/-! ## The creator-cycle guard (findings F11 / F13) -/

/-- `reattach` refuses a creator that is the node itself or one of its recursive products and
leaves the state untouched (the request is rolled back). -/
theorem reattach_rejects_own_subtree (s : KState) (k c : Key) (n : Node)
    (hn : s.find? k = some n) (hd : n.detached = true) (hc : s.createdBy k c = true) :
    ∃ msg, s.reattach k c = .error (.graph msg) := by
  refine ⟨"recreated by itself or by one of its own products", ?_⟩
  unfold KState.reattach
  simp [hn, hd, hc]
  rfl

/-- `create` refuses to recreate a node by itself. -/
theorem create_rejects_self (s : KState) (k : Key) (n : Node) (init : Init)
    (hn : s.find? k = some n) (hd : n.detached = true) :
    ∃ msg, s.create k (some k) init = .error (.graph msg) := by
  refine ⟨"recreated by itself", ?_⟩
  unfold KState.create
  simp [hn, hd]
  rfl

/-! ## State/hash consistency of the whole database, after every request and every history -/

/-- A request of any kind (declaration, dispatch, completion, hash update, cleanup, startup
routine) that is accepted maps a database in which every file row is state/hash consistent to
such a database. -/
theorem request_keeps_state_hash_consistency (cfg : KConfig) (r : Req) (s : KState) (res : KState × String)
    (hinv : FilesOK s) (h : s.exec cfg r = .ok res) : FilesOK res.1 :=
  exec_stable stable_filesOK cfg r s res hinv h

/-- After every history of requests, valid or rejected (a rejected one is rolled back), each
under its own configuration, starting from the empty workflow: every file row of the stored
workflow is state/hash consistent. -/
theorem state_hash_consistent_after_every_history (h : List (KConfig × Req)) :
    ∀ n ∈ (KState.init.run h).nodes, HashInv n.fstate n.fhash :=
  filesOK_reachable h

theorem rejected_request_changes_nothing (cfg : KConfig) (r : Req) (s : KState) (e : Err)
    (h : s.exec cfg r = .error e) : s.step cfg r = s := by
  unfold KState.step; rw [h]

/-! ## Every predicate that the primitive writes keep is an invariant of every history -/

/-- The meta-theorem behind the invariants of this file: `Stable P` lists what the primitive
writes of the kernel (cache-only row updates, `fileRowWrite`, `stepRowWrite`, edge insertion
under its kind check, edge deletion, node insertion under a fresh key, node removal, the queue)
must preserve; every request function of the model is composed of those writes, so `P` then
holds after every history of accepted and rejected requests. -/
theorem stable_predicate_is_invariant {P : KState → Prop} (L : Stable P) (h0 : P KState.init)
    (h : List (KConfig × Req)) : P (KState.init.run h) :=
  reachable_stable L h0 h

/-- "Dependencies only link files with steps": every edge of every reachable database goes
file -> step, step -> file or static tree -> file. -/
theorem dependencies_link_files_with_steps_after_every_history (h : List (KConfig × Req)) :
    ∀ d ∈ (KState.init.run h).deps, depKindOk d.src.kind d.snk.kind = true :=
  stable_depsKindOK.execInv'.run' h _ init_depsKindOK

/-- One row per (kind, label) in every reachable database: a path or a step label never has two
nodes (the structural half of "every path has one owner"). -/
theorem one_node_per_key_after_every_history (h : List (KConfig × Req)) :
    ((KState.init.run h).nodes.map (·.key)).Nodup :=
  keysNodup_reachable h

/-- "A node is marked detached exactly when it is not reachable from the root through creator
links", after every history of accepted and rejected requests.  `Reach s k`: following the creator
links from `k` arrives at the root.  Behind it: the invariant `Forest` (unique keys, every creator
exists, the root is attached and its own creator, an attached node has an attached creator, a
detached node has no attached creator), well-founded creator links among attached nodes, and the
recursive walk of `RECURSIVELY_SET_DETACHED` reaching exactly the recursive products
(`mem_descendants`). -/
theorem detached_iff_unreachable_after_every_history (h : List (KConfig × Req)) :
    ∀ n ∈ (KState.init.run h).nodes, (n.detached = true ↔ ¬ Reach (KState.init.run h) n.key) := by
  obtain ⟨hf, hwf, _⟩ := forestWF_reachable h
  exact detached_iff_not_reach _ hf.1 hf.2.2 hwf

/-- The local form `Trellis._check_consistency` tests at every restart holds after every history:
the root is attached, an attached node has an attached creator, a detached node has no attached
creator. -/
theorem creator_links_consistent_after_every_history (h : List (KConfig × Req)) :
    CreatorOK (KState.init.run h) :=
  creatorOK_reachable h

/-- A request to detach the root is rejected (the CHECK constraints of the `node` table) and
leaves the database unchanged. -/
theorem detach_root_is_a_noop (s : KState) (cfg : KConfig) (hr : RootAttached s) :
    s.step cfg (.detach rootKey) = s := by
  obtain ⟨e, he⟩ := detach_root_rejected s hr
  unfold KState.step
  simp [KState.exec, unitOut, he, bind, Except.bind]

/-- "A file without any declaration is detached", after every history: an UNDECLARED file row (the
placeholder for an input nobody has declared yet) is detached and has no creator. -/
theorem undeclared_file_is_detached_after_every_history (h : List (KConfig × Req)) :
    ∀ n ∈ (KState.init.run h).nodes, n.key.kind = .file → n.fstate = .undeclared →
      n.detached = true ∧ n.creator = none :=
  fun n hn hk hu => ⟨StepupModel.K.Ever.undeclared_is_detached h n hn hk hu,
    StepupModel.K.Ever.undeclared_has_no_creator h n hn hk hu⟩

/-! ## I4: a SUCCEEDED step's outputs are BUILT (or VOLATILE) -/

open StepupModel.K.SuccOut in
/-- **"Every attached output of a SUCCEEDED step is BUILT or VOLATILE" after every history** whose
requests satisfy `ReqOKS` (20 of the 24 request kinds unconditionally; rejected requests and changing
configurations allowed): a raw `set_state(SUCCEEDED)` only when the outputs are already built (the
code sets SUCCEEDED only inside `mark_completed`), `completed` with a hash only when no own output is
still PLANNED (`update_file_hashes(.., SUCCEEDED)` precedes `mark_completed` in the same transaction),
no `amend` and no `reset_for_rerun` of a step that is SUCCEEDED (both act on the RUNNING step that
issued them / was just popped).  In the executor's order of requests the invariant holds after
every kernel request, not only at the end of the director transaction. -/
theorem succeeded_outputs_built_after_every_history (h : List (KConfig × Req)) (hg : HistOKS KState.init h) :
    SuccOutputsOK (KState.init.run h) :=
  succOutputs_after_every_history h hg

open StepupModel.K.SuccOut in
/-- The inductive form: any state that satisfies the invariant (not only a reachable one, e.g. a
database read at a restart) keeps it under every accepted or rejected request that satisfies the
side condition. -/
theorem request_keeps_succeeded_outputs_invariant (cfg : KConfig) (r : Req) (s : KState) (hr : ReqOKS s r)
    (hp : Inv4 s) : Inv4 (s.step cfg r) ∧ (CreatorOK (s.step cfg r) → SuccOutputsOK (s.step cfg r)) :=
  ⟨step_JK cfg r s hr hp, fun hc => succOutputsOK_of_JK (step_JK cfg r s hr hp) hc⟩

open StepupModel.K.SuccOut in
/-- Each of the four side conditions is necessary: a kernel-checked state that satisfies I4 (and, for
the first three, the whole inductive invariant), a request the guard refuses, and I4 false after it.
The same histories are replayed on the real code (`harness/witness/succ_outputs_*.txt`): model and
implementation agree, and the implementation-side oracle reports the I4 violation after the last
line.  The director issues none of the four. -/
theorem succeeded_outputs_side_conditions_needed :
    (SuccOutputsOK wState1 ∧ Inv4 wState1 ∧ ¬ ReqOKS wState1 (.setState (stepKey "A") .succeeded) ∧
      ∃ s', wState1.exec wCfg (.setState (stepKey "A") .succeeded) = .ok s' ∧ ¬ SuccOutputsOK s'.1) ∧
    (SuccOutputsOK wState2 ∧ Inv4 wState2 ∧ ¬ ReqOKS wState2 (.completed (stepKey "A") (some 7) false) ∧
      ∃ s', wState2.exec wCfg (.completed (stepKey "A") (some 7) false) = .ok s' ∧ ¬ SuccOutputsOK s'.1) ∧
    (SuccOutputsOK wState3 ∧ Inv4 wState3 ∧ ¬ ReqOKS wState3 (.amend (stepKey "A") [] [] ["o2"] [] []) ∧
      ∃ s', wState3.exec wCfg (.amend (stepKey "A") [] [] ["o2"] [] []) = .ok s' ∧ ¬ SuccOutputsOK s'.1) ∧
    (SuccOutputsOK wState4 ∧ ¬ ReqOKS wState4 (.resetRerun (stepKey "A")) ∧
      ∃ s', wState4.exec wCfg (.resetRerun (stepKey "A")) = .ok s' ∧ ¬ SuccOutputsOK s'.1) :=
  ⟨⟨set_state_succeeded_breaks_I4.1, inv4_wState1, guard_refuses_set_state, set_state_succeeded_breaks_I4.2⟩,
   ⟨completed_with_planned_output_breaks_I4.1, inv4_wState2, guard_refuses_completed,
     completed_with_planned_output_breaks_I4.2⟩,
   ⟨amend_of_succeeded_step_breaks_I4.1, inv4_wState3, guard_refuses_amend, amend_of_succeeded_step_breaks_I4.2⟩,
   ⟨reset_for_rerun_of_succeeded_step_breaks_I4.1, guard_refuses_reset, reset_for_rerun_of_succeeded_step_breaks_I4.2⟩⟩

/-- "Dependencies are acyclic" after every history: no chain of dependency edges leads from a
node back to itself.  The insertion sites (`_supply_files`, `add_source`) check the recursive
sinks first (`cycle_check_is_exact`), and a batch of new input edges of one step needs only one
check on the state before the batch. -/
theorem dependencies_acyclic_after_every_history (h : List (KConfig × Req)) :
    ∀ k, ¬ Path (KState.init.run h).deps k k :=
  acyclic_reachable h

/-- The cycle check of the model is exact: `b` is in the recursive sinks of `a` iff `b = a` or a
chain of edges leads from `a` to `b`. -/
theorem cycle_check_is_exact (s : KState) (a b : Key) :
    b ∈ s.sinkClosure a ↔ b = a ∨ Path s.deps a b :=
  mem_sinkClosure_iff s a b

/-- Acyclicity is NOT a consequence of the primitive writes alone (an unchecked, kind-correct
edge insertion can close a cycle): the check at the insertion sites is what carries it. -/
theorem acyclicity_needs_the_check : ¬ Stable Acyclic := by
  intro L
  have h1 : Acyclic cycleWitness := (acyclicB_iff _).1 (by decide)
  have h2 := L.addDep cycleWitness (stepKey "x") (fileKey "f") (by decide) (by decide) h1
  exact absurd ((acyclicB_iff _).2 h2) (by decide)

theorem stepRowInv_eq (n : Node) : StepRowInv n ↔ StepRowOK n := Iff.rfl

/-- The step-row invariant (deferred => PENDING, holding => RUNNING) after every history whose
`hold` requests are issued for RUNNING steps, which is what `DirectorHandler.hold` does (it
resolves the job in flight).  The unguarded statement is false of the model and of the code:
see `hold_on_idle_step_negation`. -/
theorem step_rows_consistent_after_every_history_partial (h : List (KConfig × Req))
    (hg : HoldsGuarded HoldOnRunning KState.init h) :
    ∀ n ∈ (KState.init.run h).nodes, StepRowInv n :=
  stepRowsOK_reachable_guarded h hg

/-- `Step.hold` increments `_holding` without looking at the state: a `hold` request for a step
that is not running leaves a PENDING row with `_holding = 1`. -/
theorem hold_on_idle_step_negation :
    StepRowsOK holdWitness ∧ ¬ StepRowsOK (holdWitness.step {} (.hold (stepKey "x"))) :=
  ⟨hold_request_breaks_stepRowsOK.1, hold_request_breaks_stepRowsOK.2.2⟩

example : ∃ n', fileRowWrite { key := ⟨.file, "a"⟩, fstate := .planned } .built (some (some 7)) = .ok n' ∧
    n'.fhash = some 7 := ⟨_, rfl, rfl⟩
example : ∃ n', stepRowWrite { key := ⟨.step, "s"⟩, sstate := .running, holding := 2 } .succeeded (some false) = .ok n' ∧
    n'.holding = 0 := ⟨_, rfl, rfl⟩

example : FilesOK { KState.init with nodes := KState.init.nodes ++
    [{ key := ⟨.file, "b.txt"⟩, fstate := .built, fhash := some 9 },
     { key := ⟨.file, "c.txt"⟩, fstate := .planned, fhash := none }] } := by
  intro n hn
  simp [KState.init] at hn
  rcases hn with rfl | rfl | rfl <;> simp [HashInv]

end StepupModel.Props.C09
