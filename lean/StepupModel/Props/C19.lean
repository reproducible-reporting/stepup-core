import StepupModel.K.Scheduler
import StepupModel.Lemmas.Report
import StepupModel.Lemmas.Pending
/-!
# C19  Exit status and final report tell the truth about the build

`P/Report.lean` models `finalize.report_unbuilt` and the two lines of `director.serve` that decide the
exit status when a target is rejected.  `P/Pending.lean` models the attribution of `pending.py`: one
primary blocker per pending step, the `UNION ALL` walk over the primary blockers, the counts of the
summary.  The walk theorems hold for ANY blocker table with its primary key: no acyclicity is assumed,
which is what makes them theorems about dynamic cycles.

Decided by the oracle only (harness/props/c19.py): that the base relations (`pend_step`,
`pend_file_block`, `pend_dead_file`, `pend_unsafe_anc`, `pend_resource`) are what their comments say
on real leftover graphs, that the cause a step is filed under is true of the graph, and the
whole-build statement (`serve()`'s exit status against the final database of simulated builds).  The
models are tied to the code by correspondence on generated leftover graphs and by the regenerated
`ReturnCode` bits, root-kind priorities and the statement skeleton of `report_unbuilt`.
-/
namespace StepupModel.Props.C19
open StepupModel StepupModel.K StepupModel.P.Report StepupModel.P.Pending StepupModel.Generated.Report

/-! ## Regenerated constants -/

/-- The flags are distinct single bits, so the exit status determines each flag. -/
theorem returncode_bits :
    rcInternal = 1 ∧ rcInterrupted = 2 ∧ rcFailed = 4 ∧ rcWarning = 8 ∧ rcPending = 16 ∧ rcDrained = 32 := by decide

/-- Every root kind wins over a step-to-step edge. -/
theorem root_kind_priorities :
    rootFile < rootResource ∧ rootResource < rootFailed ∧ rootFailed < rootDeferred ∧
      rootDeferred < rootOther ∧ rootOther < rootRunnable ∧ rootRunnable < blockStep := by decide

/-- The statement skeleton of `report_unbuilt` that the model was written from. -/
theorem report_unbuilt_skeleton :
    reportUnbuiltSkeleton =
      ["returncode = ReturnCode(0)",
       "nfailed = sum((1 for _ in workflow.steps(StepState.FAILED)))",
       "if nfailed > 0", "  returncode |= ReturnCode.FAILED",
       "if scheduler.draining", "  returncode |= ReturnCode.DRAINED", "  return",
       "returncode |= await _report_pending_steps(workflow, reporter)",
       "returncode |= await _report_missing_targets(workflow, reporter)",
       "if returncode == ReturnCode(0)", "  returncode |= await _report_glob_violations(workflow, reporter)",
       "return"] := rfl

/-- `_report_missing_targets` as modelled by the `invalidTargets` / `missingTargets` / `missingDirs` part of
`reportUnbuilt`: a requested target that is no regular output is INVALID when it is an attached file in a
state a target may never have (static, volatile) and sets FAILED; otherwise it is missing and sets WARNING;
a directory target without a regular output beneath it sets WARNING.  Regenerated from the source by `ast`. -/
theorem report_missing_targets_skeleton :
    reportMissingTargetsSkeleton =
      ["missing_targets = sorted((target for target in workflow.targets if not workflow.is_regular_output(target)))",
       "invalid_targets = []", "for target in missing_targets",
       "  file = workflow.find_attached(File, target)",
       "  if file is not None and file.get_state() in TARGET_FORBIDDEN_STATES",
       "    invalid_targets.append(target)",
       "missing_targets = [target for target in missing_targets if target not in invalid_targets]",
       "missing_target_dirs = sorted((target_dir for target_dir in workflow.target_dirs if not workflow.has_regular_output_under(target_dir)))",
       "returncode = ReturnCode(0)", "if len(invalid_targets) > 0", "  returncode |= ReturnCode.FAILED",
       "if len(missing_targets) > 0", "  returncode |= ReturnCode.WARNING",
       "if len(missing_target_dirs) > 0", "  returncode |= ReturnCode.WARNING", "return"] := rfl

/-! ## The exit status -/

/-- **The exit status, flag by flag.**  The code looks at the glob matches only when everything
else was clean (`CleanBeforeGlobs`), and at pending steps and targets only when the scheduler was not
draining. -/
theorem returncode_spec (i : Input) :
    ((returnCode i).drained = true ↔ i.draining = true) ∧
    ((returnCode i).pending = true ↔ i.draining = false ∧ anyPending i) ∧
    ((returnCode i).failed = true ↔
      anyFailed i ∨ (i.draining = false ∧ 0 < i.invalidTargets) ∨ (CleanBeforeGlobs i ∧ 0 < i.globErrors)) ∧
    ((returnCode i).warning = true ↔
      i.draining = false ∧ (0 < i.missingTargets ∨ 0 < i.missingDirs ∨ (CleanBeforeGlobs i ∧ 0 < i.globWarnings))) := by
  by_cases hc : CleanBeforeGlobs i
  · rw [returnCode_clean i hc]
    have ⟨nf, hd, np, h1, h2, h3⟩ := hc
    simp [hc, nf, hd, np, h1, h2, h3]
  · cases hd : i.draining with
    | true => simp [returnCode_draining i hd, hc, nfailed_pos]
    | false => simp [returnCode_not_clean i hd hc, hc, nfailed_pos, ntotal_pos]

/-- FAILED implies one of the reasons the property lists (full strength, no side condition). -/
theorem failed_bit_sound (i : Input) (h : (returnCode i).failed = true) :
    anyFailed i ∨ 0 < i.invalidTargets ∨ 0 < i.globErrors := by
  rcases (returncode_spec i).2.2.1.mp h with h | ⟨_, h⟩ | ⟨_, h⟩
  · exact Or.inl h
  · exact Or.inr (Or.inl h)
  · exact Or.inr (Or.inr h)

/-- A requested target that ended the phase as a static file or a volatile output sets the bit
(unless the phase drained, in which case targets are not looked at). -/
theorem invalid_target_sets_bit (i : Input) (hd : i.draining = false) (h : 0 < i.invalidTargets) :
    (returnCode i).failed = true :=
  (returncode_spec i).2.2.1.mpr (Or.inr (Or.inl ⟨hd, h⟩))

/-- The converse for builds that are clean apart from the glob matches. -/
theorem failed_bit_complete_partial (i : Input) (hc : CleanBeforeGlobs i) (h : 0 < i.globErrors) :
    (returnCode i).failed = true :=
  (returncode_spec i).2.2.1.mpr (Or.inr (Or.inr ⟨hc, h⟩))

/-- A FAILED step always sets the bit, draining or not. -/
theorem failed_step_sets_bit (i : Input) (h : anyFailed i) : (returnCode i).failed = true :=
  (returncode_spec i).2.2.1.mpr (Or.inl h)

/-- The literal reading of the property for the FAILED bit (within one build phase). -/
def FailedBitLiteral : Prop :=
  ∀ i : Input, (returnCode i).failed = true ↔ anyFailed i ∨ 0 < i.globErrors

/-- The literal reading is false of the code: with a step left pending (or while draining) a
glob match that is a built file is not looked at, the exit status is PENDING without FAILED. -/
theorem failed_bit_literal_negation : ¬ FailedBitLiteral := by
  intro h
  have := (h { steps := [{ state := .pending, impliedNeed := .default, detached := false }],
               threshold := Need.optional, draining := false, missingTargets := 0, missingDirs := 0,
               globWarnings := 0, globErrors := 1 }).mpr (Or.inr (by decide))
  revert this
  decide

/-- No attached step is still RUNNING or CHECKING (the builder has stopped). -/
def Settled (i : Input) : Prop :=
  ∀ r ∈ i.steps, r.detached = false → r.state ≠ .running ∧ r.state ≠ .checking

/-- **Zero means clean.**  An exit status without any flag implies: the scheduler was not
draining, no attached step is FAILED, every attached step above the need threshold is neither
PENDING nor (once the builder has stopped) anything but SUCCEEDED, every target is produced (none is
missing, none is a static file or a volatile output), and no glob match is unjustified or a built file. -/
theorem returncode_zero_truth (i : Input) (h : (returnCode i).isZero = true) :
    i.draining = false ∧
    (∀ r ∈ i.steps, r.detached = false → r.state ≠ .failed ∧
      (i.threshold.rank < r.impliedNeed.rank → r.state ≠ .pending ∧ (Settled i → r.state = .succeeded))) ∧
    i.missingTargets = 0 ∧ i.missingDirs = 0 ∧ i.invalidTargets = 0 ∧ i.globWarnings = 0 ∧ i.globErrors = 0 := by
  obtain ⟨hd, hp, hf, hw⟩ := returncode_spec i
  simp only [Flags.isZero, Bool.and_eq_true, Bool.not_eq_true'] at h
  obtain ⟨⟨⟨h1, h2⟩, h3⟩, h4⟩ := h
  have hdr : i.draining = false := by simpa [h4] using hd
  simp only [h1, h2, h3, hdr, Bool.false_eq_true, false_iff, true_and, not_or, not_and, Nat.not_lt,
    Nat.le_zero_eq] at hp hf hw
  have hclean : CleanBeforeGlobs i := ⟨hf.1, hdr, hp, hw.1, hw.2.1, hf.2.1⟩
  refine ⟨hdr, ?_, hw.1, hw.2.1, hf.2.1, hw.2.2 hclean, hf.2.2 hclean⟩
  intro r hr hdet
  have nf : r.state ≠ .failed := fun hs => hf.1 ⟨r, hr, hs, hdet⟩
  refine ⟨nf, fun hthr => ?_⟩
  have np : r.state ≠ .pending := fun hs => hp ⟨r, hr, hs, hthr, hdet⟩
  refine ⟨np, fun hset => ?_⟩
  obtain ⟨nr, nc⟩ := hset r hr hdet
  cases hs : r.state <;> first | rfl | contradiction

/-- The number `stepup` exits with is zero exactly when no flag is set, and each flag can be read
back from it (`ReturnCode` is an `IntFlag`). -/
theorem toNat_faithful (f : Flags) :
    (f.toNat = 0 ↔ f.isZero = true) ∧ (f.toNat &&& rcFailed ≠ 0 ↔ f.failed = true) ∧
    (f.toNat &&& rcWarning ≠ 0 ↔ f.warning = true) ∧ (f.toNat &&& rcPending ≠ 0 ↔ f.pending = true) ∧
    (f.toNat &&& rcDrained ≠ 0 ↔ f.drained = true) := by
  obtain ⟨a, b, c, d⟩ := f
  cases a <;> cases b <;> cases c <;> cases d <;> decide

/-- `serve()`: a target that `reconcile_targets` rejects ends the run with FAILED alone; otherwise
the exit status is the one of the last build phase. -/
theorem serve_spec (invalidTarget : Bool) (phase : Flags) :
    ((serveReturnCode invalidTarget phase).failed = true ↔ invalidTarget = true ∨ phase.failed = true) ∧
    ((serveReturnCode invalidTarget phase).isZero = true → invalidTarget = false ∧ phase.isZero = true) := by
  cases invalidTarget <;> simp [serveReturnCode, Flags.isZero]

/-- The cleanup pass never runs after a phase whose status has anything but WARNING set. -/
theorem cleanup_only_when_complete (t : Bool) (rc : Flags) (c : Bool) (h : cleanupRuns t rc c = true) :
    t = false ∧ rc.failed = false ∧ rc.pending = false ∧ rc.drained = false ∧ c = true := by
  simp only [cleanupRuns, Bool.and_eq_true, Bool.not_eq_true', Bool.or_eq_false_iff] at h
  obtain ⟨⟨h1, ⟨h2, h3⟩, h4⟩, h5⟩ := h
  exact ⟨h1, h2, h3, h4, h5⟩

/-! ### The same on the kernel model's state -/

/-- The step rows of a kernel state as `report_unbuilt` reads them. -/
def rowsOf (s : KState) : List StepRow :=
  (s.nodes.filter (·.key.kind = .step)).map fun n =>
    { state := n.sstate, impliedNeed := n.impliedNeed, detached := n.detached }

def inputOf (s : KState) (cfg : KConfig) (draining : Bool) (mt md gw ge : Nat) : Input :=
  { steps := rowsOf s, threshold := cfg.threshold, draining := draining, missingTargets := mt,
    missingDirs := md, globWarnings := gw, globErrors := ge }

/-- Zero exit status on a kernel state: every attached step node whose `_implied_need` exceeds the
threshold is SUCCEEDED (given that none is RUNNING/CHECKING), and none is FAILED. -/
theorem kstate_zero_truth (s : KState) (cfg : KConfig) (draining : Bool) (mt md gw ge : Nat)
    (hset : ∀ n ∈ s.nodes, n.key.kind = .step → n.detached = false → n.sstate ≠ .running ∧ n.sstate ≠ .checking)
    (h : (returnCode (inputOf s cfg draining mt md gw ge)).isZero = true) :
    draining = false ∧ ∀ n ∈ s.nodes, n.key.kind = .step → n.detached = false →
      n.sstate ≠ .failed ∧ (cfg.threshold.rank < n.impliedNeed.rank → n.sstate = .succeeded) := by
  have hz := returncode_zero_truth _ h
  refine ⟨hz.1, fun n hn hk hdet => ?_⟩
  have hsettled : Settled (inputOf s cfg draining mt md gw ge) := by
    intro r hr hrd
    obtain ⟨m, hm, rfl⟩ := List.mem_map.mp hr
    obtain ⟨hm, hmk⟩ := List.mem_filter.mp hm
    exact hset m hm (of_decide_eq_true hmk) hrd
  have := hz.2.1 _ (List.mem_map.mpr ⟨n, List.mem_filter.mpr ⟨hn, decide_eq_true hk⟩, rfl⟩) hdet
  exact ⟨this.1, fun hthr => (this.2 hthr).2 hsettled⟩

/-! ## One primary blocker per pending step -/

/-- **Every pending step gets exactly one primary blocker or RUNNABLE.**  For a universe without
repeated ids and candidates that point into it, `pend_blocker` holds exactly one row per step; the
row is a candidate of that step before which no other candidate of the step sorts (root kinds before
step-to-step edges, by the regenerated priorities), or RUNNABLE when the step has no candidate. -/
theorem blocker_exactly_one (ids : List Nat) (cs : List Cand) (hids : ids.Nodup) (hsub : ∀ c ∈ cs, c.dst ∈ ids) :
    (∀ i ∈ ids, ∃ b ∈ pendBlocker ids cs, b.dst = i ∧ ∀ b' ∈ pendBlocker ids cs, b'.dst = i → b' = b) ∧
    (∀ b ∈ pendBlocker ids cs, b.dst ∈ ids ∧
      ((∃ c ∈ cs, c.dst = b.dst ∧ c.kind = b.kind ∧ c.src = b.src ∧ ∀ a ∈ cs, a.dst = b.dst → a.before c = false) ∨
       (b.kind = rootRunnable ∧ b.src = b.dst ∧ ∀ a ∈ cs, a.dst ≠ b.dst))) := by
  obtain ⟨huniq, hmem⟩ := pendBlocker_unique hids hsub
  constructor
  · intro i hi
    obtain ⟨b, hb, hbi⟩ := List.mem_map.mp ((hmem i).mpr hi)
    refine ⟨b, hb, hbi, ?_⟩
    intro b' hb' hb'i
    exact eq_of_nodup_map huniq hb' hb (hb'i.trans hbi.symm)
  · intro b hb
    refine ⟨(hmem b.dst).mp (List.mem_map_of_mem hb), ?_⟩
    rcases List.mem_append.mp hb with hp | hr
    · exact Or.inl (mem_primary hp)
    · obtain ⟨hk, hs, _, hn⟩ := mem_runnable hr
      refine Or.inr ⟨hk, hs, fun a ha had => hn ?_⟩
      rw [primary_dst]
      exact (mem_dedup _ _).mpr (List.mem_map.mpr ⟨a, ha, had⟩)

/-! ## The attribution walk -/

/-- **The walk terminates.**  For every blocker table with one row per step the `UNION ALL`
recursion reaches an empty level after at most `|U|` non-empty ones, whatever cycles the
step-to-step edges contain. -/
theorem walk_terminates (B : List Blk) (hB : UniqueDst B) : ∃ rows, walk B = some rows := by
  obtain ⟨rows, h, _⟩ := walk_spec hB
  exact ⟨rows, h⟩

/-- Without the primary key the same query need not terminate: two rows for one step that block
each other feed the recursion forever (fuel exhausted in the model). -/
theorem walk_needs_primary_key :
    walk [{ dst := 1, kind := rootFile, src := 9 }, { dst := 1, kind := blockStep, src := 1 }] = none := by
  decide

/-- **Exactly one cause per pending step, and the counts add up.**  The walk visits every step at
most once (no duplicate rows: the insert into `pend_attributed` cannot violate its primary key),
only steps of U, a step is either attributed to exactly one root or belongs to the cyclic
remainder, and `attributed + cyclic = total`. -/
theorem pending_partition (B : List Blk) (hB : UniqueDst B) :
    ∃ rows, walk B = some rows ∧ (rows.map (·.i)).Nodup ∧ (∀ w ∈ rows, w.i ∈ B.map (·.dst)) ∧
      (∀ b ∈ B, (b ∈ cyclicRows B rows ↔ ¬ ∃ w ∈ rows, w.i = b.dst) ∧
        (∀ w ∈ rows, ∀ w' ∈ rows, w.i = b.dst → w'.i = b.dst → w = w')) ∧
      rows.length + (cyclicRows B rows).length = B.length := by
  obtain ⟨rows, hw, hnd, hsub, _⟩ := walk_spec hB
  refine ⟨rows, hw, hnd, hsub, fun b hb => ⟨?_, fun w hw1 w' hw2 h1 h2 => eq_of_nodup_map hnd hw1 hw2 (h1.trans h2.symm)⟩,
    length_add_unmatched hB hnd hsub⟩
  simp only [cyclicRows, List.mem_filter, hb, true_and, Bool.not_eq_true', List.any_eq_false, decide_eq_true_eq,
    not_exists, not_and]

/-- A step is attributed exactly when following its primary blockers upwards ends in a root; the
cyclic remainder are the steps whose chain never leaves step-to-step edges. -/
theorem attributed_iff_chain_reaches_root (B : List Blk) (hB : UniqueDst B) (rows : List WRow)
    (h : walk B = some rows) (w : WRow) : w ∈ rows ↔ ∃ n, climb B n w.i = some (w.rk, w.rid) :=
  (walk_spec_of hB h).2.2 w

/-! ### The same for the table computed from the base relations -/

/-- **The summary accounts for every pending step under exactly one cause.**  From well-formed
base relations: the walk terminates, and the number of attributed steps plus the steps of the
`cyclic` bucket is `ntotal`. -/
theorem summary_partition (b : Base) (hw : WF b) :
    ∃ rows, walk (blockerOf b) = some rows ∧ (rows.map (·.i)).Nodup ∧ (∀ w ∈ rows, w.i ∈ b.ids) ∧
      rows.length + (cyclicBucket b rows).1 = b.steps.length := by
  obtain ⟨huniq, hmem⟩ := pendBlocker_unique hw.1 (cands_dst b hw)
  obtain ⟨rows, hwalk, hnd, hsub, _, _⟩ := pending_partition (blockerOf b) huniq
  have hsub' : ∀ w ∈ rows, w.i ∈ b.ids := fun w hwm => (hmem _).mp (hsub w hwm)
  exact ⟨rows, hwalk, hnd, hsub', length_add_unmatched hw.1 hnd hsub'⟩

/-! ### Totals per root kind -/

/-- **The counts of the summary add up.**  From well-formed base relations: the steps attributed to
dead-end files, to unsatisfiable resources, to FAILED steps, the stale deferrals, the "other" and the
"runnable" steps, and the cyclic remainder are together `ntotal`. -/
theorem summary_counts_add_up (b : Base) (hw : WF b) :
    ∃ rows, walk (blockerOf b) = some rows ∧
      total rows rootFile + total rows rootResource + (bucket b rows rootFailed).1 + (bucket b rows rootDeferred).1 +
        (bucket b rows rootOther).1 + (bucket b rows rootRunnable).1 + (cyclicBucket b rows).1 = b.steps.length := by
  obtain ⟨huniq, _⟩ := pendBlocker_unique hw.1 (cands_dst b hw)
  obtain ⟨rows, hwalk, _, _, hlen⟩ := summary_partition b hw
  refine ⟨rows, hwalk, ?_⟩
  have hcov : ∀ w ∈ rows, w.rk ∈ rootKinds := by
    intro w hwm
    obtain ⟨n, hn⟩ := ((walk_spec_of huniq hwalk).2.2 w).mp hwm
    obtain ⟨x, hx, hk, _, hne⟩ := climb_root_row _ n _ _ _ hn
    rcases blockerOf_kind b x hx with h | h
    · rw [← hk]; exact h
    · exact absurd h hne
  have hsum := totals_add_up rows rootKinds (by decide) hcov
  simp only [rootKinds, List.map_cons, List.map_nil, List.sum_cons, List.sum_nil] at hsum
  simp only [bucket, total] at hsum ⊢
  omega

/-! ### Hidden-row counters -/

/-- **The hidden-row counter is what is left of the attributed total.**  In `_rank_display` the
steps attributed to the displayed roots plus `nhidden_blocked` is the attributed total of all
roots of that kind, and the total does not depend on the ranking order. -/
theorem hidden_accounting (b : Base) (rows : List WRow) (kind : Nat) (roots : List Nat) :
    (rankDisplay b rows kind roots).shownAttributed + (rankDisplay b rows kind roots).nhiddenBlocked =
      (rankDisplay b rows kind roots).totalAttributed ∧
    (rankDisplay b rows kind roots).totalAttributed =
      (roots.map fun r => (rows.filter fun w => w.rk = kind ∧ w.rid = r).length).sum := by
  simp only [rankDisplay]
  constructor
  · have := sum_sublist_le (fun rn : Nat × Nat => rn.2) (List.filter_sublist
      (p := fun rn : Nat × Nat => (shownOf b kind (ranked rows kind roots)).any (·.1 = rn.1)) (l := ranked rows kind roots))
    unfold shownAttr
    omega
  · unfold ranked
    rw [sum_sortBy]
    simp [counted, List.map_map, Function.comp_def]

/-! ## Non-vacuity -/

/-- A leftover graph with a dead-end file, a dynamic cycle and a runnable step: the hypotheses of
the partition theorems hold and all three kinds of outcome occur. -/
def exampleBase : Base :=
  { steps := [⟨1, "a", false, false⟩, ⟨2, "b", false, false⟩, ⟨3, "c", false, false⟩, ⟨4, "d", false, false⟩,
              ⟨5, "e", false, false⟩],
    fileBlock := [(10, 1), (11, 2), (12, 3), (13, 4)], dead := [(10, "missing.txt")],
    producers := [⟨11, 1, "a", false⟩, ⟨12, 4, "d", false⟩, ⟨13, 3, "c", false⟩],
    unsafeAnc := [], resBlock := [] }

example : WF exampleBase := by unfold WF; decide
example : walk (blockerOf exampleBase) =
    some [⟨1, rootFile, 10⟩, ⟨5, rootRunnable, 5⟩, ⟨2, rootFile, 10⟩] := by decide
example : (cyclicBucket exampleBase [⟨1, rootFile, 10⟩, ⟨5, rootRunnable, 5⟩, ⟨2, rootFile, 10⟩]) = (2, some "c") := by
  decide
def exampleFailedPending : Input :=
  { steps := [⟨StepState.failed, Need.default, false⟩, ⟨StepState.pending, Need.default, false⟩],
    threshold := Need.optional, draining := false, missingTargets := 0, missingDirs := 0,
    globWarnings := 0, globErrors := 0 }
def exampleClean : Input :=
  { steps := [⟨StepState.succeeded, Need.plan, false⟩, ⟨StepState.pending, Need.optional, false⟩],
    threshold := Need.optional, draining := false, missingTargets := 0, missingDirs := 0,
    globWarnings := 0, globErrors := 0 }
example : (returnCode exampleFailedPending).toNat = 20 := by decide
example : (returnCode exampleClean).isZero = true ∧ Settled exampleClean := by
  refine ⟨by decide, ?_⟩
  intro r hr _
  simp only [exampleClean, List.mem_cons, List.not_mem_nil, or_false] at hr
  rcases hr with rfl | rfl <;> decide

end StepupModel.Props.C19
