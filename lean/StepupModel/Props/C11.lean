import StepupModel.Lemmas.Dispatch
import StepupModel.Lemmas.MetaAfterW
/-!
# C11  Exactly the needed steps are executed

Kernel part: what `UPDATE_CHECK_AFTER` computes for one step (`afterValues`), the dispatch
threshold, and the need after a refresh in closed form (the maximum of the own needs of the steps it
feeds), so that every dispatched step has a reason.  That the cached `_implied_need` satisfies its
definition at every dispatch decision is `C10.cached_need_agrees_after_every_history`; that exactly
the needed steps ran in whole builds is decided by the oracle on the simulated director.
-/
namespace StepupModel.Props.C11
open StepupModel.K StepupModel.Generated StepupModel.Props

/-- The recomputed implied need of a step is never below its declared need: a non-optional step
is always needed. -/
theorem implied_ge_declared (s : KState) (cfg : KConfig) (n : Node) :
    n.need.rank ≤ (s.afterValues cfg n).1.rank :=
  Nat.le_trans (MetaAfter.ownNeed_ge_declared s cfg n) (MetaAfter.afterNeed_ge_own s cfg n)

/-- A step with a regular output that is an exact target is elevated to at least TARGET,
whatever its declared need (an OPTIONAL producer of a named file is built). -/
theorem exact_target_elevates (s : KState) (cfg : KConfig) (n : Node) (o : String)
    (ho : o ∈ s.regularOutputs n.key) (ht : o ∈ cfg.targets) :
    Need.target.rank ≤ (s.afterValues cfg n).1.rank :=
  Nat.le_trans (MetaAfter.ownNeed_ge_target (List.any_eq_true.2 ⟨o, ho, List.contains_iff_mem.2 ht⟩))
    (MetaAfter.afterNeed_ge_own s cfg n)

/-- An OPTIONAL step whose outputs are no exact targets and that no attached step consumes stays
OPTIONAL, whatever the directory targets (they only elevate steps declared DEFAULT). -/
theorem dir_target_spares_optional (s : KState) (cfg : KConfig) (n : Node) (hn : n.need = .optional)
    (hno : (s.regularOutputs n.key).any cfg.targets.contains = false)
    (hsinks : s.consumerSteps n.key = []) :
    (s.afterValues cfg n).1 = .optional :=
  MetaAfter.afterNeed_optional s cfg n hn hno fun _ hm => nomatch hsinks ▸ hm

/-- Need propagates against the dependency direction: a step is needed at least as much as every
attached step that consumes one of its outputs (this is what makes an OPTIONAL producer of an
input of a built step be built, transitively). -/
theorem consumer_elevates (s : KState) (cfg : KConfig) (n : Node) (f c : Key) (m : Node)
    (hf : f ∈ s.sinksOf n.key) (hc : c ∈ s.sinksOf f) (hm : s.find? c = some m)
    (hk : m.key.kind = .step) (hd : m.detached = false) :
    m.impliedNeed.rank ≤ (s.afterValues cfg n).1.rank :=
  MetaAfter.afterNeed_ge_consumer s cfg n (MetaAfter.mem_consumerSteps.2 ⟨f, hf, c, hc, hm, hk, hd⟩)

/-- The dispatch threshold: without targets everything above OPTIONAL is built; with file or
directory targets only what is above DEFAULT (TARGET and PLAN). -/
theorem threshold_spec (cfg : KConfig) :
    cfg.threshold = (if cfg.targets = [] ∧ cfg.targetDirs = [] then Need.optional else Need.default) := by
  unfold KConfig.threshold
  simp [List.isEmpty_iff]

/-- Only needed steps are dispatched: the implied need of a dispatched step exceeds the
threshold; in particular a step whose implied need is OPTIONAL never runs. -/
theorem dispatched_is_needed (s : KState) (cfg : KConfig) (n : Node) (h : s.eligible cfg n = true) :
    cfg.threshold.rank < n.impliedNeed.rank ∧ n.impliedNeed ≠ .optional :=
  ⟨((eligible_iff s cfg n).1 h).2.2.2.2.2.2.1, ((eligible_iff s cfg n).1 h).2.2.2.2.2.1⟩

/-- With targets, a DEFAULT step that no target elevates is not dispatched. -/
theorem default_not_built_under_targets (s : KState) (cfg : KConfig) (n : Node)
    (ht : ¬ (cfg.targets = [] ∧ cfg.targetDirs = [])) (hn : n.impliedNeed = .default) :
    s.eligible cfg n = false := by
  cases he : s.eligible cfg n with
  | false => rfl
  | true =>
    have := (dispatched_is_needed s cfg n he).1
    rw [threshold_spec, if_neg ht, hn] at this
    simp [Need.rank] at this

example : (Need.optional.max .target).rank = 2 := by decide

/-! ## The need of a step after a metadata refresh, in closed form -/

open StepupModel.K.MetaAfter in
/-- After a refresh (`AfterConsistent`; `hac` is not used): the cached need of an attached step is
the maximum of the OWN needs (declared need, or TARGET for a producer of a target) of the
attached steps it transitively feeds (itself included): it dominates each of them and is attained
by one of them.  "An optional step is built exactly when one of its outputs is required, directly
or through other optional steps, as input of a step that is built". -/
theorem implied_need_closed_form {s : KState} {cfg : KConfig} (hac : Acyclic s) (hc : AfterConsistent s cfg)
    {n : Node} (hn : n ∈ s.nodes) (hs : n.key.kind = .step) (hd : n.detached = false) :
    (∀ p, Feeds s n p → (ownNeed s cfg p).rank ≤ n.impliedNeed.rank) ∧
    ∃ p, Feeds s n p ∧ ownNeed s cfg p = n.impliedNeed :=
  implied_closed_form hc hn hs hd

open StepupModel.K.MetaAfter in
/-- An OPTIONAL step that produces no target and whose attached consumers are all OPTIONAL-implied
is not dispatched. -/
theorem unneeded_optional_not_dispatched {s : KState} {cfg : KConfig} {n : Node} (h : AfterLocal s cfg n)
    (hn : n.need = .optional) (hno : (s.regularOutputs n.key).any cfg.targets.contains = false)
    (hcons : ∀ m ∈ s.consumerSteps n.key, m.impliedNeed = .optional) : s.eligible cfg n = false := by
  cases he : s.eligible cfg n with
  | false => rfl
  | true => exact absurd (implied_optional h hn hno hcons) ((eligible_iff s cfg n).1 he).2.2.2.2.2.1

open StepupModel.K.MetaAfter in
/-- Every dispatched step has a reason: on a table that obeys the flag discipline, a step that
`pop_next_job` dispatches is, or transitively feeds, an attached step whose own need (its declared
need, or TARGET because it produces a requested target) exceeds the threshold of the build. -/
theorem dispatched_step_has_a_reason (s s' : KState) (cfg : KConfig) (k : Key) (d : Dispatch)
    (hk : KeysUnique s) (hac : Acyclic s) (hc : CacheInvAfterW s cfg)
    (h : s.popNext cfg (some k) = .ok (s', d)) :
    ∃ s1 n p, s.updateMeta cfg = .ok s1 ∧ AfterConsistent s1 cfg ∧ n ∈ s1.nodes ∧ n.key = k ∧
      Feeds s1 n p ∧ cfg.threshold.rank < (ownNeed s1 cfg p).rank ∧
      (ownNeed s1 cfg p = p.need ∨ (ownNeed s1 cfg p = .target ∧ TargetHit s1 cfg p)) :=
  popNext_job_has_reason_weak s s' cfg k d hk hc h

end StepupModel.Props.C11
