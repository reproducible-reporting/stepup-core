import StepupModel.Lemmas.OpCases
import StepupModel.Lemmas.Watch
import StepupModel.Lemmas.Like
import StepupModel.Props.C17
/-!
# C14  A watch-mode rebuild is equivalent to a restart

Two independent implementations of "react to what changed on disk" are compared: the watcher
(`record_change` folds inotify items into two sets, `run_once` re-hashes them with cause EXTERNAL and
feeds them to `process_nglob_changes`) and the restart (`rescan_files` re-hashes every attached file
that is not PLANNED/VOLATILE, `rescan_nglobs` globs afresh).  Models: `P/Watch.lean`, the kernel
model's `updateFileHashes`, C17's `NamedGlob` results, C18's prefix selection.

Both sides apply one single-path update per changed file in its own transaction.  That their ORDER
does not matter is decided by the oracle only, and it does matter: finding
`watch-differs:external-update-order` (a changed output makes only its producer pending, so a tampered
output and a removed source of its producer give different graphs in the two orders).  Also left to
the oracle (harness/props/c14.py): the end-to-end statement (same outputs, graph, return code) on
simulated builds, and the translation of inotify events into items
(`AsyncInotifyWrapper.change_loop`), which is not modelled.
-/
namespace StepupModel.Props.C14
open StepupModel StepupModel.K StepupModel.P.Watch StepupModel.P.Like StepupModel.Generated

/-! ## Regenerated facts -/

/-- The three arms of `Watcher.record_change` as the model was written from them. -/
theorem record_change_skeleton :
    Report.recordChangeSkeleton =
      ["if change == Change.DELETED and path not in self.deleted",
       "  if self.workflow.change_is_relevant(path, during_build=during_build)",
       "    self.deleted.add(path)", "    self.updated.discard(path)",
       "    for event in self.files_changed_events", "      event.set()",
       "else",
       "  if change == Change.UPDATED and path not in self.updated",
       "    if self.workflow.change_is_relevant(path, during_build=during_build)",
       "      self.deleted.discard(path)", "      self.updated.add(path)",
       "      for event in self.files_changed_events", "        event.set()",
       "  else",
       "    if change == Change.DELETED_PARENT",
       "      for sub_path in self.workflow.relevant_paths_under(path, during_build=during_build)",
       "        if sub_path not in self.deleted",
       "          self.deleted.add(sub_path)", "          self.updated.discard(sub_path)",
       "          for event in self.files_changed_events", "            event.set()"] := rfl

/-- In the watch phase every state but PLANNED and VOLATILE is relevant (exactly the states a restart
re-hashes); during a build only CONFIRMED and MISSING are. -/
theorem relevant_states_tables :
    (∀ st : FileState, Enums.relevantStates.contains st = (st != .planned && st != .volatile)) ∧
    (∀ st : FileState, Enums.relevantStatesDuringBuild.contains st = (st == .confirmed || st == .missing)) := by
  constructor <;> intro st <;> cases st <;> decide +kernel

/-! ## The fold of `record_change` -/

variable {α : Type}

section
variable [DecidableEq α]

/-- `record_change_fold` from sets that agree with `a`, what is known about each path so far: the
sets left by the items that were queued during the build. -/
theorem record_change_fold_from (v : View α) (s : Sets α) (a : α → Option Bool) (evs : List (Event α))
    (h : Inv s a) (p : α) :
    (p ∈ (recordAll v s evs).updated ↔ lastRelevantFrom v (a p) evs p = some true) ∧
    (p ∈ (recordAll v s evs).deleted ↔ lastRelevantFrom v (a p) evs p = some false) :=
  inv_recordAll v evs h p

/-- After any sequence of items and for any answers of the workflow, `updated` holds exactly the
paths whose last relevant item was an update and `deleted` those whose last relevant item was a
deletion (a DELETED_PARENT counts as a deletion of every relevant path under the directory). -/
theorem record_change_fold (v : View α) (evs : List (Event α)) :
    (∀ p, p ∈ (recordAll v {} evs).updated ↔ lastRelevant v evs p = some true) ∧
    (∀ p, p ∈ (recordAll v {} evs).deleted ↔ lastRelevant v evs p = some false) ∧
    (∀ p, ¬ (p ∈ (recordAll v {} evs).updated ∧ p ∈ (recordAll v {} evs).deleted)) ∧
    (recordAll v {} evs).updated.Nodup ∧ (recordAll v {} evs).deleted.Nodup := by
  have h0 : Inv ({} : Sets α) (fun _ => none) := by intro p; simp
  have h := fun p => record_change_fold_from v {} (fun _ => none) evs h0 p
  refine ⟨fun p => (h p).1, fun p => (h p).2, ?_, ?_⟩
  · rintro p ⟨h1, h2⟩
    have a := (h p).1.mp h1
    have b := (h p).2.mp h2
    rw [a] at b
    cases b
  · exact nodup_recordAll v evs {} (by simp) (by simp)

/-- The two loops of `run_once` (items queued during the build with `during_build=True`, then the
items of the watch phase) are one fold over the concatenation. -/
theorem run_once_two_loops (v : View α) (queued live : List (Event α)) :
    recordAll v (recordAll v {} queued) live = recordAll v {} (queued ++ live) := by
  simp [recordAll, List.foldl_append]

/-- Of two relevant items about one path that cancel each other the later one wins. -/
theorem last_item_wins (v : View α) (evs : List (Event α)) (p : α) (db : Bool) (hr : v.relevant db p = true) :
    (p ∈ (recordAll v {} (evs ++ [⟨.deleted, p, db⟩, ⟨.updated, p, db⟩])).updated) ∧
    (p ∈ (recordAll v {} (evs ++ [⟨.updated, p, db⟩, ⟨.deleted, p, db⟩])).deleted) := by
  constructor
  · rw [(record_change_fold v _).1]
    simp [lastRelevant, lastRelevantFrom, List.foldl_append, touches, hr, override]
  · rw [(record_change_fold v _).2.1]
    simp [lastRelevant, lastRelevantFrom, List.foldl_append, touches, hr, override]

end

/-- **DELETED_PARENT expands to the relevant paths under the directory**, with the workflow's
answers computed from its tables: the labels of attached files in a relevant state and the recorded
glob matches that start with `dir` + "/" (byte-exact prefix, C18). -/
theorem deleted_parent_expands (t : Tables) (s : Sets Str) (dir : Str) (db : Bool) (p : Str) :
    (p ∈ (recordChange t.view s ⟨.deletedParent, dir, db⟩).deleted ↔
      p ∈ s.deleted ∨
        (((∃ f ∈ t.files, f.1 = p ∧ (relevantStatesOf db).contains f.2 = true) ∨ p ∈ t.globMatches) ∧
          ensureSlash dir <+: p)) ∧
    (p ∈ (recordChange t.view s ⟨.deletedParent, dir, db⟩).updated → p ∈ s.updated) := by
  have hm := mem_delLoop (t.under db dir) s p
  have hu : p ∈ t.under db dir ↔
      ((∃ f ∈ t.files, f.1 = p ∧ (relevantStatesOf db).contains f.2 = true) ∨ p ∈ t.globMatches) ∧
        ensureSlash dir <+: p := by
    unfold Tables.under
    rw [mem_relevantUnder (cs := Sqlite.likeCaseSensitive) rfl]
    simp only [List.mem_map, List.mem_filter]
    constructor
    · rintro ⟨(⟨f, ⟨hf, hs⟩, rfl⟩ | hg), hp⟩
      · exact ⟨Or.inl ⟨f, hf, rfl, hs⟩, hp⟩
      · exact ⟨Or.inr hg, hp⟩
    · rintro ⟨(⟨f, hf, rfl, hs⟩ | hg), hp⟩
      · exact ⟨Or.inl ⟨f, ⟨hf, hs⟩, rfl⟩, hp⟩
      · exact ⟨Or.inr hg, hp⟩
  have hr : recordChange t.view s ⟨.deletedParent, dir, db⟩ = delLoop (t.under db dir) s := rfl
  rw [hr]
  constructor
  · rw [hm.1, hu]
  · intro h
    exact (hm.2.mp h).1

/-! ## Which hash results are applied: watcher versus restart -/

/-- Every file whose content differs from its record and that a restart would look at has a
recorded item. -/
def EventsComplete (paths : List α) (node : α → Option FileRec) (disk : α → Option Nat) (s : Sets α) : Prop :=
  ∀ p ∈ paths, ∀ r, node p = some r → r.attached = true → r.state ≠ .planned → r.state ≠ .volatile →
    disk p ≠ r.hash → p ∈ s.updated ∨ p ∈ s.deleted

/-- The full statement for the file part: both paths apply the same hash results. -/
def WatchFilesEqRestart : Prop :=
  ∀ (paths : List Str) (node : Str → Option FileRec) (disk : Str → Option Nat) (s : Sets Str),
    EventsComplete paths node disk s → (∀ p, p ∈ s.updated ∨ p ∈ s.deleted → p ∈ paths) →
    ∀ x, x ∈ watchApplied node disk s ↔ x ∈ restartApplied paths node disk

/-- **Watcher and restart apply the same hash results** (each as its own single-path
`update_file_hashes` with the same cause), when the recorded items are complete, no attached
file is still UNCONFIRMED, and there is no detached file in a static state (those are re-hashed by a
restart, the C01 defect "static input edited while detached", and remain invisible
to the watcher: the known finding `watch-differs:change-while-detached`). -/
theorem watch_files_eq_restart_partial (paths : List α) (node : α → Option FileRec) (disk : α → Option Nat)
    (s : Sets α) (hc : EventsComplete paths node disk s) (hin : ∀ p, p ∈ s.updated ∨ p ∈ s.deleted → p ∈ paths)
    (hconf : ∀ p r, node p = some r → r.attached = true → r.state ≠ .unconfirmed)
    (hdet : ∀ p r, node p = some r → r.attached = false → r.restartScans = false) (x : Applied α) :
    x ∈ watchApplied node disk s ↔ x ∈ restartApplied paths node disk := by
  rw [mem_watchApplied, mem_restartApplied]
  constructor
  · rintro ⟨p, r, hp, hn, hr, hd, rfl⟩
    have ha := (r.rescannable_iff.mp hr).1
    exact ⟨p, r, hin p hp, hn, r.restartScans_iff.mpr (.inl hr), .inr ⟨hconf p r hn ha, hd, rfl⟩⟩
  · rintro ⟨p, r, hp, hn, hs, h⟩
    have hr : r.rescannable = true := by
      rcases r.restartScans_iff.mp hs with hr | ⟨ha, _⟩
      · exact hr
      · rw [hdet p r hn ha] at hs; cases hs
    obtain ⟨ha, h1, h2⟩ := r.rescannable_iff.mp hr
    rcases h with ⟨hu, _⟩ | ⟨_, hd, rfl⟩
    · exact absurd hu (hconf p r hn ha)
    · exact ⟨p, r, hc p hp r hn ha h1 h2 hd, hn, hr, hd, rfl⟩

/-- Without the hypothesis on UNCONFIRMED files the statement is false: a restart confirms an
attached UNCONFIRMED file (cause CONFIRMED, applied even when the hash is unchanged), the watcher
has no item about it. -/
theorem unconfirmed_negation : ¬ WatchFilesEqRestart := by
  intro h
  let p : Str := [120]
  have hc : EventsComplete [p] (oneFile p ⟨true, .unconfirmed, some 7⟩) (fun _ => some 7) ({} : Sets Str) := by
    intro q _ r hr _ _ _ hd
    obtain ⟨_, rfl⟩ := oneFile_eq_some.mp hr
    exact absurd rfl hd
  have := (h [p] _ _ _ hc (by rintro q (hq | hq) <;> cases hq) ⟨p, .confirmed, some 7⟩).mpr (by decide +kernel)
  revert this
  decide +kernel

/-- Without the hypothesis on detached static files the statement is false as well, even with a
recorded item about the file: a restart re-hashes a detached CONFIRMED file that changed on disk (cause
EXTERNAL), the watcher drops the item because the file is not `rescannable` (known finding
`watch-differs:change-while-detached`). -/
theorem detached_static_negation :
    ∃ (paths : List Str) (node : Str → Option FileRec) (disk : Str → Option Nat) (s : Sets Str),
      EventsComplete paths node disk s ∧ (∀ p, p ∈ s.updated ∨ p ∈ s.deleted → p ∈ paths) ∧
      (∀ p r, node p = some r → r.attached = true → r.state ≠ .unconfirmed) ∧
      ¬ (∀ x, x ∈ watchApplied node disk s ↔ x ∈ restartApplied paths node disk) := by
  let p : Str := [120]
  refine ⟨[p], oneFile p ⟨false, .confirmed, some 7⟩, fun _ => some 8, { updated := [p], deleted := [] }, ?_, ?_, ?_, ?_⟩
  · intro q _ r hr ha
    obtain ⟨_, rfl⟩ := oneFile_eq_some.mp hr
    cases ha
  · rintro q (hq | hq)
    · exact hq
    · cases hq
  · intro q r hr ha
    obtain ⟨_, rfl⟩ := oneFile_eq_some.mp hr
    cases ha
  · intro h
    have := (h ⟨p, .external, some 8⟩).mpr (by decide +kernel)
    revert this
    decide +kernel

/-- **What `process_nglob_changes` receives as `updated` exists.**  Every path that stays in `updated`
after the pruning of `run_once` is there: a re-hashed one has a known new hash that differs from its
record, one that was not re-hashed (a glob match without a node) exists on disk.  An update reported
for a path that is not there counts as a deletion (finding `watch-update-under-moved-directory`). -/
theorem pruned_updated_exist (node : α → Option FileRec) (disk : α → Option Nat) (present : α → Bool) (s : Sets α)
    (p : α) (hp : p ∈ prunedUpdated node disk present s) :
    p ∈ s.updated ∧
      (∀ r, node p = some r → r.rescannable = true → (disk p).isSome = true ∧ disk p ≠ r.hash) ∧
      (rehashed node p = false → present p = true) := by
  unfold prunedUpdated at hp
  obtain ⟨h1, h2⟩ := List.mem_filter.mp hp
  refine ⟨h1, ?_, ?_⟩
  · intro r hn hr
    simp only [hn, hr, if_true, Bool.and_eq_true, decide_eq_true_eq] at h2
    exact ⟨h2.2, h2.1⟩
  · intro hre
    unfold rehashed at hre
    cases hn : node p with
    | none => simpa [hn] using h2
    | some r =>
      simp only [hn] at hre h2
      simpa [hre] using h2

variable [DecidableEq α]

/-- **The two sets handed to `process_nglob_changes` are disjoint** (it raises `ConsistencyError`
otherwise) whenever the watcher's own sets are, every path of `updated` ends in exactly one of them
unless it was re-hashed and found unchanged, and `deleted` gains only paths of `updated`. -/
theorem nglob_sets_disjoint (node : α → Option FileRec) (disk : α → Option Nat) (present : α → Bool) (s : Sets α)
    (hdis : ∀ p, ¬ (p ∈ s.updated ∧ p ∈ s.deleted)) (p : α) :
    ¬ (p ∈ prunedUpdated node disk present s ∧ p ∈ finalDeleted node disk present s) ∧
    (p ∈ finalDeleted node disk present s ↔ p ∈ s.deleted ∨ p ∈ vanishedUpdated node disk present s) ∧
    (p ∈ vanishedUpdated node disk present s → p ∈ s.updated) := by
  refine ⟨?_, mem_finalDeleted, fun h => (List.mem_filter.mp h).1⟩
  rintro ⟨h1, h2⟩
  rcases mem_finalDeleted.mp h2 with hd | hv
  · exact hdis p ⟨(List.mem_filter.mp h1).1, hd⟩
  · exact not_mem_vanished_of_mem_pruned h1 hv

/-- Relevance does not imply that a restart would look at the file: with a node that is detached
and UNDECLARED (an input some step lists and nobody declares) and a glob that accepts the path, the
path is recorded, but it is not among the files that are re-hashed. -/
theorem relevant_not_rescannable :
    ∃ (t : Tables) (p : Str) (r : FileRec), t.view.relevant false p = true ∧ r.state = .undeclared ∧
      r.rescannable = false ∧
      watchApplied (fun q => if q = p then some r else none) (fun _ => some 7) { updated := [p], deleted := [] } = [] := by
  refine ⟨{ files := [], globMatches := [], globAccepts := fun _ => true }, [120], ⟨false, .undeclared, none⟩, ?_⟩
  decide +kernel

/-- The witness above is the state the real watcher reaches: with one attached registration whose
regex accepts the path and no attached node of that label, `change_is_relevant` is true. -/
theorem glob_relevant_without_attached_node (t : Tables) (p : Str) (db : Bool)
    (hnone : ∀ f ∈ t.files, f.1 ≠ p) (hg : t.globAccepts p = true) : t.view.relevant db p = true := by
  show t.relevant db p = true
  unfold Tables.relevant
  have : t.files.find? (fun f => decide (f.1 = p)) = none := by
    rw [List.find?_eq_none]
    intro f hf
    simpa using hnone f hf
  rw [this]
  exact hg

/-- **The kernel rejects what the watcher then asks for.**  An EXTERNAL hash update of a file that
is UNDECLARED, PLANNED or VOLATILE has no row in `_HASH_TRANSITIONS`: on the kernel model
`update_file_hashes({path: hash}, EXTERNAL)` raises `ConsistencyError` for such a node, whatever the
rest of the state (finding `watch-internal-error:unexpected-hash-update`, which the watcher avoids by
re-hashing only what a restart would re-hash). -/
theorem external_update_rejected (s : KState) (path : String) (h : Option Nat) (n : Node)
    (hn : s.find? (fileKey path) = some n)
    (hst : n.fstate = .undeclared ∨ n.fstate = .planned ∨ n.fstate = .volatile) :
    s.updateFileHashes [(path, h)] .external = .error .consistency := by
  have hl : lookupTransition .external n.fstate h.isSome = none := by
    rcases hst with h1 | h1 | h1 <;> rw [h1] <;> cases h.isSome <;> decide +kernel
  rw [updateFileHashes_single]
  simp only [KState.hashRec, hn, hl]
  rfl

/-- The states a restart hashes are exactly those for which an EXTERNAL result has a transition,
except MISSING with an unknown hash, which is never applied (the result equals the record). -/
theorem restart_scope_has_transitions (st : FileState) (known : Bool) :
    (lookupTransition .external st known).isSome =
      ((st != .undeclared && st != .planned && st != .volatile) && !(st == .missing && !known)) := by
  cases st <;> cases known <;> decide +kernel

/-! ## The glob part -/

section
open StepupModel.P.NGlob

/-- The two sets handed to `process_nglob_changes` are complete and truthful for the paths this
pattern accepts (`m q` is the key under which `q` is recorded, `none` when the regex rejects it). -/
structure GlobEventsComplete (m : List Nat → Option P.NGlob.Key) (oldP newP added deleted : List (List Nat)) : Prop where
  added_exist : ∀ p ∈ added, (m p).isSome → p ∈ newP
  deleted_gone : ∀ p ∈ deleted, (m p).isSome → p ∉ newP
  new_covered : ∀ p ∈ newP, (m p).isSome → p ∈ oldP ∨ p ∈ added
  old_covered : ∀ p ∈ oldP, (m p).isSome → p ∈ newP ∨ p ∈ deleted

/-- **`process_nglob_changes` records what a fresh scan records** (as a dictionary of sets), when
the watcher's sets are complete for the accepted paths.  Unlike C17's `incremental_eq_rescan` the sets
may contain any number of paths the pattern does not accept (files of other patterns, plain static
files), and nothing is required of paths the pattern rejects. -/
theorem watch_glob_eq_rescan_partial (m : List Nat → Option P.NGlob.Key) (old : Results)
    (oldP newP added deleted : List (List Nat))
    (hold : C17.Records m old oldP) (hc : GlobEventsComplete m oldP newP added deleted) :
    eqv (reduce m (extend m old added) deleted) (extend m [] newP) = true :=
  C17.records_eqv (C17.records_update m old oldP newP added deleted hold hc.1 hc.2 hc.3 hc.4) (C17.scan_records m newP)

/-- A new match that is never reported (a directory created under a watched directory: finding F8)
breaks completeness, and the recorded set then differs from a fresh scan: with nothing recorded, an
empty `added` and one accepted new path, `will_change` sees no change. -/
theorem unreported_new_match_negation :
    ∃ (m : List Nat → Option P.NGlob.Key) (newP : List (List Nat)),
      eqv (reduce m (extend m [] []) []) (extend m [] newP) = false := by
  refine ⟨fun q => if q = [100, 47] then some [] else none, [[100, 47]], ?_⟩
  decide +kernel

end

/-! ## Non-vacuity -/

def exampleView : View Nat := { relevant := fun _ _ => true, under := fun _ d => if d = 9 then [1, 2] else [] }

example : (recordAll exampleView {} [⟨.updated, 1, false⟩, ⟨.deleted, 1, false⟩, ⟨.updated, 1, false⟩,
    ⟨.updated, 2, true⟩, ⟨.deletedParent, 9, false⟩, ⟨.updated, 3, false⟩, ⟨.updated, 2, false⟩]).updated = [3, 2] := by
  decide +kernel
example : (recordAll exampleView {} [⟨.updated, 1, false⟩, ⟨.deleted, 1, false⟩, ⟨.updated, 1, false⟩,
    ⟨.updated, 2, true⟩, ⟨.deletedParent, 9, false⟩, ⟨.updated, 3, false⟩, ⟨.updated, 2, false⟩]).deleted = [1] := by
  decide +kernel
example : lastRelevant exampleView [⟨.updated, 1, false⟩, ⟨.deletedParent, 9, false⟩] 1 = some false := by decide +kernel

end StepupModel.Props.C14
