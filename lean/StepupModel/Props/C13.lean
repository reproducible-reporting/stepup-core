import StepupModel.Lemmas.Hash
import StepupModel.Lemmas.Order
/-!
# C13  Change detection by hashes is sound

Theorems about the byte strings fed to SHA-256 (`P/Hash.lean`).  The tie to the code is the
correspondence `sha256(model stream) = digest computed by StepHash`, on generated configurations.
SHA-256 itself is trusted to be injective on the strings that occur.
-/
namespace StepupModel.Props.C13
open StepupModel.P.Hash StepupModel.P.Like

/-- Well-formedness as the property quantifies it (NUL-free label, paths, names and values; mode
and size below 2^64, `to_bytes(8)` raises otherwise; digests of 32 bytes or the unknown marker)
*plus* one extra hypothesis inside `WFEnv`: no tracked variable is called `__env_overrides__`
(finding F1).  Digests need no hypothesis beyond their length (F2): an unknown digest
is hashed as a missing word. -/
def WFCfg (c : InpCfg) : Prop :=
  NulFree c.label ∧ (∀ f ∈ c.files, WFFile f) ∧ (∀ e ∈ c.envs, WFEnv e) ∧ (∀ e ∈ c.ovr, WFOvr e)

theorem kwShell_nf : NulFree kwShell := by decide

theorem inp_ordered_injective_partial (c1 c2 : InpCfg) (h1 : WFCfg c1) (h2 : WFCfg c2)
    (h : inpStreamOrdered c1 = inpStreamOrdered c2) : c1 = c2 := by
  obtain ⟨l1, s1, f1, e1, o1⟩ := c1
  obtain ⟨l2, s2, f2, e2, o2⟩ := c2
  obtain ⟨hl1, hf1, he1, ho1⟩ := h1
  obtain ⟨hl2, hf2, he2, ho2⟩ := h2
  have flag : ∀ a b : Bool, ([if a then 1 else 0] : Bytes) = [if b then 1 else 0] → a = b := by decide
  have tOvr : ∀ os, EnvTerm (wStr kwOvr ++ encOvrs os) := fun os => ⟨_, rfl, cont_encOvrs os⟩
  have tEnv : ∀ es os, FilesTerm (wStr kwEnv ++ (encEnvs es ++ (wStr kwOvr ++ encOvrs os))) :=
    fun es os => .inr ⟨kwEnv, _, rfl, kwEnv_nulFree, .inr (by cases es <;> exact ⟨_, .inl rfl⟩)⟩
  -- the stream is read word by word; the keywords are the same on both sides
  unfold inpStreamOrdered at h
  obtain ⟨hl, h⟩ := wStr_split hl1 hl2 h (cont_zero _) (cont_zero _)
  obtain ⟨hs, h⟩ := wBytes_split (List.append_cancel_left h) rfl
  obtain ⟨hf, h⟩ := files_inj f1 f2 _ _ hf1 hf2 (tEnv e1 o1) (tEnv e2 o2) (List.append_cancel_left h)
  obtain ⟨he, h⟩ := envs_inj e1 e2 _ _ he1 he2 (tOvr o1) (tOvr o2) (List.append_cancel_left h)
  have ho := ovrs_inj o1 o2 ho1 ho2 (List.append_cancel_left h)
  cases hl; cases flag _ _ hs; cases hf; cases he; cases ho
  rfl

theorem wf_canon {c : InpCfg} (h : WFCfg c) : WFCfg (canon c) :=
  ⟨h.1, fun f hf => h.2.1 f (List.mem_mergeSort.mp hf), fun e he => h.2.2.1 e (List.mem_mergeSort.mp he),
    fun e he => h.2.2.2 e (List.mem_mergeSort.mp he)⟩

/-- **Injectivity of the input digest's preimage** (partial: `WFCfg` excludes tracked variables
named `__env_overrides__`): two well-formed configurations with the same stream have the same
label, shell flag and the same three finite maps. -/
theorem inp_stream_injective_partial (c1 c2 : InpCfg) (h1 : WFCfg c1) (h2 : WFCfg c2)
    (h : inpStream c1 = inpStream c2) : canon c1 = canon c2 :=
  inp_ordered_injective_partial _ _ (wf_canon h1) (wf_canon h2) h

theorem out_stream_injective (fs gs : List FileE) (h1 : ∀ f ∈ fs, WFFile f)
    (h2 : ∀ g ∈ gs, WFFile g) (h : outStream fs = outStream gs) : sortFiles fs = sortFiles gs := by
  have := files_inj (sortFiles fs) (sortFiles gs) [] []
    (fun f hf => h1 f (by simpa [sortFiles] using hf)) (fun f hf => h2 f (by simpa [sortFiles] using hf))
    (Or.inl rfl) (Or.inl rfl) (by simpa [outStream] using h)
  exact this.1

/-! ## Order independence -/

/-- The input stream depends on its three maps only as maps: any reordering of the entries of a
map (distinct keys) gives the same stream. -/
theorem inp_stream_perm_invariant (c1 c2 : InpCfg) (hl : c1.label = c2.label) (hs : c1.shell = c2.shell)
    (kf : ∀ a ∈ c1.files, ∀ b ∈ c1.files, a.path = b.path → a = b)
    (ke : ∀ a ∈ c1.envs, ∀ b ∈ c1.envs, a.1 = b.1 → a = b)
    (ko : ∀ a ∈ c1.ovr, ∀ b ∈ c1.ovr, a.1 = b.1 → a = b)
    (pf : c1.files.Perm c2.files) (pe : c1.envs.Perm c2.envs) (po : c1.ovr.Perm c2.ovr) :
    inpStream c1 = inpStream c2 := by
  have h1 : sortFiles c1.files = sortFiles c2.files := (mergeSort_key_eq_iff_perm (fun f : FileE => f.path) kf).2 pf
  have h2 : sortEnvs c1.envs = sortEnvs c2.envs := (mergeSort_key_eq_iff_perm (fun e : Bytes × Option Bytes => e.1) ke).2 pe
  have h3 : sortOvrs c1.ovr = sortOvrs c2.ovr := (mergeSort_key_eq_iff_perm (fun e : Bytes × Bytes => e.1) ko).2 po
  have hc : canon c1 = canon c2 := by
    obtain ⟨l1, s1, f1, e1, o1⟩ := c1
    obtain ⟨l2, s2, f2, e2, o2⟩ := c2
    simp only at hl hs h1 h2 h3
    simp only [canon, hl, hs, h1, h2, h3]
  simp only [inpStream, hc]

theorem out_stream_perm_invariant (fs gs : List FileE)
    (kf : ∀ a ∈ fs, ∀ b ∈ fs, a.path = b.path → a = b) (pf : fs.Perm gs) :
    outStream fs = outStream gs := by
  simp only [outStream, show sortFiles fs = sortFiles gs from (mergeSort_key_eq_iff_perm (fun f : FileE => f.path) kf).2 pf]

/-- Conversely two configurations with equal canonical forms are permutations of each other,
so `canon c1 = canon c2` in the injectivity theorems means "equal as finite maps". -/
theorem canon_eq_perm (c1 c2 : InpCfg) (h : canon c1 = canon c2) :
    c1.label = c2.label ∧ c1.shell = c2.shell ∧ c1.files.Perm c2.files ∧ c1.envs.Perm c2.envs ∧
      c1.ovr.Perm c2.ovr := by
  simp only [canon, InpCfg.mk.injEq] at h
  exact ⟨h.1, h.2.1, perm_of_mergeSort_eq _ h.2.2.1, perm_of_mergeSort_eq _ h.2.2.2.1, perm_of_mergeSort_eq _ h.2.2.2.2⟩

/-! ## The full statement for inputs is false: F1 -/

/-- Well-formedness exactly as the property quantifies it, without the extra hypothesis. -/
def WFBasic (c : InpCfg) : Prop :=
  NulFree c.label ∧ (∀ f ∈ c.files, WFFile f) ∧
  (∀ e ∈ c.envs, NulFree e.1 ∧ ∀ w, e.2 = some w → NulFree w) ∧ (∀ e ∈ c.ovr, WFOvr e)

/-- The full-strength statement of input-digest soundness. -/
def InpDigestSoundFull : Prop :=
  ∀ c1 c2, WFBasic c1 → WFBasic c2 → inpStream c1 = inpStream c2 → canon c1 = canon c2

def f1a : InpCfg := ⟨[99], false, [], [(kwOvr, some [88])], []⟩
def f1b : InpCfg := ⟨[99], false, [], [], [([88], kwOvr)]⟩

/-- F1 (known finding): a tracked variable named `__env_overrides__` with value `X`, versus an
override `X = "__env_overrides__"`: different configurations, same stream. -/
theorem inp_keyword_collision_negation : ¬ InpDigestSoundFull := by
  intro h
  have w1 : WFBasic f1a :=
    ⟨by decide, fun _ h => (nomatch h),
      fun e he => by
        rw [List.mem_singleton.mp he]
        exact ⟨kwOvr_nulFree, fun w hw => by cases hw; decide⟩,
      fun _ h => nomatch h⟩
  have w2 : WFBasic f1b :=
    ⟨by decide, fun _ h => (nomatch h), fun _ h => (nomatch h),
      fun e he => by rw [List.mem_singleton.mp he]; exact ⟨by decide, kwOvr_nulFree⟩⟩
  have hs : inpStream f1a = inpStream f1b := by
    simp only [inpStream, canon, f1a, f1b, sortFiles, sortEnvs, sortOvrs, List.mergeSort_nil,
      List.mergeSort_singleton]
    rfl
  have := congrArg InpCfg.envs (h f1a f1b w1 w2 hs)
  simp only [canon, f1a, f1b, sortEnvs, List.mergeSort_nil, List.mergeSort_singleton] at this
  cases this

/-! ## The encoding separates the output collision F2 -/

def f2digest : Bytes :=
  [117, 0, 1, 98, 99, 100, 101, 102, 103, 0, 0, 0, 0, 0, 0, 0, 0, 0, 0, 0, 0, 0, 0, 0, 0, 0, 0, 0, 0, 0, 0, 117]
def f2a : List FileE := [⟨[97], 0, 0, unknownDigest⟩, ⟨[98, 99, 100, 101, 102, 103], 0, 0, unknownDigest⟩]
def f2b : List FileE := [⟨[97], 0, 0, f2digest⟩]

/-- F2: outputs `{a: unknown, bcdefg: unknown}` versus `{a: D}` for the crafted `D`. -/
theorem out_digest_marker_fixed : outStream f2a ≠ outStream f2b := by
  have s1 : sortFiles f2a = f2a := by
    apply List.mergeSort_of_pairwise; simp [f2a]; decide +kernel
  have s2 : sortFiles f2b = f2b := by
    apply List.mergeSort_of_pairwise; simp [f2b]
  simp only [outStream, s1, s2]; decide +kernel

/-! ## `FileHash.refreshed` -/

/-- If the file cannot be stat'ed the result is the unknown hash. -/
theorem refreshed_missing_unknown (h : FileHash) (content : Bytes) :
    (h.refreshed none content).isUnknown = true := by
  show (if h.isUnknown then h else FileHash.unknown).isUnknown = true
  by_cases hu : h.isUnknown = true
  · rw [if_pos hu]; exact hu
  · rw [if_neg hu]; rfl

/-- Whenever mtime, size, inode or mode differs from the record, the result is the hash of the
current file: it compares unequal to the record as soon as content digest, size or mode differ. -/
theorem refreshed_detects_change (h : FileHash) (st : Stat) (content : Bytes)
    (hdiff : h.mode ≠ st.mode ∨ h.mtime ≠ st.mtime ∨ h.size ≠ st.size ∨ h.inode ≠ st.inode) :
    h.refreshed (some st) content = ⟨content, st.mode, st.mtime, st.size, st.inode⟩ ∧
    ((content ≠ h.digest ∨ st.size ≠ h.size ∨ st.mode ≠ h.mode) →
      (h.refreshed (some st) content).same h = false) := by
  have hne : ¬ (h.mode = st.mode ∧ h.mtime = st.mtime ∧ h.size = st.size ∧ h.inode = st.inode) :=
    fun ⟨a, b, c, d⟩ => hdiff.elim (· a) (·.elim (· b) (·.elim (· c) (· d)))
  have hr : h.refreshed (some st) content = ⟨content, st.mode, st.mtime, st.size, st.inode⟩ := if_neg hne
  refine ⟨hr, fun hc => ?_⟩
  rw [hr, FileHash.same, Bool.and_eq_false_iff, Bool.and_eq_false_iff, beq_eq_false_iff_ne,
    beq_eq_false_iff_ne, beq_eq_false_iff_ne]
  exact hc.elim (.inl ∘ .inl) (·.elim .inr (.inl ∘ .inr))

/-- The stated limit of the mechanism: with all four stat fields unchanged the record is kept
without looking at the content. -/
theorem refreshed_same_stat_keeps (h : FileHash) (st : Stat) (content : Bytes)
    (hm : h.mode = st.mode) (ht : h.mtime = st.mtime) (hs : h.size = st.size) (hi : h.inode = st.inode) :
    h.refreshed (some st) content = h := by
  exact if_pos ⟨hm, ht, hs, hi⟩

/-! Non-vacuity: a non-trivial configuration satisfies `WFCfg`. -/
example : WFCfg ⟨[99, 112], true, [⟨[97, 47, 98], 420, 3, unknownDigest⟩], [([72], none), ([80], some [47])],
    [([79], [49])]⟩ := by
  have nf : NulFree [99, 112] ∧ NulFree [97, 47, 98] ∧ NulFree [72] ∧ NulFree [80] ∧ NulFree [47] ∧
      NulFree [79] ∧ NulFree [49] := by decide
  refine ⟨nf.1, fun f hf => ?_, fun e he => ?_, fun e he => ?_⟩
  · rw [List.mem_singleton.mp hf]
    exact ⟨nf.2.1, by decide, by decide, .inl rfl⟩
  · rcases List.mem_cons.mp he with rfl | he
    · exact ⟨nf.2.2.1, fun w hw => (nomatch hw), by decide⟩
    · rw [List.mem_singleton.mp he]
      exact ⟨nf.2.2.2.1, fun w hw => by cases hw; exact nf.2.2.2.2.1, by decide⟩
  · rw [List.mem_singleton.mp he]
    exact ⟨nf.2.2.2.2.2.1, nf.2.2.2.2.2.2⟩

end StepupModel.Props.C13
