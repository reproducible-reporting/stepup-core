import StepupModel.Lemmas.Dispatch
import StepupModel.Lemmas.Restart
import StepupModel.Lemmas.ForIn
import StepupModel.Lemmas.Windows
import StepupModel.B.Exec
/-!
# C03  A step only succeeds on inputs that were final while it ran

Proved here:

* dispatch side (kernel model, on the closed forms of `Lemmas/Dispatch.lean`): a step is dispatched
  only when it is eligible, hence `_ready`, and a step whose readiness holds on the graph has no
  blocking input; the sanity checks of `_derive_job` then do not raise;
* completion side (`B/Exec.lean`, the decision logic of `Executor.execute_job`, tied to the real
  `Executor` by the correspondence in `harness/props/c03.py`): the completion carries a step hash
  (= the kernel records SUCCEEDED) only on inputs that were unchanged at both hash points; a
  changed input fails the step and drains the scheduler, an unavailable/unfresh amended input
  defers it;
* freshness (`B/Windows.lean`, tied to the real `Scheduler` methods): `ran_concurrently`, for all
  event sequences, pruning of `stop_times` and the conservative tie included;
* the amend classification of the kernel model and the `carry_on` decision of the director.

Stated limits: content that changes and changes back between the two hash points is invisible
to the mechanism (ABA); the theorem speaks about the two hash points.  An input that is not
BUILT/CONFIRMED at completion (re-declared and UNCONFIRMED, or OUTDATED because its producer became
pending) is not among the inputs checked then (`completionInputs`), and the records compared at
completion are the current rows, not the ones verified before the command: that is the code's
behaviour (the correspondence confirms it) and the root of the oracle's findings
`succeeded-on-stale-input:input-unchecked-at-completion` and `...:record-updated-during-run`.
That the cached `_ready` column equals its definition for steps that are not flagged is C10's
cache invariant (`C10.cached_ready_agrees_after_every_history`), also sampled by C10's oracle.
-/
namespace StepupModel.Props.C03
open StepupModel.K StepupModel.Generated StepupModel.B

/-! ## Dispatch: a started step has no blocking input -/

/-- What `_ready` means on the graph, for one dependency edge into the step. -/
theorem ready_no_blocking_input (s : KState) (k : Key) (h : s.computeReady k = true) (d : Dep)
    (hd : d ∈ s.deps) (hk : d.snk = k) (n : Node) (hn : s.find? d.src = some n) (hfile : n.key.kind = .file) :
    n.fstate ≠ .volatile ∧
    (d.dyn = false → n.detached = false ∧ (n.fstate = .built ∨ n.fstate = .confirmed)) ∧
    (d.dyn = true → n.detached = false → n.fstate ≠ .planned ∧ n.fstate ≠ .outdated) := by
  obtain ⟨h1, h2, h3⟩ :=
    ReadyDisc.noUnavailableInput_spec ((ReadyDisc.computeReady_true_iff s k).1 h) d hd hk n hn hfile
  exact ⟨h1, h2, fun hdyn hdet => ⟨fun e => h3 hdyn ⟨hdet, .inl e⟩, fun e => h3 hdyn ⟨hdet, .inr e⟩⟩⟩

/-- The sanity checks of `Scheduler._derive_job` never raise for a step that is ready on the
graph: dispatch cannot fail internally on a step it selected. -/
theorem derive_job_no_consistency_error (s : KState) (k : Key) (h : s.computeReady k = true) :
    ∃ b, s.deriveJob k = .ok b := by
  unfold KState.deriveJob
  apply bind_ok_of_ok
  · apply forIn_except_ok
    intro d hdm init
    rw [List.mem_filter] at hdm
    cases hf : s.find? d.src with
    | none => exact ⟨_, rfl⟩
    | some f =>
      by_cases hfile : f.key.kind = .file
      · obtain ⟨hv, hinit, hdyn⟩ := ready_no_blocking_input s k h d hdm.1 (of_decide_eq_true hdm.2) f hf hfile
        by_cases hok : !f.detached ∧ (f.fstate = .built ∨ f.fstate = .confirmed)
        · simp only [hfile, hv, hok, ne_eq, not_true_eq_false, if_false, if_true, bind, Except.bind, pure,
            Except.pure, and_self]
          exact ⟨_, rfl⟩
        · cases hd' : d.dyn with
          | false => exact absurd ⟨by simp [(hinit hd').1], (hinit hd').2⟩ hok
          | true =>
            have hnp : ¬ (!f.detached ∧ (f.fstate = .planned ∨ f.fstate = .outdated)) :=
              fun ⟨h1, h2⟩ => h2.elim (hdyn hd' (by simpa using h1)).1 (hdyn hd' (by simpa using h1)).2
            simp only [hfile, hv, hok, hnp, ne_eq, not_true_eq_false, if_false, if_true, bind, Except.bind, pure,
              Except.pure]
            exact ⟨_, rfl⟩
      · simp only [hfile, ne_eq, not_false_eq_true, if_true, bind, Except.bind, pure, Except.pure]
        exact ⟨_, rfl⟩
  · intro r
    exact ⟨_, rfl⟩

/-- **A step's command never starts before its inputs are available**: whatever `pop_next_job`
dispatches was eligible in the state with refreshed metadata; an eligible step is PENDING,
attached and `_ready`. -/
theorem dispatched_step_is_ready (s s' : KState) (cfg : KConfig) (choice : Option Key) (k : Key) (chk run : Bool)
    (h : s.popNext cfg choice = .ok (s', .job k chk run)) :
    ∃ su, s.updateMeta cfg = .ok su ∧ ∃ n ∈ su.nodes, n.key = k ∧ n.sstate = .pending ∧ n.detached = false ∧
      n.deferred = false ∧ n.ready = true := by
  obtain ⟨su, n, hsu, hn, hkey, helig, _⟩ := popNext_job h
  obtain ⟨_, hp, hdet, hdef, hready, _⟩ := (eligible_iff su cfg n).1 helig
  exact ⟨su, hsu, n, hn, hkey, hp, hdet, hdef, hready⟩

/-- `_update_meta_ready` makes the cached column equal to the definition for every flagged step,
so for those the two theorems above compose: a dispatched step that was flagged has no blocking
input in the very state in which it is dispatched.  (For unflagged steps the equality is C10's
cache invariant.) -/
theorem dispatch_inputs_available (s : KState) (n : Node) (hn : n ∈ s.nodes) (hk : n.key.kind = .step)
    (hflag : n.checkReady = true) :
    ∃ n' ∈ s.updateMetaReady.nodes, n'.key = n.key ∧
      (n'.ready = true → ∀ d ∈ s.updateMetaReady.deps, d.snk = n.key → ∀ f, s.updateMetaReady.find? d.src = some f →
        f.key.kind = .file → d.dyn = false → f.detached = false ∧ (f.fstate = .built ∨ f.fstate = .confirmed)) := by
  refine ⟨_, updateMetaReady_flagged s n hn hk hflag, rfl, ?_⟩
  intro hr d hd hsnk f hf hfile hdyn
  have hc : s.updateMetaReady.computeReady n.key = true := (computeReady_updateMetaReady s n.key).trans hr
  exact (ready_no_blocking_input s.updateMetaReady n.key hc d hd hsnk f hf hfile).2.1 hdyn

/-! ## Completion: SUCCEEDED only on stable inputs -/

open Exec

theorem changedInputs_nil (rec : Hashes) (disk : Disk) (h : changedInputs rec disk = []) :
    ∀ e ∈ rec, diskHash disk e.1 = some e.2 := by
  intro e he
  unfold changedInputs at h
  rw [List.map_eq_nil_iff, List.filter_eq_nil_iff] at h
  have := h e he
  simpa using this

theorem missingOutputs_nil (outs : List String) (disk : Disk) (h : missingOutputs outs disk = []) :
    ∀ p ∈ outs, (diskHash disk p).isSome := by
  intro p hp
  unfold missingOutputs at h
  have := List.filter_eq_nil_iff.1 h p hp
  cases hx : diskHash disk p <;> simp_all

/-- The changed inputs are handed on as they are, in every row of `_classify_execution`. -/
theorem classify_failedInputs (run : Run) (nh : Option Nat) (l : List String) : (classify run nh l).failedInputs = l := by
  unfold classify
  simp only [apply_ite Classified.failedInputs, ite_self]
  cases l <;> rfl

/-- Only the last row of `_classify_execution` keeps the hash. -/
theorem classify_hash_isSome {run : Run} {nh : Option Nat} {l : List String} (h : (classify run nh l).hash.isSome) :
    l = [] ∧ run.unavailable = [] ∧ run.unfresh = [] ∧ run.success = true ∧
      classify run nh l = { run := run, hash := nh, wantsDefer := false, failedInputs := [] } := by
  unfold classify at h ⊢
  dsimp only at h ⊢
  by_cases h1 : (!l.isEmpty) = true
  · rw [if_pos h1] at h; cases h
  by_cases h2 : (!run.unavailable.isEmpty || !run.unfresh.isEmpty) = true
  · rw [if_neg h1, if_pos h2] at h; cases h
  by_cases h3 : (!run.success) = true
  · rw [if_neg h1, if_neg h2, if_pos h3] at h; cases h
  rw [if_neg h1, if_neg h2, if_neg h3]
  simp only [Bool.not_eq_true, Bool.not_eq_false', Bool.or_eq_false_iff, List.isEmpty_iff] at h1 h2 h3
  exact ⟨h1, h2.1, h2.2, h3, rfl⟩

theorem runAfterCommand_success {sc : Scenario} (h : (runAfterCommand sc).success = true) :
    sc.deferCalled = false ∧ sc.rc = 0 := by
  unfold runAfterCommand at h
  split at h
  · cases h
  · exact ⟨Bool.eq_false_iff.2 ‹_›, eq_of_beq h⟩

/-- **The completion request records SUCCEEDED only if** the command returned 0, no hash
computation was cancelled, every input recorded at dispatch had its recorded content on disk
before the command ran, every input that is BUILT/CONFIRMED at completion has its recorded
content on disk after the command ran, every output exists, and no `amend` of this run returned
an unavailable or unfresh input. -/
theorem success_requires_stable_inputs (sc : Scenario) (h : (executeJob sc).hash.isSome) :
    sc.cancelledPre = false ∧ sc.cancelledPost = false ∧ sc.rc = 0 ∧ sc.deferCalled = false ∧
    (∀ e ∈ sc.dispatchInputs, diskHash sc.diskPre e.1 = some e.2) ∧
    (∀ e ∈ sc.completionInputs, diskHash sc.diskPost e.1 = some e.2) ∧
    (∀ p ∈ sc.outputs, (diskHash sc.diskPost p).isSome) ∧
    (executeJob sc).hash = some sc.stepHash ∧ (executeJob sc).wantsDefer = false := by
  unfold executeJob at h ⊢
  by_cases h1 : sc.cancelledPre = true
  · rw [if_pos h1] at h; cases h
  by_cases h2 : (!(changedInputs sc.dispatchInputs sc.diskPre).isEmpty) = true
  · rw [if_neg h1, if_pos h2] at h; cases h
  by_cases h3 : sc.cancelledPost = true
  · rw [if_neg h1, if_neg h2, if_pos h3] at h
    cases (classify_hash_isSome h).2.2.2.1
  rw [if_neg h1, if_neg h2, if_neg h3] at h ⊢
  dsimp only at h ⊢
  obtain ⟨hin, _, _, hs, hc⟩ := classify_hash_isSome h
  simp only [Bool.and_eq_true, List.isEmpty_iff] at hs
  obtain ⟨hdef, hrc⟩ := runAfterCommand_success hs.1.1
  rw [hc, hin]
  simp only [Bool.not_eq_true, Bool.not_eq_false', List.isEmpty_iff] at h1 h2 h3
  exact ⟨h1, h3, hrc, hdef, changedInputs_nil _ _ h2, changedInputs_nil _ _ hin, missingOutputs_nil _ _ hs.2, rfl, rfl⟩

/-- **An input that changes underneath a running step makes it fail and stops dispatch**
(pre-run check): nothing is executed, the step is completed without hash and without deferral,
the changed inputs are reported to the workflow with cause FAILED, the scheduler drains. -/
theorem changed_before_run_fails_and_drains (sc : Scenario) (hc : sc.cancelledPre = false)
    (hch : changedInputs sc.dispatchInputs sc.diskPre ≠ []) :
    (executeJob sc).ranCommand = false ∧ (executeJob sc).hash = none ∧ (executeJob sc).wantsDefer = false ∧
      (executeJob sc).failedInputs = applicable sc (changedInputs sc.dispatchInputs sc.diskPre) ∧
      (executeJob sc).drainUnexpected = true := by
  have hne : (changedInputs sc.dispatchInputs sc.diskPre).isEmpty = false := by
    cases hx : (changedInputs sc.dispatchInputs sc.diskPre).isEmpty with
    | true => exact absurd (List.isEmpty_iff.1 hx) hch
    | false => rfl
  unfold executeJob
  simp [hc, hne]

/-- The same for the post-run check: whatever the command returned and whatever `amend` said, a
changed input means FAILED (no deferral), the input marked, draining, and the report tag FAIL. -/
theorem changed_during_run_fails_and_drains (sc : Scenario) (hc : sc.cancelledPre = false)
    (hpre : changedInputs sc.dispatchInputs sc.diskPre = []) (hc2 : sc.cancelledPost = false)
    (hch : changedInputs sc.completionInputs sc.diskPost ≠ []) :
    (executeJob sc).ranCommand = true ∧ (executeJob sc).hash = none ∧ (executeJob sc).wantsDefer = false ∧
      (executeJob sc).failedInputs = applicable sc (changedInputs sc.completionInputs sc.diskPost) ∧
      (executeJob sc).drainUnexpected = true ∧ tag (executeJob sc) false = "FAIL" ∧
      (executeJob sc).outCause = some false := by
  have hne : (changedInputs sc.completionInputs sc.diskPost).isEmpty = false := by
    cases hx : (changedInputs sc.completionInputs sc.diskPost).isEmpty with
    | true => exact absurd (List.isEmpty_iff.1 hx) hch
    | false => rfl
  unfold tag executeJob
  simp [hc, hpre, hc2, hne, classify]

/-- The changed inputs that are recorded with cause FAILED are rows that are still BUILT or
CONFIRMED in the recording transaction (findings `build-error:hash-update-FAILED-on-*`):
nothing that another request re-declared or marked MISSING meanwhile is written. -/
theorem failed_update_only_recordable (sc : Scenario) :
    ∀ p ∈ (executeJob sc).failedInputs, p ∉ sc.notRecordable := by
  have key : ∀ l : List String, ∀ p ∈ applicable sc l, p ∉ sc.notRecordable := by
    intro l p hp
    unfold applicable at hp
    rw [List.mem_filter] at hp
    simpa using hp.2
  intro p hp
  unfold executeJob at hp
  simp only [apply_ite Completion.failedInputs, classify_failedInputs] at hp
  split at hp
  · cases hp
  split at hp
  · exact key _ p hp
  split at hp
  · cases hp
  · exact key _ p hp

/-- For a BUILT or CONFIRMED row the hash-transition table has an entry with cause FAILED whether the
new hash is known or not, so that update cannot raise "Unexpected file hash update" (regenerated
table). -/
theorem failed_update_has_transition :
    ∀ st ∈ [FileState.built, FileState.confirmed], ∀ known : Bool, (lookupTransition .failed st known).isSome := by
  decide

/-- **An announced input that is missing or not fresh makes the step run again later instead of
succeed**: with unchanged inputs, a non-empty `unavailable`/`unfresh` set completes the step
without hash and with `wants_defer`, does not drain, and the report tag is DEFERRED unless the
defer cap interrupts. -/
theorem amend_unavailable_defers (sc : Scenario) (hc : sc.cancelledPre = false)
    (hpre : changedInputs sc.dispatchInputs sc.diskPre = []) (hc2 : sc.cancelledPost = false)
    (hpost : changedInputs sc.completionInputs sc.diskPost = []) (hd : sc.deferCalled = true)
    (hu : sc.amendUnavailable ≠ [] ∨ sc.amendUnfresh ≠ []) :
    (executeJob sc).hash = none ∧ (executeJob sc).wantsDefer = true ∧ (executeJob sc).drainUnexpected = false ∧
      tag (executeJob sc) false = "DEFERRED" ∧ tag (executeJob sc) true = "FAIL" := by
  have hw : (!sc.amendUnavailable.isEmpty || !sc.amendUnfresh.isEmpty) = true := by simpa using hu
  have hr : runAfterCommand sc =
      { success := false, unavailable := sc.amendUnavailable, unfresh := sc.amendUnfresh } := by
    simp [runAfterCommand, hd]
  unfold tag executeJob
  simp [hc, hpre, hc2, hpost, classify, hr, hw]

/-- A completion without a step hash never records SUCCEEDED in the kernel: the state written is
PENDING (granted deferral) or FAILED, and nothing after it touches the state. -/
theorem completion_without_hash_not_succeeded (s s' : KState) (cfg : KConfig) (k : Key) (wd b : Bool)
    (h : s.markCompleted cfg k none wd = .ok (s', b)) : s'.sstateOf k ≠ some .succeeded := by
  obtain ⟨_, hst⟩ | ⟨_, hn, _⟩ := markCompleted_ok h
  · exact fun e => (completeFailure_sstate hst _ e).elim (nomatch ·) (nomatch ·)
  · cases hn

/-! ## `amend`: what is accepted as an input -/

theorem avail_available {i : Supply} (h : i.avail = .available) :
    i.detached = false ∧ (i.state = .built ∨ i.state = .confirmed) := by
  unfold Supply.avail at h
  by_cases h1 : i.detached = true
  · rw [if_pos h1] at h; cases h
  by_cases h2 : i.state = .unconfirmed
  · rw [if_neg h1, if_pos h2] at h; cases h
  by_cases h3 : i.state = .built ∨ i.state = .confirmed
  · exact ⟨Bool.eq_false_iff.2 h1, h3⟩
  · rw [if_neg h1, if_neg h2, if_neg h3] at h; cases h

/-- An input that `Workflow.amend_step` puts in none of its three lists (unavailable, to be
confirmed, unfresh) is attached and either CONFIRMED, or BUILT by a producer for which
`ran_concurrently` is false. -/
theorem amend_accepts_only_final (s : KState) (infos : List Supply) (concurrent : List Key) (i : Supply)
    (hi : i ∈ infos)
    (h1 : i.file.label ∉ (s.amendClassify infos concurrent).unavailable)
    (h2 : i.file.label ∉ (s.amendClassify infos concurrent).toCheck)
    (h3 : i.file.label ∉ (s.amendClassify infos concurrent).unfresh) :
    i.detached = false ∧ (i.state = .confirmed ∨
      (i.state = .built ∧ ∀ p, (s.find? i.file).bind (·.creator) = some p → p.kind = .step → s.has p = true →
        p ∉ concurrent)) := by
  unfold KState.amendClassify at h1 h2 h3
  simp only [sortStrs, List.mem_mergeSort, List.mem_map, List.mem_filter, not_exists, not_and] at h1 h2 h3
  have hav : i.avail = .available := by
    cases hx : i.avail with
    | available => rfl
    | unconfirmed => exact absurd rfl (h2 i ⟨hi, decide_eq_true hx⟩)
    | unavailable => exact absurd rfl (h1 i ⟨hi, decide_eq_true hx⟩)
  obtain ⟨hdet, hbc⟩ := avail_available hav
  refine ⟨hdet, hbc.symm.imp_right fun hb => ⟨hb, fun p hp hkind hhas hmem => h3 i ⟨hi, ?_⟩ rfl⟩⟩
  simp [hav, hb, hp, hkind, hhas, hmem]

/-- `carry_on` of `DirectorHandler.amend_step` is true only if the workflow reported nothing
unavailable or unfresh and every input that had to be confirmed first ended CONFIRMED or BUILT:
the handler does not let the step continue on an input that is still UNCONFIRMED. -/
theorem amend_carry_on_iff (u f : List String) (checked : List (String × CheckedState)) :
    (amendCarryOn u f checked).1 = true ↔ u = [] ∧ f = [] ∧ ∀ e ∈ checked, e.2 ≠ .other := by
  unfold amendCarryOn
  simp only [Bool.and_eq_true, List.isEmpty_iff, List.append_eq_nil_iff, List.map_eq_nil_iff,
    List.filter_eq_nil_iff, decide_eq_true_eq]
  constructor
  · rintro ⟨⟨h1, h2⟩, h3⟩; exact ⟨h1, h3, h2⟩
  · rintro ⟨h1, h2, h3⟩; exact ⟨⟨h1, h3⟩, h2⟩

/-! ## Freshness: `ran_concurrently` for all event sequences -/

open Windows

/-- `c` keeps running with the start it has recorded: no new start or stop of `c`, no end of
the build phase. -/
def KeepsRunning (c : Nat) (post : List Ev) : Prop :=
  ∀ e ∈ post, (∀ t, e ≠ .start c t) ∧ (∀ ok t, e ≠ .stop c ok t) ∧ e ≠ .phaseEnd

def FreshStop (s : Sched) (p tc : Nat) : Prop := ∃ tp, lookup s.stops p = some tp ∧ tc ≤ tp

theorem window_step (c p tc : Nat) (s0 : Sched) (e : Ev) (hc : lookup s0.starts c = some tc)
    (h1 : ∀ t, e ≠ .start c t) (h2 : ∀ ok t, e ≠ .stop c ok t) (h3 : e ≠ .phaseEnd)
    (hlate : ∀ t, e.time? = some t → tc ≤ t) :
    lookup (step s0 e).starts c = some tc ∧
      (((∃ t, e = .stop p true t) ∨ FreshStop s0 p tc) → FreshStop (step s0 e) p tc) := by
  cases e with
  | phaseEnd => exact absurd rfl h3
  | start i t =>
    have hic : c ≠ i := fun e => h1 t (by rw [e])
    exact ⟨(lookup_set_ne _ _ _ _ hic).trans hc, fun h => h.elim (fun ⟨_, ht'⟩ => nomatch ht') id⟩
  | stop i ok t =>
    have hic : c ≠ i := fun e => h2 ok t (by rw [e])
    have hstart : lookup (erase s0.starts i) c = some tc := (lookup_erase_ne _ _ _ hic).trans hc
    obtain ⟨oldest, hmin⟩ := minTime_some_of_mem _ _ (mem_of_lookup _ _ _ hstart)
    have hold : oldest ≤ tc := minTime_le _ _ hmin _ (mem_of_lookup _ _ _ hstart)
    have htc : tc ≤ t := hlate t rfl
    refine ⟨hstart, ?_⟩
    intro hgood
    show ∃ tp, lookup (prune (erase s0.starts i) (if ok = true then set s0.stops i t else s0.stops)) p = some tp ∧ tc ≤ tp
    unfold prune
    rw [hmin]
    by_cases hpi : i = p ∧ ok = true
    · obtain ⟨rfl, rfl⟩ := hpi
      exact ⟨t, lookup_dropOlder _ _ _ _ (by simp [lookup_set_self]) (by omega), htc⟩
    · obtain ⟨tp, htp, hle⟩ : FreshStop s0 p tc :=
        hgood.elim (fun ⟨_, ht'⟩ => by cases ht'; exact absurd ⟨rfl, rfl⟩ hpi) id
      refine ⟨tp, lookup_dropOlder _ _ _ _ ?_ (by omega), hle⟩
      cases hok : ok with
      | false => simpa using htp
      | true =>
        have hne : p ≠ i := fun e => hpi ⟨e.symm, hok⟩
        simp only [if_true]
        rw [lookup_set_ne _ _ _ _ hne]; exact htp

theorem window_invariant (c p tc : Nat) (post : List Ev) :
    ∀ (s0 : Sched), lookup s0.starts c = some tc → KeepsRunning c post →
      (∀ e ∈ post, ∀ t, e.time? = some t → tc ≤ t) →
      lookup (run s0 post).starts c = some tc ∧
        (((∃ t, Ev.stop p true t ∈ post) ∨ FreshStop s0 p tc) → FreshStop (run s0 post) p tc) := by
  induction post with
  | nil =>
    exact fun s0 hc _ _ => ⟨hc, fun h => h.elim (fun ⟨_, ht⟩ => nomatch ht) id⟩
  | cons e rest ih =>
    intro s0 hc hkeep hlate
    obtain ⟨k1, k2, k3⟩ := hkeep e List.mem_cons_self
    obtain ⟨hc1, hgood1⟩ := window_step c p tc s0 e hc k1 k2 k3 (hlate e List.mem_cons_self)
    obtain ⟨hc2, hgood2⟩ := ih (step s0 e) hc1 (fun e' he' => hkeep e' (List.mem_cons_of_mem _ he'))
      (fun e' he' => hlate e' (List.mem_cons_of_mem _ he'))
    refine ⟨hc2, fun hg => hgood2 ?_⟩
    rcases hg with ⟨t, ht⟩ | hf
    · rcases List.mem_cons.mp ht with rfl | hin
      · exact Or.inr (hgood1 (Or.inl ⟨t, rfl⟩))
      · exact Or.inl ⟨t, hin⟩
    · exact Or.inr (hgood1 (Or.inr hf))

/-- **Freshness of an amended input.**  For every sequence of `record_run_started` /
`record_run_stopped` / end-of-phase events with a clock that never goes back: if, while the
consumer `c` is running (it started at `tc` and has not stopped), `ran_concurrently(p, c)` is
false, then the producer `p` has not completed successfully since `c` started.  So a BUILT input
that `amend` accepts as fresh was finished before the consumer's command began; pruning of
`stop_times` never hides a completion that matters, and a tie of the two time stamps counts as
concurrent. -/
theorem amend_fresh (pre post : List Ev) (c p tc : Nat) (hkeep : KeepsRunning c post)
    (hlate : ∀ e ∈ post, ∀ t, e.time? = some t → tc ≤ t)
    (hfresh : ranConcurrently (run {} (pre ++ [.start c tc] ++ post)) p c = false) :
    ∀ t, Ev.stop p true t ∉ post := by
  intro t hmem
  have hrun : run {} (pre ++ [.start c tc] ++ post) = run (recordStarted (run {} pre) c tc) post := by
    unfold run
    rw [List.foldl_append, List.foldl_append]
    rfl
  rw [hrun] at hfresh
  have hc0 : lookup (recordStarted (run {} pre) c tc).starts c = some tc := lookup_set_self _ _ _
  obtain ⟨hc, hgood⟩ := window_invariant c p tc post _ hc0 hkeep hlate
  obtain ⟨tp, htp, hle⟩ := hgood (Or.inl ⟨t, hmem⟩)
  unfold ranConcurrently at hfresh
  rw [htp, hc] at hfresh
  simp [hle] at hfresh

/-- A clock that never goes back gives the lateness hypothesis of `amend_fresh`. -/
theorem late_of_monotone (pre post : List Ev) (c tc : Nat)
    (hmono : (pre ++ [Ev.start c tc] ++ post).Pairwise
      (fun a b => ∀ ta tb, a.time? = some ta → b.time? = some tb → ta ≤ tb)) :
    ∀ e ∈ post, ∀ t, e.time? = some t → tc ≤ t := by
  intro e he t ht
  have := (List.pairwise_append.1 hmono).2.2 (Ev.start c tc) (by simp) e he
  exact this tc t rfl ht

example : ranConcurrently (run {} [.start 1 10, .start 2 11, .stop 1 true 12]) 1 2 = true := by decide
example : ranConcurrently (run {} [.start 1 10, .start 3 10, .stop 1 true 11, .start 2 12]) 1 2 = false := by decide
example : ranConcurrently (run {} [.start 1 10, .start 3 10, .stop 1 true 12, .start 2 12]) 1 2 = true := by decide

def okScenario : Scenario :=
  { dispatchInputs := [("a", 1)], diskPre := [("a", 1)], completionInputs := [("a", 1)], outputs := ["o"],
    diskPost := [("a", 1), ("o", 5)], stepHash := 9 }
example : (executeJob okScenario).hash = some 9 := by decide
example : (executeJob { okScenario with diskPost := [("a", 2), ("o", 5)] }).hash = none ∧
    (executeJob { okScenario with diskPost := [("a", 2), ("o", 5)] }).drainUnexpected = true := by decide

end StepupModel.Props.C03
