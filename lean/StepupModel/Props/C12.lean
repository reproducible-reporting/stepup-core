import StepupModel.Lemmas.Resources
import StepupModel.Lemmas.ResourcesHold
import StepupModel.Lemmas.JobLoopInv
import StepupModel.Generated.JobLoop
import StepupModel.Lemmas.BuildWitness
/-!
# C12  Job, resource and hold limits are never exceeded

Kernel part (dispatch decision and hold counter) and the job slots of `Builder.job_loop`
(`B/JobLoop.lean`, for every sequence of scheduler answers, hash submissions and task endings).  The
overlap of real command executions in time is also observed on simulated builds
(`harness/props/c12.py`).
-/
namespace StepupModel.Props.C12
open StepupModel.K StepupModel.Generated StepupModel.Props

/-- Units of resource `name` held by RUNNING steps (attached or not), as `RESOURCE_UNAVAILABLE`
sums them.  This is `Resources.used s name` (`Lemmas/Resources.lean`) with `unitsIn` inlined, by `rfl`. -/
def usedBy (s : KState) (name : String) : Nat :=
  (s.nodes.filter fun m => m.key.kind = .step ∧ m.sstate = .running).foldl
    (fun acc m => acc + ((m.resources.filter (·.1 = name)).foldl (fun a r => a + r.2) 0)) 0

/-- A step that passes the resource test requires only defined resources, and what it requires
fits next to what the RUNNING steps already hold. -/
theorem resources_fit (s : KState) (cfg : KConfig) (n : Node) (h : s.resourceUnavailable cfg n = false)
    (name : String) (units : Nat) (hr : (name, units) ∈ n.resources) :
    ∃ avail, cfg.available.find? (·.1 = name) = some (name, avail) ∧ usedBy s name + units ≤ avail :=
  StepupModel.K.Resources.resourceUnavailable_false_iff.1 h (name, units) hr

/-- A step dispatched to *run its command* (no stored hash) has all its named resources defined
and free at the moment of dispatch; a step that requires an undefined resource is never run. -/
theorem run_dispatch_respects_resources (s : KState) (cfg : KConfig) (n : Node)
    (h : s.eligible cfg n = true) (hrun : n.hasHash = false) (name : String) (units : Nat)
    (hr : (name, units) ∈ n.resources) :
    ∃ avail, cfg.available.find? (·.1 = name) = some (name, avail) ∧ usedBy s name + units ≤ avail :=
  resources_fit s cfg n (eligible_run h hrun).2 name units hr

/-- A step dispatched to run its command is `_safe`: none of its creators holds it back (given the
cache invariant of C10, `_safe` is the from-scratch definition, which consults `_holding` of
every step of the creator chain).  Only the hash check of a step with a stored hash may bypass a
hold, and a hash check runs no command. -/
theorem hold_blocks_run (s : KState) (cfg : KConfig) (n : Node)
    (h : s.eligible cfg n = true) (hrun : n.hasHash = false) : n.safe = true :=
  (eligible_run h hrun).1

/-- `release()` without a matching `hold()` is rejected and changes nothing. -/
theorem release_without_hold_rejected (s : KState) (k : Key) (n : Node)
    (hn : s.find? k = some n) (h0 : n.holding = 0) : ∃ msg, s.release k = .error (.graph msg) := by
  refine ⟨"release without hold", ?_⟩
  unfold KState.release
  simp [hn, h0]
  rfl

/-- Leaving RUNNING for any state resets the hold counter (trigger `step_reset_holding`), so a
failure inside a hold block cannot keep descendants blocked by a step that no longer runs. -/
theorem leaving_running_releases (n n' : Node) (st : StepState) (d : Option Bool)
    (h : stepRowWrite n st d = .ok n') (hst : st ≠ .running) : n'.holding = 0 := by
  rw [stepRowWrite_eq h]
  exact if_pos hst

/-! ## The job limit: `Builder.job_loop` -/

open StepupModel.B.JobLoop in
/-- **At no instant are more tasks in `running_tasks` than the job limit**, for every job limit and
every sequence of events (jobs offered by the scheduler, hash jobs submitted or promoted, tasks
ending normally or with an exception, phases started), observed after every event. -/
theorem job_limit_never_exceeded (njob : Nat) (evs : List Ev) :
    (run njob evs).running.length ≤ njob :=
  (run_jobLimit njob evs).1

/-- Obligation on the source of `Builder.job_loop` (table regenerated by `ast` on every run): both
places that start a task are guarded by the strict comparison `len(self.running_tasks) < self.njob`
that `B/JobLoop.iter` models, and no other code in the package starts a task of the builder. -/
theorem job_loop_guards_as_modelled :
    Generated.jobLoopGuards = [("Lt", "start_hash_task"), ("Lt", "start_task")] ∧
    Generated.jobLoopStartSites = (2, 2) := by decide

open StepupModel.B.JobLoop in
/-- In particular the step jobs (the only ones that start a command) among the running tasks. -/
theorem running_commands_within_job_limit (njob : Nat) (evs : List Ev) :
    ((run njob evs).running.filter fun j => match j with | .step _ => true | .hash _ => false).length ≤ njob :=
  Nat.le_trans (List.length_filter_le _ _) (job_limit_never_exceeded njob evs)

open StepupModel.B.JobLoop in
/-- Work outside the budget (`run_promoted_hash_jobs`) consists of hash jobs only: it starts no
command.  (By construction of the state: `promoted` holds hash-job ids; the statement records that a
promoted job never enters `running`/`started` as a step.) -/
theorem promoted_work_is_hashing (s : JL) (p : Nat) :
    (apply s (.promote p)).running = s.running ∧ (apply s (.promote p)).started = s.started :=
  ⟨(apply_tasks s (.promote p)).elim (·.1) fun ⟨_, _, h, _⟩ => h.elim nofun nofun, (apply_frame s _).2.1⟩

open StepupModel.B.JobLoop in
/-- Every job the loop started is running, waits to be retired or has been handled: no task is lost
and none is counted twice. -/
theorem started_jobs_accounted_for (njob : Nat) (evs : List Ev) (j : Job) :
    (run njob evs).started.count j =
      (run njob evs).handled.count j + ((run njob evs).done.map Prod.fst).count j + (run njob evs).running.count j :=
  run_accounted njob evs j

open StepupModel.B.JobLoop in
/-- `record_job_completed` is called at most once per started task of a step job, and when the
phase ends without an exception exactly once: the scheduler's resource and slot bookkeeping sees every
completion. -/
theorem completions_reported_once (njob : Nat) (evs : List Ev) (i : Nat) :
    (run njob evs).retired.count i ≤ (run njob evs).started.count (.step i) ∧
    ((run njob evs).status = .returned → (run njob evs).draining = false →
      (run njob evs).retired.count i = (run njob evs).started.count (.step i)) := by
  obtain ⟨h1, h2⟩ := run_reported njob evs i
  have ha := run_accounted njob evs (.step i)
  refine ⟨by omega, fun hr hd => ?_⟩
  obtain ⟨e1, e2⟩ := run_retIdle njob evs hr
  rw [e1, e2] at ha
  simp only [List.map_nil, List.count_nil] at ha
  rw [h2 hd]; omega

open StepupModel.B.JobLoop in
example : (run 2 [.offer 1, .offer 2, .offer 3, .start]).running = [.step 1, .step 2] ∧
    (run 2 [.offer 1, .offer 2, .offer 3, .start]).status = .waiting ∧
    (run 2 [.offer 1, .offer 2, .offer 3, .start, .fin (.step 1)]).running = [.step 2, .step 3] ∧
    (run 2 [.offer 1, .offer 2, .offer 3, .start, .fin (.step 1)]).retired = [1] := by decide

/-! ## The composed build phase: job loop × kernel (`B/Build.lean`) -/

open StepupModel.B.Build in
/-- **The job limit in the composed system** (the scheduler of the job loop is the kernel's
`pop_next_job`, jobs issue kernel requests while they run and end with a final transaction): from any
kernel state, for every job limit, configuration and event sequence, at most `njob` tasks are in
`running_tasks`. -/
theorem composed_job_limit (k0 : KState) (cfg : KConfig) (njob : Nat) (evs : List Ev) :
    (run k0 cfg njob evs).jl.running.length ≤ njob :=
  (run_jobLimit k0 cfg njob evs).1

open StepupModel.B.Build in
/-- **The commands that run are the commands of tasks in `running_tasks`.**  From a kernel state without
RUNNING steps, for legal event sequences (no request sets a step RUNNING behind the scheduler's back) in
which every job's final transaction is accepted and settles its step (`finishOK_of_settling`: true of every
ending the executor has): every step whose row is RUNNING is the step of a job that `pop_next_job` handed
out to run its command and whose task is in `running_tasks`; there are at most `njob` of those
(`composed_job_limit`).  This connects "tasks in the builder" with "steps whose command runs", the
subject of the property, and with the rows that `resources_never_overcommitted_partial` sums over. -/
theorem running_steps_are_running_tasks (k0 : KState) (cfg : KConfig) (njob : Nat) (evs : List Ev)
    (h0 : ∀ n ∈ k0.nodes, StepupModel.K.Resources.runs n = false) (hl : ∀ e ∈ evs, e.legal)
    (hf : FinishOKAlong (init k0 cfg njob) evs) :
    InFlightLink (run k0 cfg njob evs) :=
  run_inFlightLink k0 cfg njob evs h0 hl hf

open StepupModel.B.Build StepupModel.B.Build.Recreate StepupModel.B.JobLoop StepupModel.K.Resources in
/-- **Known finding C12 `resource-limit-exceeded:running-step-recreated`: the converse of
`running_steps_are_running_tasks` is FALSE**, and so is "at most one command per step" (kernel-checked on the
composed model; replayed on the real CLI by `harness/repro/c12_running_step_recreated.py` and on the simulated
director by `props/c12.py` `recreated_running_case`).

State `r0` satisfies the link in both directions (`KernelLink`, `InFlightLink`, and the converses `FlightRows`,
`OneJobPerStep`): step `X` (one unit of `token`, one available) is RUNNING and detached, job 2 (`X`) and job 3
(its creator `S`, a planning script that is executed again and has called `reset_for_rerun`) are in flight.
Two legal, accepted events follow.  `e1`: job 3 declares `X` again with a different input list; `can_recycle`
is false, `define_step` creates the step anew and its row is PENDING while the command of job 2 still runs
(`¬ FlightRows`; no RUNNING row holds `token`).  `e2`: the next pass of the job loop hands out `X` again as job
4; two jobs of one step are in `running_tasks` (`¬ OneJobPerStep`), two commands that require the single unit
run and the RUNNING rows account for one.  `running_steps_are_running_tasks` and `composed_job_limit` are not
contradicted (they hold in all three states); `resources_never_overcommitted_partial` neither: it counts
RUNNING rows, not commands.  (`hl`: the one string computation of `define_step` the kernel cannot evaluate,
`Step.adjust_label("X", ".") = "X"`.) -/
theorem one_command_per_step_negation (hl : stepLabel "X" "." = some "X") :
    (KernelLink r0 ∧ InFlightLink r0 ∧ FlightRows r0 ∧ OneJobPerStep r0) ∧
    (r0.k.find? X = some xRow ∧ xRow.sstate = .running ∧ xRow.detached = true ∧
      r0.jobs = [(2, X, false), (3, S, false)] ∧ r0.jl.running = [.step 2, .step 3]) ∧
    (e1.legal ∧ e2.legal ∧ FinishOK r0 e1 ∧ FinishOK (step r0 e1) e2) ∧
    ((step r0 e1).jobs = [(2, X, false), (3, S, false)] ∧ (step r0 e1).jl.running = [.step 2, .step 3] ∧
      ((step r0 e1).k.find? X).map (·.sstate) = some .pending ∧ used (step r0 e1).k "token" = 0 ∧
      InFlightLink (step r0 e1) ∧ ¬ FlightRows (step r0 e1)) ∧
    ((step (step r0 e1) e2).jobs = [(2, X, false), (3, S, false), (4, X, false)] ∧
      (step (step r0 e1) e2).jl.running = [.step 2, .step 3, .step 4] ∧
      (step (step r0 e1) e2).jl.running.length ≤ (step (step r0 e1) e2).jl.njob ∧
      used (step (step r0 e1) e2).k "token" = 1 ∧
      InFlightLink (step (step r0 e1) e2) ∧ ¬ OneJobPerStep (step (step r0 e1) e2)) :=
  two_jobs_of_one_step hl

open StepupModel.B.Build StepupModel.B.Build.Recreate StepupModel.B.JobLoop in
/-- The contrast to `one_command_per_step_negation`: on the same state the request with the unchanged input
list recycles (`Step.can_recycle` is true): `X` is attached again, still RUNNING, and the link holds in both
directions.  `RecreatesInFlight`: a `define` that takes the creation branch for a step with a job in flight. -/
theorem recycled_running_step_keeps_its_row (hl : stepLabel "X" "." = some "X") :
    RecreatesInFlight r0 S declX' ∧ ¬ RecreatesInFlight r0 S declX ∧
    (step r0 e1same).jobs = [(2, X, false), (3, S, false)] ∧ (step r0 e1same).jl.running = [.step 2, .step 3] ∧
    ((step r0 e1same).k.find? X).map (·.sstate) = some .running ∧
    InFlightLink (step r0 e1same) ∧ FlightRows (step r0 e1same) ∧ OneJobPerStep (step r0 e1same) :=
  recycle_keeps_running hl

open StepupModel.B.Build in
/-- Every job in the scheduler's table has its task running, waiting to be retired, or it raised; every
step task in flight is in the table. -/
theorem scheduler_jobs_are_tasks_in_flight (k0 : KState) (cfg : KConfig) (njob : Nat) (evs : List Ev) :
    (∀ a ∈ (run k0 cfg njob evs).jobs,
      StepupModel.B.JobLoop.Job.step a.1 ∈ (run k0 cfg njob evs).jl.running ∨
      StepupModel.B.JobLoop.Job.step a.1 ∈ (run k0 cfg njob evs).jl.done.map Prod.fst ∨
      (StepupModel.B.JobLoop.Job.step a.1 ∈ (run k0 cfg njob evs).jl.handled ∧ (run k0 cfg njob evs).jl.draining = true)) ∧
    (∀ i, (StepupModel.B.JobLoop.Job.step i ∈ (run k0 cfg njob evs).jl.running ∨ StepupModel.B.JobLoop.Job.step i ∈ (run k0 cfg njob evs).jl.done.map Prod.fst) →
      ∃ a ∈ (run k0 cfg njob evs).jobs, a.1 = i) := by
  have hids := run_ids k0 cfg njob evs
  have hacc := run_accounted k0 cfg njob evs
  have hrep := run_reported k0 cfg njob evs
  generalize run k0 cfg njob evs = s at hids hacc hrep
  constructor
  · intro a ha
    obtain ⟨hma, hnr⟩ := List.mem_filter.1 ha
    rcases (B.JobLoop.accounted_mem hacc _).1 ((hids.mem _).1 (List.mem_map_of_mem hma)) with hh | hd | hr
    · refine .inr (.inr ⟨hh, ?_⟩)
      cases hdr : s.jl.draining with
      | true => rfl
      | false =>
        rw [List.contains_iff_mem.2 (B.JobLoop.reported_retired hrep hdr hh)] at hnr
        cases hnr
    · exact .inr (.inl hd)
    · exact .inl hr
  · intro i hi
    obtain ⟨a, ha, rfl⟩ := List.mem_map.1 ((hids.mem i).2 ((B.JobLoop.accounted_mem hacc _).2 (.inr hi.symm)))
    refine ⟨a, List.mem_filter.2 ⟨ha, ?_⟩, rfl⟩
    -- a recorded completion would make the task counted twice among the started ones
    cases hc : s.jl.retired.contains a.1 with
    | false => rfl
    | true =>
      have := B.JobLoop.retired_not_in_flight hacc hrep (started_once s hids a.1) (List.contains_iff_mem.1 hc)
      exact absurd hi (fun h => h.elim this.1 this.2)

/-! ## Resources and holds over whole histories -/

open StepupModel.K.Resources in
/-- **The RUNNING steps never hold more units of a resource than available, and never an undefined
one, after every history** with a fixed resource table in which (a) no step is set RUNNING outside
the dispatch protocol unless its resources are free (`SetRunningOK`; the code sets RUNNING only in
`pop_next_job`), (b) a `define` that recycles a step whose command is still running fits the table
(`RecycleFits`; implied by "no recycle while running"), (c) declared resource names are distinct
(a dict in the code).  Both (a) and (b) are needed: `set_state_running_negation` below, and
`Resources.recycle_running_negation` in `Lemmas/Resources.lean` (the known finding F7, replayed on the
real code: `harness/witness/f7_recycle_running.txt`). -/
theorem resources_never_overcommitted_partial (cfg : KConfig) (h : List (KConfig × Req))
    (hg : Guarded cfg.available KState.init h) : ResourcesOK (KState.init.run h) cfg :=
  (run_resourcesOK cfg h KState.init hg
    ⟨List.pairwise_singleton _ _, fun n hn => by rw [List.mem_singleton.1 hn]; exact List.nodup_nil,
      fun _ _ _ => Nat.zero_le _, fun n hn hk => by rw [List.mem_singleton.1 hn] at hk; cases hk⟩).2.2

open StepupModel.K.Resources StepupModel.K.Resources.Witness StepupModel.K.MetaAfter in
/-- (a) is needed: on `s2State` the invariant and the other side conditions hold, the raw request
`set_state(B, RUNNING)` is accepted (`Step.set_state` does not test the resources) and the RUNNING steps
then hold more of a resource than is available. -/
theorem set_state_running_negation :
    (KeysUnique s2State ∧ ResKeyed s2State ∧ ResourcesOK s2State cfgA) ∧
    RecycleFits s2State cfgA (.setState stB .running) ∧ DeclKeyed (.setState stB .running) ∧
    ¬ SetRunningOK s2State cfgA (.setState stB .running) ∧
    ∃ res, s2State.exec cfgA (.setState stB .running) = .ok res ∧ ¬ ResourcesOK res.1 cfgA :=
  ⟨s2_inv, trivial, trivial, by decide +kernel, okAnd_not (by decide +kernel)⟩

open StepupModel.K.Resources StepupModel.K.SafeDisc StepupModel.K.MetaSafe in
/-- **A step declared inside a hold block does not start before the outermost hold has been
released**: after every history of the director (`HistOKS`), a job that `pop_next_job` hands out as
a RUN (the command is started) belongs to a step all of whose recursive step creators are RUNNING
or SUCCEEDED and hold nothing.  (A step with a recorded hash may be hash-CHECKED below a holding
creator; that job starts no command and holds no resources: `check_bypasses_hold_of_director`.) -/
theorem held_step_is_not_started (h : List (KConfig × Req)) (hh : HistOKS h)
    {cfg : KConfig} {k : Key} {s' : KState} {run : Bool}
    (hp : (KState.init.run h).popNext cfg (some k) = .ok (s', .job k false run)) :
    ∀ n ∈ (KState.init.run h).nodes, n.key = k → ∀ a, StrictAnc (KState.init.run h) a n → Lets a :=
  hold_blocks_run_partial h (reachable_safeDiscipline h hh) hp

end StepupModel.Props.C12
