import StepupModel.Lemmas.Like
import StepupModel.Generated.Sqlite
/-!
# C18  "Under this directory" selects exactly the paths under it

Every theorem is about the model in `P/Like.lean`; the correspondence harness
(`harness/props/c18.py`) ties each modelled call site to the implementation.
`Generated.Sqlite.likeCaseSensitive` is probed on a connection from `connect()` on every run.
-/
namespace StepupModel.Props.C18
open StepupModel.P.Like StepupModel.Generated

/-- Obligation on the regenerated table: LIKE compares case sensitively on StepUp connections. -/
theorem like_is_case_sensitive : Sqlite.likeCaseSensitive = true := by decide

/-- The same on the read-only connections that `stepup clean` and the other tools open. -/
theorem like_is_case_sensitive_read_only : Sqlite.likeCaseSensitiveReadOnly = true := by decide

/-- `prefix_clause`: the escaped pattern followed by `%` is a byte-exact prefix test,
whatever `%`, `_`, `\` or non-ASCII characters the prefix contains. -/
theorem like_prefix_exact (d s : Str) : likePrefix true d s = true ↔ d <+: s :=
  likePrefix_true_iff d s

/-- Without `case_sensitive_like` the same clause only tests the prefix up to ASCII case. -/
theorem like_prefix_folded (d s : Str) :
    likePrefix false d s = true ↔ d.map foldc <+: s.map foldc := by
  rw [likePrefix_eq_prefixBy]; exact prefixBy_iff false d s

/-- F3 witness: the case-folding LIKE selects `data/x` under `Data/`. -/
theorem like_case_negation :
    likePrefix false [68, 97, 116, 97, 47] [100, 97, 116, 97, 47, 120] = true ∧
    ¬ ([68, 97, 116, 97, 47] <+: [100, 97, 116, 97, 47, 120]) := by
  rw [likePrefix_eq_prefixBy]; decide +kernel

/-- `dir_range_upper` + `label >= dir AND label < upper` is the byte-exact prefix test. -/
theorem range_exact (p s : Str) :
    (dirRangeUpper (p ++ [slash])).map (fun hi => inRange (p ++ [slash]) hi s) = some true ↔
      (p ++ [slash]) <+: s := by
  rw [dirRangeUpper_append_slash]; simp only [Option.map_some, Option.some.injEq, inRange]
  exact range_iff_prefix p slash s

/-- `dir_range_upper` is defined exactly for arguments with a trailing slash. -/
theorem range_upper_defined (d : Str) :
    (dirRangeUpper d).isSome ↔ ∃ p, d = p ++ [slash] := by
  constructor
  · intro h
    obtain ⟨hi, hhi⟩ := Option.isSome_iff_exists.mp h
    obtain ⟨p, hp, _⟩ := dirRangeUpper_some hhi
    exact ⟨p, hp⟩
  · rintro ⟨p, rfl⟩; simp [dirRangeUpper_append_slash]

/-- The `substr` test of `_find_owning_static_tree` is a prefix test on the path as given (tree
labels end in `/`, so an owned file path is a proper extension of the tree label). -/
theorem substr_owner (trees : List Str) (path t : Str) :
    t ∈ owningTrees trees path ↔ t ∈ trees ∧ t <+: path := by
  simp [owningTrees, substrEq_iff]

/-! ## Call sites (the flag is the regenerated one) -/

theorem site_register_static_tree (path : Str) (labels : List Str) (l : Str) :
    l ∈ underTreeLike Sqlite.likeCaseSensitive path labels ↔ l ∈ labels ∧ addSlash path <+: l := by
  rw [like_is_case_sensitive]; simp [underTreeLike, like_prefix_exact]

theorem site_relevant_paths_under (dir : Str) (files globs : List Str) (l : Str) :
    l ∈ relevantUnder Sqlite.likeCaseSensitive dir files globs ↔
      (l ∈ files ∨ l ∈ globs) ∧ ensureSlash dir <+: l :=
  mem_relevantUnder like_is_case_sensitive dir files globs l

theorem site_range (dir : Str) (labels : List Str) (l : Str) :
    l ∈ underRange dir labels ↔ l ∈ labels ∧ (∃ p, dir = p ++ [slash]) ∧ dir <+: l := by
  unfold underRange
  cases h : dirRangeUpper dir with
  | none =>
    simp only [List.not_mem_nil, false_iff]
    rintro ⟨_, ⟨p, rfl⟩, _⟩
    simp [dirRangeUpper_append_slash] at h
  | some hi =>
    obtain ⟨p, rfl, rfl⟩ := dirRangeUpper_some h
    simp only [List.mem_filter, inRange, range_iff_prefix]
    constructor
    · rintro ⟨h1, h2⟩; exact ⟨h1, ⟨p, rfl⟩, h2⟩
    · rintro ⟨h1, _, h2⟩; exact ⟨h1, h2⟩

/-- **Directory targets** (`has_regular_output_under`, `RECONCILE_TARGET_DIRS`, the directory arm of
`UPDATE_CHECK_AFTER`): a label is selected for the target `dir` iff `dir` is the project root (`./`: every
label of the project lies under it; labels are root-relative and carry no `./` prefix), or `dir` ends with a
slash and is a prefix of the label. -/
theorem site_target_dir (dir : Str) (labels : List Str) (l : Str) :
    l ∈ underTarget dir labels ↔
      l ∈ labels ∧ (dir = rootDir ∨ ((∃ p, dir = p ++ [slash]) ∧ dir <+: l)) := by
  unfold underTarget
  by_cases h : dir = rootDir
  · simp [h]
  · simp only [h, if_false, false_or]
    exact site_range dir labels l

/-- The root target selects everything, whatever the labels look like. -/
theorem root_target_selects_all (labels : List Str) : underTarget rootDir labels = labels := by
  simp [underTarget]

/-- ... while its prefix range alone selects only labels spelled with `./`,
which the director never records: a concrete project. -/
example : underRange rootDir [[111, 117, 116, 47, 97], [98]] = [] ∧
    underTarget rootDir [[111, 117, 116, 47, 97], [98]] = [[111, 117, 116, 47, 97], [98]] := by decide +kernel

theorem site_clean_matching (arg : Str) (labels : List Str) (l : Str) :
    l ∈ cleanMatching Sqlite.likeCaseSensitiveReadOnly arg labels ↔
      l ∈ labels ∧ (l = arg ∨ addSlash arg <+: l) := by
  rw [like_is_case_sensitive_read_only]; simp [cleanMatching, like_prefix_exact]

theorem site_inside_tree (trees : List Str) (path : Str) :
    insideTree trees path = true ↔ ∃ t ∈ trees, t <+: path := by
  simp [insideTree, List.isPrefixOf_iff_prefix]

theorem site_contains_tree (trees : List Str) (path : Str) :
    containsTree trees path = true ↔ ∃ t ∈ trees, path <+: t := by
  simp [containsTree, List.isPrefixOf_iff_prefix]

/-! ## What "under" excludes -/

/-- A sibling that merely shares a name prefix is never under the directory. -/
theorem sibling_excluded (d rest : Str) (c : Nat) (hc : c ≠ slash) :
    ¬ (d ++ [slash]) <+: (d ++ c :: rest) := by
  intro h
  rw [List.prefix_append_right_inj] at h
  simp [List.cons_prefix_cons] at h
  exact hc h.symm

/-- A selected file label is a *proper* extension: file labels never end in `/`. -/
theorem selected_is_proper (d l : Str) (hl : l.getLast? ≠ some slash) (h : (d ++ [slash]) <+: l) :
    l ≠ d ++ [slash] ∧ d.length + 1 < l.length := by
  obtain ⟨t, rfl⟩ := h
  cases t with
  | nil => simp at hl
  | cons x xs => constructor <;> simp <;> omega

/-- F12: the file path `d` is not owned by the tree `d/`. -/
theorem substr_owner_file_not_under_own_name : owningTrees [[100, 47]] [100] = [] := by decide

/-! Non-vacuity: a concrete selection with every kind of troublesome neighbour. -/
example :
    underTreeLike true [97, 95]  -- "a_"
      [[97, 95, 47, 120], [97, 120, 47, 120], [65, 95, 47, 120], [97, 95, 48], [97, 95, 47]]
      = [[97, 95, 47, 120], [97, 95, 47]] := by
  simp only [underTreeLike, likePrefix_eq_prefixBy]; decide +kernel
example : underRange [97, 47] [[97, 47, 120], [97, 48], [97, 46, 120], [97, 47, 233]] =
    [[97, 47, 120], [97, 47, 233]] := by decide +kernel

end StepupModel.Props.C18
