import StepupModel.Lemmas.KProp
import StepupModel.P.Skip
import StepupModel.Lemmas.Dispatch
/-!
# C04  Rebuilding with nothing changed does nothing; edits rerun only their cone

Proved here (the T1 pieces of DESIGN section 9/C04, on the kernel model `K/*.lean` and on the
model of the executor's hash-job guard `P/Skip.lean`): every kernel request that the restart path
and the watch-mode rebuild issue is the identity on a *quiescent* database when nothing changed,
up to the `_check_*` cache flags, and nothing is eligible for dispatch afterwards.  A rescanned file
whose hash is unchanged is not applied to the workflow at all (`Executor._run_hash_job`).

Decided by the oracle only (`harness/props/c04.py`, on simulated builds of the real director):
the whole-build statements of DESIGN.md section 9, `noop_rebuild` (zero commands, identical graph text, identical file
times, restart and watch mode) and `cone` (every executed command lies in the cone of the edit).
`FILL_SAFE_UPDATE` / `UPDATE_CHECK_AFTER` recompute cached columns; that they reproduce the
stored values on a quiescent database is covered by C10's from-scratch oracle, not by a theorem.
-/
namespace StepupModel.Props.C04
open StepupModel.K StepupModel.P.Skip

/-! ## The rescan guard (`Executor._run_hash_job`) -/

/-- The result of rehashing a file is passed to the workflow exactly when it differs from the
recorded hash or the cause is CONFIRMED. -/
theorem hashJob_applies_iff {η : Type} [DecidableEq η] (old new : η) (cause : Cause) :
    hashJobApplies old new cause = true ↔ (new ≠ old ∨ cause = .confirmed) := by
  unfold hashJobApplies
  simp

/-- **rescan_unchanged_identity**: an EXTERNAL (startup rescan, watcher), SUCCEEDED or FAILED
rehash whose result equals the recorded hash is not applied: the workflow is not touched, in
particular no consumer is marked pending. -/
theorem rescan_unchanged_identity {η : Type} [DecidableEq η] (h : η) (cause : Cause) (hc : cause ≠ .confirmed) :
    hashJobApplies h h cause = false :=
  Bool.eq_false_iff.mpr fun ha => ((hashJob_applies_iff h h cause).mp ha).elim (fun hne => hne rfl) hc

theorem rescan_changed_applied {η : Type} [DecidableEq η] (old new : η) (cause : Cause) (hne : new ≠ old) :
    hashJobApplies old new cause = true :=
  (hashJob_applies_iff old new cause).mpr (.inl hne)

/-- The CONFIRMED cause is applied even when nothing changed (it has to flip UNCONFIRMED). -/
theorem confirmation_always_applied {η : Type} [DecidableEq η] (old new : η) :
    hashJobApplies old new .confirmed = true :=
  (hashJob_applies_iff old new .confirmed).mpr (.inr rfl)

/-- `update_file_hashes({})` is the identity (a rescan in which nothing changed applies nothing). -/
theorem updateFileHashes_empty (s : KState) (cause : Cause) : s.updateFileHashes [] cause = .ok s := by
  unfold KState.updateFileHashes
  rfl

/-! ## Startup requests on a quiescent database -/

/-- `rescan_env_vars`: when no step, attached or detached, has a recorded value that differs from the
current environment, nothing is marked pending and the database is unchanged. -/
theorem rescanEnv_unchanged_identity (s : KState) (cfg : KConfig)
    (h : ∀ n ∈ s.nodes, n.key.kind = .step →
      ∀ e ∈ n.envs, envValue cfg e.1 = e.2.1) :
    s.rescanEnvVars cfg = .ok s := by
  unfold KState.rescanEnvVars
  have hnil : (s.nodes.filter fun n =>
      decide (n.key.kind = .step ∧ (n.envs.any fun e => decide (envValue cfg e.1 ≠ e.2.1)) = true)) = [] := by
    rw [List.filter_eq_nil_iff]
    intro n hn
    simp only [decide_eq_true_eq, not_and, List.any_eq_true, not_exists]
    intro hk e he hne
    exact hne (h n hn hk e he)
  simp only [hnil]
  rfl

/-- `reset_interrupted_steps`: when no step is RUNNING or CHECKING and no step, attached or detached,
is FAILED (the state a successful build with its cleanup leaves; detached FAILED steps are made
pending too), the database is unchanged. -/
theorem resetInterrupted_quiescent_identity (s : KState)
    (hr : ∀ n ∈ s.nodes, n.key.kind = .step → n.sstate ≠ .running ∧ n.sstate ≠ .checking)
    (hf : ∀ n ∈ s.nodes, n.key.kind = .step → n.sstate ≠ .failed) :
    s.resetInterrupted = .ok s := by
  have e1 : s.stepRows .running = [] := stepRows_nil fun n hn hk => (hr n hn hk).1
  have e2 : s.stepRows .checking = [] := stepRows_nil fun n hn hk => (hr n hn hk).2
  have e3 : s.stepRows .failed = [] := stepRows_nil hf
  unfold KState.stepRows at e1 e2 e3
  unfold KState.resetInterrupted
  rw [e1, e2]
  exact congrArg (List.foldlM _ s) e3

/-! ## Requests that only touch cache flags -/

/-- `reconcile_targets` (accepted) changes nothing but `_check_after`
flags: no state, hash, creator, relation, need, cached need or queue entry. -/
theorem reconcileTargets_touches_only_check_after (s s' : KState) (cfg : KConfig)
    (h : s.reconcileTargets cfg = .ok s') : SameButAfter s s' := by
  obtain ⟨s1, hfold, rfl⟩ := reconcileTargets_ok h
  have flag : ∀ (t : KState) p, SameButAfter t (t.modifyWhere p fun n => { n with checkAfter := true }) := fun t p =>
    ⟨map_view_modifyWhere t _ _ noAfter (fun _ => rfl), rfl, rfl⟩
  have h1 : SameButAfter s s1 := foldlM_keeps (fun b => SameButAfter s b) _ _
    (fun b a b' _ hb hr => hb.trans (reconcileTarget_sameButAfter b b' a hr)) _ s1 (flag s _) hfold
  exact h1.trans (flag s1 _)

/-- `_update_meta_ready` changes nothing but `_ready` and `_check_ready`. -/
theorem updateMetaReady_touches_only_ready (s : KState) :
    s.updateMetaReady.nodes.map noReady = s.nodes.map noReady ∧ s.updateMetaReady.deps = s.deps ∧
      s.updateMetaReady.toBeDeleted = s.toBeDeleted :=
  have r := updateMetaReady_rowMap s
  ⟨r.nodes, r.deps, r.toBeDeleted⟩

/-! ## Nothing to dispatch -/

/-- **noop: nothing is eligible.** In a state in which every attached PENDING step has the cached
need OPTIONAL (after a successful build every needed step is SUCCEEDED), the dispatch query selects
nothing. -/
theorem quiescent_nothing_eligible (s : KState) (cfg : KConfig)
    (h : ∀ n ∈ s.nodes, n.key.kind = .step → n.detached = false →
      n.sstate ≠ .pending ∨ n.impliedNeed = .optional) :
    ∀ n ∈ s.nodes, s.eligible cfg n = false := by
  intro n hn
  cases he : s.eligible cfg n with
  | false => rfl
  | true =>
    obtain ⟨hk, hst, hdet, _, _, hneed, _, _, _⟩ := (eligible_iff s cfg n).1 he
    rcases h n hn hk hdet with h1 | h1
    · exact absurd hst h1
    · exact absurd h1 hneed

/-- **noop: nothing is dispatched.** When no attached step is PENDING (what a successful build
leaves when every step was needed), `pop_next_job` refreshes the cached columns, selects nothing
and leaves every row's state untouched, whatever the cached columns were. -/
theorem noop_pop_none (s : KState) (cfg : KConfig)
    (hq : ∀ n ∈ s.nodes, n.key.kind = .step → n.detached = false → n.sstate ≠ .pending)
    (su : KState) (hu : s.updateMeta cfg = .ok su) :
    s.popNext cfg none = .ok (su, .none) ∧ su.nodes.map Node.dcore = s.nodes.map Node.dcore := by
  have hdcore := updateMeta_dcore s su cfg hu
  have hq' : ∀ n ∈ su.nodes, n.key.kind = .step → n.detached = false → n.sstate ≠ .pending := by
    intro n hn hk hd
    have hmem : n.dcore ∈ su.nodes.map Node.dcore := List.mem_map_of_mem hn
    rw [hdcore, List.mem_map] at hmem
    obtain ⟨m, hm, hmc⟩ := hmem
    have h1 : m.key = n.key := congrArg Prod.fst hmc
    have h2 : m.sstate = n.sstate := congrArg (fun x => x.2.1) hmc
    have h3 : m.detached = n.detached := congrArg (fun x => x.2.2) hmc
    rw [← h2]
    exact hq m hm (h1 ▸ hk) (h3 ▸ hd)
  exact ⟨popNext_none hu (quiescent_nothing_eligible su cfg fun n hn hk hd => .inl (hq' n hn hk hd)), hdcore⟩

/-- The kernel requests of a restart (`resume_from_db`: `reset_interrupted_steps`,
`rescan_env_vars`, a file rescan in which no hash changed, then `reconcile_targets`). -/
def restartRequests (s : KState) (cfg : KConfig) : M KState := do
  let a ← s.resetInterrupted
  let b ← a.rescanEnvVars cfg
  let c ← b.updateFileHashes [] .external
  c.reconcileTargets cfg

/-- The kernel part of the whole-build statement `noop_rebuild`: on a quiescent database (no step
RUNNING, CHECKING or FAILED, attached or detached; every recorded environment value current; no file
hash changed) the requests of a restart change no persistent column: the result differs from the
database before only in `_check_after` flags. -/
theorem noop_restart_identity (s s' : KState) (cfg : KConfig)
    (hr : ∀ n ∈ s.nodes, n.key.kind = .step → n.sstate ≠ .running ∧ n.sstate ≠ .checking)
    (hf : ∀ n ∈ s.nodes, n.key.kind = .step → n.sstate ≠ .failed)
    (henv : ∀ n ∈ s.nodes, n.key.kind = .step → ∀ e ∈ n.envs, envValue cfg e.1 = e.2.1)
    (h : restartRequests s cfg = .ok s') : SameButAfter s s' := by
  unfold restartRequests at h
  rw [resetInterrupted_quiescent_identity s hr hf] at h
  simp only [bind, Except.bind] at h
  rw [rescanEnv_unchanged_identity s cfg henv] at h
  simp only [updateFileHashes_empty] at h
  exact reconcileTargets_touches_only_check_after s s' cfg h

example : hashJobApplies (7 : Nat) 7 Cause.external = false := by decide
example : hashJobApplies (7 : Nat) 8 Cause.external = true := by decide
example : SameButAfter KState.init KState.init := SameButAfter.refl _
example : KState.init.resetInterrupted = .ok KState.init :=
  resetInterrupted_quiescent_identity _ (by intro n hn hk; simp [KState.init] at hn; subst hn; cases hk)
    (by intro n hn hk; simp [KState.init] at hn; subst hn; cases hk)

end StepupModel.Props.C04
