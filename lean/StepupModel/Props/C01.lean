import StepupModel.Lemmas.KProp
import StepupModel.Lemmas.EnvRows
import StepupModel.Lemmas.Norm
import StepupModel.Lemmas.OpCases
import StepupModel.P.Skip
/-!
# C01  An incremental build is equivalent to a build from scratch

The full statement (DESIGN section 9/C01: for every history, the last successful build leaves
the same canonical database and the same output bytes as a build from scratch) is decided by the
oracle on simulated builds of the real director (`harness/props/c01.py`).  Proved here are the
decomposition lemmas on the kernel model (`K/*.lean`, tied to the code by the kernel
correspondence over the scopes declarations, propagation, completion, startup) and on the model of
the executor's skip decision (`P/Skip.lean`, tied by `harness/skipcorr.py`): the pending
propagation (`mark_step_pending` / `mark_file_outdated` / `mark_consuming_steps_pending`, for all
graphs and all fuel) invalidates every node downstream of a change, attached or detached, when no
step is RUNNING or CHECKING (startup rescan, watch phase); `try_skip_job` skips only on equal
digests; `Step.can_recycle` compares the four declared lists, a partial recycle leaves the step
PENDING and without `env_var` rows, a changed shell flag or changed overrides re-check it, and a
step recorded SUCCEEDED carries the current values of its tracked variables (findings
`stale-env-dependency`, `redefinition-not-noticed`, `env-value-reverted-not-noticed`).

One case of `update_file_hashes({p: h}, EXTERNAL)` is left out: an output that the user *modified*
(only the producer is marked, the consumers follow when it completes).  It is why the full
statement `ExternalUpdateComplete` stays a `def`, and it is the known finding
`watch-differs:external-update-order` of C14.

Not proved (oracle only): `closed_unique`, `successful_build_closed` (T1/T2 of DESIGN.md section 9), the
propagation of `update_file_hashes` batches of several files (one file per request is proved;
the watcher and the rescan issue one request per file), and
`process_nglob_changes` (not part of the kernel model; its effect is `mark_step_pending`).
-/
namespace StepupModel.Props.C01
open StepupModel.K StepupModel.P.Skip

/-! ## 1. Pending propagation -/

/-- `x` is reachable from `x0` through at least one recorded dependency edge. -/
inductive Downstream (deps : List Dep) (x0 : Key) : Key → Prop
  | direct (d : Dep) : d ∈ deps → d.src = x0 → Downstream deps x0 d.snk
  | next (d : Dep) : d ∈ deps → Downstream deps x0 d.src → Downstream deps x0 d.snk

/-- Edges join a file to a step or a step to a file (`dependency_check_kinds_ins`).  Narrower than
`depKindOk` (`K/Prim.lean`) and `DepsKindOK` (`Lemmas/StableInst.lean`, the invariant of C09), which also
admit an edge from a static tree to a file. -/
def DepKinds (s : KState) : Prop :=
  ∀ d ∈ s.deps, (d.src.kind = .file ∧ d.snk.kind = .step) ∨ (d.src.kind = .step ∧ d.snk.kind = .file)

/-- Every BUILT file with a producing step has that step SUCCEEDED (or RUNNING / CHECKING). -/
def NoOrphanBuilt (s : KState) : Prop := ∀ d, ¬ OrphanBuilt s d

/-- A file with a producing step is not in a static state (UNCONFIRMED, MISSING, CONFIRMED). -/
def OutputsNotStatic (s : KState) : Prop :=
  ∀ d ∈ s.deps, d.src.kind = .step → ∀ st, s.fstateOf d.snk = some st → st.role? ≠ some .static

/-- "Invalidated", of a node downstream of a change: nothing a consumer may use (such a file is
OUTDATED, PLANNED, ...). -/
def Invalidated (s : KState) (x : Key) : Prop :=
  (x.kind = .step → s.sstateOf x ≠ some .succeeded) ∧
  (x.kind = .file → s.fstateOf x ≠ some .built ∧ s.fstateOf x ≠ some .confirmed)

/-- The database invariants the propagation relies on and maintains; `E` says which stale
dependencies (a SUCCEEDED step with an input that is not BUILT/CONFIRMED) are tolerated for
the moment: none in a committed state, those of the file being updated in the middle of
`update_file_hashes`. -/
structure SoundBut (E : Dep → Prop) (s : KState) : Prop where
  quiet : NoneBusy s
  kinds : DepKinds s
  stale : ∀ d, StaleDep s d → E d
  noOrphan : NoOrphanBuilt s
  outputs : OutputsNotStatic s

abbrev Sound (s : KState) : Prop := SoundBut (fun _ => False) s

/-- `mark_step_pending(k)`: afterwards `k` is PENDING, unless it is RUNNING or CHECKING (the call
is then ignored; such a step notices the change itself when it completes). -/
theorem markStepPending_result (s s' : KState) (k : Key) (h : s.markStepPending k = .ok s') :
    ∀ st, s'.sstateOf k = some st → st = .pending ∨ st = .running ∨ st = .checking :=
  markStepPending_notDone s.fuel s s' k h

/-- `mark_step_pending(k)` on a step that had completed: none of the files it has an edge to is
BUILT afterwards, attached or detached. -/
theorem markStepPending_outputs_not_built (s s' : KState) (k : Key) (st : StepState)
    (hst : s.sstateOf k = some st) (hdone : st = .succeeded ∨ st = .failed)
    (h : s.markStepPending k = .ok s') :
    ∀ f ∈ s.sinksOf k, f.kind = .file → s'.fstateOf f ≠ some .built :=
  markStepPending_sinks_notBuilt s.fuel s s' k st hst hdone h

/-- `mark_consuming_steps_pending(f)`: every step with a recorded edge from `f`, attached or
detached, is PENDING afterwards (or RUNNING / CHECKING). -/
theorem markConsumersPending_direct (s s' : KState) (f : Key) (h : s.markConsumersPending f = .ok s') :
    ∀ t ∈ s.sinksOf f, t.kind = .step →
      ∀ st, s'.sstateOf t = some st → st = .pending ∨ st = .running ∨ st = .checking :=
  markConsumersPending_notDone s s' f h

/-- The propagation never *creates* staleness: a SUCCEEDED step with an unusable input after
`mark_step_pending` was one before (when a file turns OUTDATED all its consumers are marked). -/
theorem propagation_creates_no_stale_dependency (s s' : KState) (k : Key) (h : s.markStepPending k = .ok s') :
    ∀ d, StaleDep s' d → StaleDep s d :=
  markStepPending_stale_mono s.fuel s s' k h

/-- Nor a BUILT file behind a step that is not SUCCEEDED any more. -/
theorem propagation_creates_no_orphan_built (s s' : KState) (k : Key) (h : s.markStepPending k = .ok s') :
    ∀ d, OrphanBuilt s' d → OrphanBuilt s d :=
  markStepPending_orphan_mono s.fuel s s' k h

/-- `mark_step_pending` changes no stored step hash. -/
theorem propagation_keeps_step_hashes (s s' : KState) (k q : Key) (h : s.markStepPending k = .ok s') :
    s'.shashOf q = s.shashOf q :=
  markStepPending_inv (propInv_shash q (s.shashOf q)) s.fuel s s' k rfl h

theorem soundBut_marked {E : Dep → Prop} {s s' : KState} (hs : SoundBut E s) (hm : Marked s s') : SoundBut E s' :=
  ⟨fun q => hm.stepIn q (fun o => ∀ st, o = some st → st ≠ .running ∧ st ≠ .checking)
      (fun _ _ _ _ _ e => Option.some.inj e ▸ ⟨nofun, nofun⟩) (hs.quiet q),
    fun d hd => hs.kinds d (hm.deps ▸ hd), fun d hd => hs.stale d (hm.stale d hd),
    fun d hd => hs.noOrphan d (hm.orphan d hd),
    fun d hd hk => hm.fileIn d.snk (fun o => ∀ st, o = some st → st.role? ≠ some .static)
      (fun _ _ e => Option.some.inj e ▸ nofun) (hs.outputs d (hm.deps ▸ hd) hk)⟩

theorem soundBut_markStepPending {E : Dep → Prop} (s s' : KState) (k : Key) (hs : SoundBut E s)
    (h : s.markStepPending k = .ok s') : SoundBut E s' :=
  soundBut_marked hs (markStepPending_marked s.fuel s s' k h).1

theorem soundBut_markConsumersPending {E : Dep → Prop} (s s' : KState) (f : Key) (hs : SoundBut E s)
    (h : s.markConsumersPending f = .ok s') : SoundBut E s' :=
  soundBut_marked hs (markedList id _ s s' h).1

/-- In a sound state invalidation passes along every edge: a step with an unusable input is not
SUCCEEDED, a file behind a step that is not SUCCEEDED is not BUILT (and never CONFIRMED). -/
theorem invalidated_snk (s : KState) (hs : Sound s) (d : Dep) (hd : d ∈ s.deps) (h : Invalidated s d.src) :
    Invalidated s d.snk := by
  rcases hs.kinds d hd with ⟨hsf, hst⟩ | ⟨hss, hsf⟩
  · refine ⟨fun _ hsucc => ?_, fun hf => (by rw [hst] at hf; cases hf)⟩
    obtain ⟨hnb, hnc⟩ := h.2 hsf
    exact hs.stale d ⟨hd, hst, hsucc, fun hav => hav.elim hnb hnc⟩
  · refine ⟨fun hk => (by rw [hsf] at hk; cases hk), fun _ => ⟨fun hb => ?_, fun hc => hs.outputs d hd hss _ hc rfl⟩⟩
    exact hs.noOrphan d ⟨hd, hsf, hb, h.1 hss, fun hr => (hs.quiet _ _ hr).1 rfl, fun hc => (hs.quiet _ _ hc).2 rfl⟩

theorem downstream_invalidated (s : KState) (x0 : Key) (hs : Sound s)
    (hbase : ∀ d ∈ s.deps, d.src = x0 → Invalidated s d.snk) :
    ∀ x, Downstream s.deps x0 x → Invalidated s x := by
  intro x hx
  induction hx with
  | direct d hd hsrc => exact hbase d hd hsrc
  | next d hd _ ih => exact invalidated_snk s hs d hd ih

theorem step_downstream (s s' : KState) (k : Key) (hk : k.kind = .step) (hs' : Sound s') (hdeps : s'.deps = s.deps)
    (hns : s'.sstateOf k ≠ some .succeeded) : ∀ x, Downstream s.deps k x → Invalidated s' x :=
  hdeps ▸ downstream_invalidated s' k hs' fun d hd hsrc =>
    invalidated_snk s' hs' d hd (hsrc ▸ ⟨fun _ => hns, fun hf => by rw [hk] at hf; cases hf⟩)

/-- The common end of every hash-update action: the consumers of `f0` are marked in a state
whose only tolerated stale dependencies are those of `f0` itself. -/
theorem consumers_marked_complete (s s' : KState) (f0 : Key) (hf0 : f0.kind = .file)
    (hs : SoundBut (fun d => d.src = f0) s) (h : s.markConsumersPending f0 = .ok s') :
    Sound s' ∧ ∀ x, Downstream s.deps f0 x → Invalidated s' x := by
  have hdeps := markConsumersPending_deps s s' f0 h
  have hs1 := soundBut_markConsumersPending s s' f0 hs h
  have hcons : ∀ d ∈ s'.deps, d.src = f0 → d.snk.kind = .step → s'.sstateOf d.snk ≠ some .succeeded :=
    fun d hd hsrc hk =>
      notDone_ne_succeeded (markConsumersPending_notDone s s' f0 h d.snk (hsrc ▸ dep_mem_sinksOf s d (hdeps ▸ hd)) hk)
  have hs' : Sound s' :=
    ⟨hs1.quiet, hs1.kinds, fun d hd => hcons d hd.1 (hs1.stale d hd) hd.2.1 hd.2.2.1, hs1.noOrphan, hs1.outputs⟩
  refine ⟨hs', ?_⟩
  rw [← hdeps]
  refine downstream_invalidated s' f0 hs' ?_
  intro d hd hsrc
  rcases hs'.kinds d hd with ⟨_, hst⟩ | ⟨hss, _⟩
  · exact ⟨fun _ => hcons d hd hsrc hst, fun hf => (by rw [hst] at hf; cases hf)⟩
  · rw [hsrc, hf0] at hss; cases hss

/-- **propagation_complete** (changed static file).  From a sound database in which no step is
RUNNING or CHECKING: after the consumers of the file `f0` have been marked, every node
downstream of `f0` along recorded dependency edges (through attached and detached nodes alike)
is invalidated: no such step is SUCCEEDED and no such file is BUILT. -/
theorem propagation_complete (s s' : KState) (f0 : Key) (hf0 : f0.kind = .file) (hs : Sound s)
    (h : s.markConsumersPending f0 = .ok s') :
    Sound s' ∧ ∀ x, Downstream s.deps f0 x → Invalidated s' x :=
  consumers_marked_complete s s' f0 hf0
    ⟨hs.quiet, hs.kinds, fun d hd => (hs.stale d hd).elim, hs.noOrphan, hs.outputs⟩ h

theorem soundBut_pendCreator {E : Dep → Prop} (s s' : KState) (f : Key) (hs : SoundBut E s)
    (h : s.pendCreator f = .ok s') : SoundBut E s' ∧ s'.deps = s.deps := by
  obtain ⟨_, rfl⟩ | ⟨c, _, h⟩ := pendCreator_ok h
  · exact ⟨hs, rfl⟩
  · exact ⟨soundBut_markStepPending s s' c hs h, markStepPending_deps s.fuel s s' c h⟩

theorem handleDeleted_complete (s s' : KState) (f0 : Key) (hf0 : f0.kind = .file)
    (hs : SoundBut (fun d => d.src = f0) s) (h : s.handleDeleted f0 = .ok s') :
    Sound s' ∧ ∀ x, Downstream s.deps f0 x → Invalidated s' x := by
  obtain ⟨s1, ⟨_, rfl⟩ | ⟨_, hc⟩, hm⟩ := handleDeleted_ok h
  · exact consumers_marked_complete s1 s' f0 hf0 hs hm
  · obtain ⟨hs1, hdeps1⟩ := soundBut_pendCreator s s1 f0 hs hc
    exact hdeps1 ▸ consumers_marked_complete s1 s' f0 hf0 hs1 hm

/-- The full statement: whatever file an EXTERNAL update concerns.  Not a theorem: when the user
modifies an *output* (BUILT / OUTDATED, hash known) the file turns PLANNED and only its producer is
marked pending; its consumers stay SUCCEEDED until the producer has run again (known finding of
C14, `watch-differs:external-update-order`; an upstream example asserts these step states). -/
def ExternalUpdateComplete : Prop :=
  ∀ (s s' : KState) (p : String) (hh : Option Nat), Sound s → s.updateFileHashes [(p, hh)] .external = .ok s' →
    Sound s' ∧ ∀ x, Downstream s.deps (fileKey p) x → Invalidated s' x

/-- The rows of the regenerated `_HASH_TRANSITIONS` with cause EXTERNAL and action "updated": the
hash is known, and the file becomes CONFIRMED unless it was BUILT or OUTDATED (a modified output). -/
theorem external_updated (st new : FileState) (known : Bool)
    (h : lookupTransition .external st known = some (new, some .updated)) :
    known = true ∧ (new = .confirmed ∨ st = .built ∨ st = .outdated) :=
  lookupTransition_of_table (P := fun e => e.1.1 = .external → e.2.2 = some .updated →
    e.1.2.2 = true ∧ (e.2.1 = .confirmed ∨ e.1.2.1 = .built ∨ e.1.2.1 = .outdated)) (by decide) h rfl rfl

/-- Rewriting the state of the file `f` within its role, and not to BUILT, breaks at most the
dependencies of the consumers of `f`. -/
theorem soundBut_writeFile (s s1 : KState) (f : Key) (n : Node) (new : FileState) (nh : Option (Option Nat))
    (hs : Sound s) (hf : s.find? f = some n) (hnb : new ≠ .built) (hrole : new.role? = n.fstate.role?)
    (hw : s.writeFile f new nh = .ok s1) :
    SoundBut (fun d => d.src = f) s1 ∧ s1.fstateOf f = some new ∧ s1.deps = s.deps := by
  obtain ⟨hfs, hss, hdeps⟩ := writeFile_effect s s1 f new nh hw
  have hold : s.fstateOf f = some n.fstate := fstateOf_of_find hf
  have hfnew : s1.fstateOf f = some new := by rw [hfs, if_pos rfl, hold]; rfl
  have hother : ∀ q, q ≠ f → s1.fstateOf q = s.fstateOf q := fun q hq => by rw [hfs, if_neg hq]
  refine ⟨⟨?_, ?_, ?_, ?_, ?_⟩, hfnew, hdeps⟩
  · intro q st hq
    exact hs.quiet q st (hss q ▸ hq)
  · intro d hd
    exact hs.kinds d (hdeps ▸ hd)
  · intro d ⟨hmem, hkind, hsucc, hav⟩
    apply Classical.byContradiction
    intro hne
    exact (hs.stale d ⟨hdeps ▸ hmem, hkind, hss _ ▸ hsucc, hother _ hne ▸ hav⟩).elim
  · intro d ⟨hmem, hkind, hb, h1, h2, h3⟩
    have hne : d.snk ≠ f := fun he => hnb (Option.some.inj ((he ▸ hfnew).symm.trans hb))
    exact hs.noOrphan d ⟨hdeps ▸ hmem, hkind, hother _ hne ▸ hb, hss _ ▸ h1, hss _ ▸ h2, hss _ ▸ h3⟩
  · intro d hd hk st hst
    by_cases he : d.snk = f
    · rw [he, hfnew] at hst
      rw [← Option.some.inj hst, hrole]
      exact hs.outputs d (hdeps ▸ hd) hk n.fstate (he ▸ hold)
    · exact hs.outputs d (hdeps ▸ hd) hk st (hother _ he ▸ hst)

/-- End to end for one file: `update_file_hashes({p: h}, EXTERNAL)` (what
the startup rescan and the watcher apply for a file whose hash changed or that vanished), from a
sound database with no step RUNNING or CHECKING, for a static input that changed or vanished and
for an output that vanished: the request leaves a sound database in which every node downstream
of `p`, attached or detached, is invalidated.  (`_partial`: the case "output modified", excluded
by `hcase`, is the one described at `ExternalUpdateComplete`.) -/
theorem external_update_complete_partial (s s' : KState) (p : String) (hh : Option Nat) (hs : Sound s)
    (hcase : hh = none ∨ ∀ n, s.find? (fileKey p) = some n → n.fstate ≠ .built ∧ n.fstate ≠ .outdated)
    (h : s.updateFileHashes [(p, hh)] .external = .ok s') :
    Sound s' ∧ ∀ x, Downstream s.deps (fileKey p) x → Invalidated s' x := by
  rw [updateFileHashes_single] at h
  obtain ⟨⟨key, new, nh, act⟩, hr, h1⟩ := bind_ok_inv h
  obtain ⟨s1, hw, h2⟩ := bind_ok_inv h1
  obtain ⟨n, hf, hl, hkey, hnh⟩ := hashRec_ok hr
  simp only at hl hkey hnh hw h2
  subst hkey hnh
  obtain ⟨hnew, hact, hrole⟩ := external_transition_facts n.fstate new _ act hl
  have hnb : new ≠ .built := by rcases hnew with rfl | rfl | rfl <;> simp
  obtain ⟨hs1, hfnew, hdeps⟩ := soundBut_writeFile s s1 (fileKey p) n new _ hs hf hnb hrole hw
  rw [← hdeps]
  rcases hact with rfl | rfl
  · simp only [if_true, reduceCtorEq, if_false, Option.some.injEq, bind_pure] at h2
    -- an "updated" action leads to CONFIRMED, or to PLANNED for a modified output (excluded)
    obtain ⟨hknown, hc⟩ := external_updated n.fstate new _ hl
    have hok := hcase.elim (fun e => by rw [e] at hknown; cases hknown) (· n hf)
    rw [handleUpdated_confirmed s1 _ (hfnew.trans (congrArg some (hc.resolve_right (not_or.mpr hok))))] at h2
    exact consumers_marked_complete s1 s' (fileKey p) rfl hs1 h2
  · simp only [if_true, reduceCtorEq, if_false, Option.some.injEq, pure_bind, bind_pure] at h2
    exact handleDeleted_complete s1 s' (fileKey p) rfl hs1 h2

/-- Marking any list of steps (`mark_step_pending`, `rescan_env_vars`, the last stage of
`reset_interrupted_steps`, `_check_consistency`). -/
theorem marked_steps_complete {α : Type} (key : α → Key) (l : List α) (s s' : KState) (hs : Sound s)
    (h : l.foldlM (fun st a => st.markStepPending (key a)) s = .ok s') :
    Sound s' ∧ s'.deps = s.deps ∧ ∀ a ∈ l, (key a).kind = .step →
      s'.sstateOf (key a) ≠ some .succeeded ∧ ∀ x, Downstream s.deps (key a) x → Invalidated s' x := by
  obtain ⟨hm, hnd⟩ := markedList key l s s' h
  have hs' : Sound s' := soundBut_marked hs hm
  exact ⟨hs', hm.deps, fun a ha hk =>
    have hns := notDone_ne_succeeded (hnd a ha)
    ⟨hns, step_downstream s s' (key a) hk hs' hm.deps hns⟩⟩

/-- A step whose own ingredients changed (recorded environment value, glob matches, interrupted
run): after `mark_step_pending(k)` the step is not SUCCEEDED and every node downstream of it is
invalidated. -/
theorem propagation_complete_step (s s' : KState) (k : Key) (hk : k.kind = .step) (hs : Sound s)
    (h : s.markStepPending k = .ok s') :
    Sound s' ∧ s'.sstateOf k ≠ some .succeeded ∧ ∀ x, Downstream s.deps k x → Invalidated s' x := by
  obtain ⟨hs', _, hall⟩ := marked_steps_complete id [k] s s' hs (bind_ok_iff.2 ⟨s', h, rfl⟩)
  exact ⟨hs', hall k List.mem_cons_self hk⟩

/-- **Environment rescan** (`startup.rescan_env_vars`): every step, attached or detached, whose
recorded value of a variable differs from the current environment is not SUCCEEDED afterwards, and
everything downstream of it is invalidated. -/
theorem rescanEnv_propagation_complete (s s' : KState) (cfg : KConfig) (hs : Sound s)
    (h : s.rescanEnvVars cfg = .ok s') :
    Sound s' ∧ ∀ n ∈ s.nodes, n.key.kind = .step →
      (∃ e ∈ n.envs, envValue cfg e.1 ≠ e.2.1) →
      s'.sstateOf n.key ≠ some .succeeded ∧ ∀ x, Downstream s.deps n.key x → Invalidated s' x := by
  obtain ⟨hs', _, hall⟩ := marked_steps_complete Node.key _ s s' hs h
  exact ⟨hs', fun n hn hk ⟨e, he, hne⟩ => hall n
    (List.mem_filter.mpr ⟨hn, decide_eq_true ⟨hk, List.any_eq_true.mpr ⟨e, he, decide_eq_true hne⟩⟩⟩) hk⟩

/-! ## 2. The skip decision of the executor -/

/-- `try_skip_job` skips exactly on two present digests equal to the stored ones, and records the stored hash. -/
theorem trySkip_skipped_iff {δ : Type} [DecidableEq δ] (stored : Digests δ) (newInp newOut : Option δ) (rec : Digests δ) :
    trySkip stored newInp newOut = .skipped rec ↔ newInp = some stored.inp ∧ newOut = some stored.out ∧ rec = stored := by
  obtain ⟨si, so⟩ := stored
  unfold trySkip
  cases newInp with
  | none => exact ⟨nofun, nofun⟩
  | some i =>
    by_cases hi : si = i
    · subst hi
      cases newOut with
      | none => simp
      | some o =>
        by_cases ho : so = o
        · subst ho; simp [eq_comm]
        · simp [ho, Ne.symm ho]
    · simp [hi, Ne.symm hi]

/-- **skip_sound**: `try_skip_job` records the step SUCCEEDED without running it only if the
recomputed input digest and the recomputed output digest are both present and equal to the stored
ones; the hash it records is the stored one. -/
theorem skip_sound {δ : Type} [DecidableEq δ] (stored : Digests δ) (newInp newOut : Option δ) (rec : Digests δ)
    (h : trySkip stored newInp newOut = .skipped rec) :
    newInp = some stored.inp ∧ newOut = some stored.out ∧ rec = stored :=
  (trySkip_skipped_iff stored newInp newOut rec).1 h

/-- Conversely, equal digests are skipped (nothing reruns without a reason: C04). -/
theorem skip_complete {δ : Type} [DecidableEq δ] (stored : Digests δ) :
    trySkip stored (some stored.inp) (some stored.out) = .skipped stored :=
  (trySkip_skipped_iff stored _ _ stored).2 ⟨rfl, rfl, rfl⟩

/-- Every outcome other than a skip either resets the step (`reset_for_rerun`, `delete_hash`,
PENDING: it will run) or completes it as failed; none of them records a hash. -/
theorem no_skip_means_reset_or_fail {δ : Type} [DecidableEq δ] (stored : Digests δ) (newInp newOut : Option δ)
    (h : ∀ r, trySkip stored newInp newOut ≠ .skipped r) :
    (trySkip stored newInp newOut).ops = ["reset_for_rerun", "delete_hash", "set_state:PENDING"] ∨
      (trySkip stored newInp newOut).ops = ["mark_completed:none"] := by
  cases hr : trySkip stored newInp newOut with
  | failedEarly => right; rfl
  | resetInputs => left; rfl
  | cancelled => right; rfl
  | resetOutputs => left; rfl
  | skipped r => exact absurd hr (h r)

/-- `validate_dynamic_job` keeps the stored hash (puts the step back to PENDING untouched) only
if the recomputed input digest equals the stored one. -/
theorem validate_sound {δ : Type} [DecidableEq δ] (storedInp : δ) (newInp : Option δ)
    (h : validateDynamic storedInp newInp = .keepWaiting) : newInp = some storedInp := by
  unfold validateDynamic at h
  split at h
  · cases h
  · split at h
    · cases h
    · rename_i i hi
      rw [Decidable.not_not.mp hi]

/-! ## 3. Recycling -/

/-- **recycle_sound** (full recycle): `Step.can_recycle` answers yes only if the recorded initial
inputs, environment variables, outputs and volatile outputs equal the four declared lists. -/
theorem recycle_sound (s : KState) (step : Key) (d : StepDecl) (h : s.canRecycle step d = true) :
    ∃ n, s.find? step = some n ∧
      (s.initialPaths step).1 = sortStrs d.inp ∧
      sortStrs ((n.envs.filter fun e => !e.2.2).map (·.1)) = sortStrs d.env ∧
      (s.initialPaths step).2.1 = sortStrs d.out ∧
      (s.initialPaths step).2.2 = sortStrs d.vol :=
  (canRecycle_iff s step d).1 h

/-- A creator that loses a product (its product is re-created or recycled by someone else)
loses its stored hash: it cannot be skipped on the strength of a run that declared something
else. -/
theorem lost_product_drops_hash (s s' : KState) (k : Key) (hk : k.kind = .step)
    (h : s.afterLostProduct k = .ok s') : s'.shashOf k = none := by
  rcases afterLostProduct_ok h with ⟨_, rfl⟩ | ⟨hst, _⟩
  · exact shashOf_deleteHash s k
  · rw [hk] at hst; cases hst

/-- Partial recycle: `Trellis.create` on an existing detached step node leaves
the step PENDING whatever it was. -/
theorem partial_recycle_pending (s s' : KState) (k : Key) (n : Node) (creator : Option Key) (i : StepInit)
    (hn : s.find? k = some n) (h : s.create k creator (.step i) = .ok s') :
    ∀ st, s'.sstateOf k = some st → st = .pending := by
  rcases create_ok h with ⟨n', _, _, _, hrec⟩ | ⟨hnone, _⟩
  · obtain ⟨s3, _, rfl⟩ := envFrame_recycleCore_step s s' k n' creator i hrec
    intro st hst
    rw [KState.sstateOf, KState.initStepRow, find?_modify_self] at hst
    · obtain ⟨_, hm, rfl⟩ := Option.map_eq_some_iff.mp hst
      obtain ⟨_, _, rfl⟩ := Option.map_eq_some_iff.mp hm
      rfl
    · exact fun _ h => h
  · rw [hn] at hnone; cases hnone

/-- What C01 needs of a redefinition: after an accepted `define_step` the non-dynamic `env_var`
rows of the step are among the declared variables: nothing is left over from an earlier
definition of the step (finding `stale-env-dependency`). -/
def RedefinitionDeclaresEnv : Prop :=
  ∀ (s s' : KState) (cfg : KConfig) (creator : Key) (d : StepDecl) (chk : List String) (sk : Key) (n : Node),
    s.defineStep cfg creator d = .ok (s', chk) → stepLabel d.cmd d.workdir = some sk.label → sk.kind = .step →
    s'.find? sk = some n → ∀ e ∈ n.envs, e.2.2 = false → e.1 ∈ normPaths d.env

/-- `Trellis.create` of a step, in particular the partial recycle of an existing detached step node,
leaves it without any `env_var` row (`Step.initialize_row` deletes them; with surviving rows a
redefinition that drops a variable keeps depending on it: finding `stale-env-dependency`). -/
theorem partial_recycle_clears_env_rows (s s' : KState) (k : Key) (n : Node) (creator : Option Key) (i : StepInit)
    (hn : s.find? k = some n) (h : s.create k creator (.step i) = .ok s') :
    (s'.find? k).map (·.envs) = some [] :=
  create_step_envsOf s s' k creator i h

/-- Every declared name gets a row. -/
theorem addEnvDeps_complete (cfg : KConfig) (n : Node) (names : List String) (a : String) (ha : a ∈ names) :
    ∃ e ∈ (addEnvDeps cfg n names).envs, e.1 = a := by
  induction names generalizing n with
  | nil => cases ha
  | cons x xs ih =>
    rw [addEnvDeps_cons]
    rcases List.mem_cons.mp ha with rfl | h
    · exact addEnvDeps_keeps cfg xs a _ ⟨_, List.mem_append_right _ (List.mem_singleton_self _), rfl⟩
    · exact ih _ h

/-- On a step without recorded variables (a fresh node, or a partially recycled one by
`partial_recycle_clears_env_rows`), `add_env_deps` records only non-dynamic rows of declared names. -/
theorem addEnvDeps_from_empty (cfg : KConfig) (n : Node) (names : List String) (hn : n.envs = []) :
    ∀ e ∈ (addEnvDeps cfg n names).envs, e.1 ∈ names ∧ e.2.2 = false := by
  intro e he
  rcases addEnvDeps_rows cfg n names e he with h | h
  · rw [hn] at h; cases h
  · exact h

/-- **redefinition_declares_env**, in all three branches of `define_step`.  Full recycle: the rows
are kept and `can_recycle` has compared their names with the declaration.  Partial recycle and fresh
node: `Trellis.create` leaves the step without rows, `_supply_files` and the product declarations
touch no `env_var` row of a step, and `add_env_deps` writes the declared names. -/
theorem redefinition_declares_env : RedefinitionDeclaresEnv := by
  intro s s' cfg creator d chk sk n h hlabel hkind hfind e he hdyn
  obtain ⟨label, hl, hcase⟩ := defineStep_ok h
  obtain rfl : stepKey label = sk := by
    obtain ⟨kind, lab⟩ := sk
    cases hkind
    cases Option.some.inj (hl.symm.trans hlabel)
    rfl
  have henvs : s'.envsOf (stepKey label) = some n.envs := by rw [KState.envsOf, hfind]; rfl
  rcases hcase with ⟨n0, hf, _, hcan, hr⟩ | ⟨_, hcr⟩
  · have h0 : EnvsAre (stepKey label) n0.envs s := by rw [EnvsAre, KState.envsOf, hf]; rfl
    have hn0 : n.envs = n0.envs := Option.some.inj (henvs.symm.trans (recycleStep_envs hr h0))
    obtain ⟨n1, hf1, _, hnames, _⟩ := (canRecycle_iff s _ _).1 hcan
    cases hf.symm.trans hf1
    have : e.1 ∈ sortStrs ((n0.envs.filter fun e => !e.2.2).map (·.1)) :=
      (mem_sortStrs ..).mpr (List.mem_map.mpr ⟨e, List.mem_filter.mpr ⟨hn0 ▸ he, by rw [hdyn]; rfl⟩, rfl⟩)
    rw [hnames, mem_sortStrs] at this
    exact this
  · obtain ⟨n3, hn3, hrows⟩ := createStep_env_rows s cfg _ creator _ _ hcr
    rw [henvs] at hrows
    exact ((addEnvDeps_rows cfg n3 _ e (Option.some.inj hrows ▸ he)).resolve_left (hn3 ▸ List.not_mem_nil)).1

/-- After `Step.after_recycle` with a changed shell flag or changed environment overrides (both are
ingredients of the step hash) the step is not SUCCEEDED: it is PENDING, or RUNNING / CHECKING
(finding `redefinition-not-noticed`). -/
theorem recycle_rechecks_changed_shell_or_overrides (s s' : KState) (sk : Key) (d : StepDecl) (n : Node)
    (hch : n.shell ≠ d.shell ∨ n.overrides ≠ d.overrides) (h : s.afterRecycle sk d n = .ok s') :
    ∀ st, s'.sstateOf sk = some st → st = .pending ∨ st = .running ∨ st = .checking :=
  (afterRecycle_ok h).elim (fun g => markStepPending_notDone _ _ s' sk g.2) fun g => absurd (.inr hch) g.1

/-- A step that is recorded SUCCEEDED has the current value of every tracked environment variable
recorded with it (finding `env-value-reverted-not-noticed`: with the value recorded at declaration
time, a variable that changes 1 -> 2 -> 1 goes unnoticed). -/
theorem success_records_current_env (s s' : KState) (cfg : KConfig) (step : Key) (hash : Nat)
    (h : s.completeSuccess cfg step hash = .ok s') :
    ∀ n, s'.find? step = some n → ∀ e ∈ n.envs, envValue cfg e.1 = e.2.1 := by
  obtain ⟨s1, s2, _, _, rfl⟩ := completeSuccess_ok h
  intro n hn e he
  rw [KState.refreshEnvValues, find?_modify_self] at hn
  · obtain ⟨m, _, rfl⟩ := Option.map_eq_some_iff.mp hn
    obtain ⟨e0, _, rfl⟩ := List.mem_map.mp he
    rfl
  · exact fun _ hm => hm

example : trySkip (⟨1, 2⟩ : Digests Nat) (some 1) (some 2) = .skipped ⟨1, 2⟩ := by decide
example : trySkip (⟨1, 2⟩ : Digests Nat) (some 1) (some 3) = .resetOutputs := by decide
example : Sound KState.init := by
  refine ⟨fun q st h => ?_, fun _ hd => (nomatch hd), fun _ hd => (nomatch hd.1), fun _ hd => (nomatch hd.1),
    fun _ hd => (nomatch hd)⟩
  unfold KState.sstateOf KState.find? KState.init at h
  simp only [List.find?_cons, List.find?_nil] at h
  split at h
  · cases h; exact ⟨nofun, nofun⟩
  · cases h
example : Downstream [({ src := fileKey "a", snk := stepKey "s" } : Dep)] (fileKey "a") (stepKey "s") :=
  .direct _ List.mem_cons_self rfl

end StepupModel.Props.C01
