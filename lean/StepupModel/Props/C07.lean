import StepupModel.Lemmas.Cleanup
/-!
# C07  A successful build leaves no orphaned outputs behind

Kernel part: the deletion loop `Trellis.delete_detached` (`deletePass`, `deleteDetachedBase`) and
`Workflow.delete_detached` of the kernel model.

Proved for all states: the loop always ends through its `break` within its `#nodes + 1` passes,
with no candidate left; the result is the input restricted to the surviving keys, and only detached
rows go; under the two table constraints `KeysNodup`, `SinksExist` a node survives iff it is not
`Deletable`, i.e. iff following product and dependency-sink edges from it one can reach an attached
node or go on for ever (a cycle) (`survivor_characterisation`, DESIGN T2); the paths of deleted
output rows and their parent directories are queued; a surviving step that created a deleted node
has no stored hash.

The full statement `OrphansRemoved` is false of the model (`orphan_cycle_negation`): the detached
cycle of finding F5 (step `S` created `T`, `T` built `o2`, `S` amended `o2`) survives with `o2`
BUILT and nothing queued.  `orphans_removed_partial` is the statement under `NoDetachedMixedCycle`.

Decided by the oracle only (`harness/props/c07.py`): everything about whole builds (that the plan
edits leave the dropped steps detached, that optional steps that are not needed are reverted,
that the queued files and directories are actually removed from disk).
-/
namespace StepupModel.Props.C07
open StepupModel.K

/-! ## Termination and fixed point -/

/-- One pass of the loop: when it reports that it deleted something, the number of nodes went
down; when it reports nothing, rows (up to flags) and edges are unchanged. -/
theorem delete_pass_decreases (s s' : KState) (cs : List Key) (b : Bool) (h : s.deletePass = .ok (s', cs, b)) :
    (b = true → s'.nodes.length < s.nodes.length) ∧
    (b = false → s'.cores = s.cores ∧ s'.deps = s.deps) := by
  obtain ⟨hb, ps⟩ := deletePass_spec s s' cs b h
  cases hc : s.cands with
  | nil =>
    rw [hc] at hb; subst hb
    exact ⟨nofun, fun _ => pass_nil s s' cs ps hc⟩
  | cons x xs =>
    rw [hc] at hb; subst hb
    exact ⟨fun _ => cores_length s ▸ cores_length s' ▸ pass_shrinks s s' cs ps (hc ▸ nofun), nofun⟩

/-- The survivors of `Trellis.delete_detached`: a detached node that is still there has a
product or an outgoing dependency edge. -/
def Fixpoint (s' : KState) : Prop :=
  ∀ n ∈ s'.nodes, n.detached = true →
    (∃ m ∈ s'.nodes, m.creator = some n.key ∧ m.key ≠ n.key) ∨ (∃ d ∈ s'.deps, d.src = n.key)

theorem fixpoint_of_noLeaf (s' : KState) (h : NoLeaf s') : Fixpoint s' := by
  intro n hn hdet
  refine (exists_of_not_isLeaf (h n.core (mem_cores hn)) hdet).imp (fun ⟨c, hc, hcc⟩ => ?_) id
  obtain ⟨m, hm, rfl⟩ := List.mem_map.1 hc
  exact ⟨m, hm, hcc⟩

/-- **Termination.** The loop of `Trellis.delete_detached` never runs out of its `#nodes + 1`
passes: whenever the model returns a state, the loop was left through its `break`, i.e. the last
pass found no candidate.  (Every other pass deletes a node, see `delete_pass_decreases`.)  The `forIn`
is the first loop of `deleteDetachedBase` (`deleteDetachedBase_eq`, by `rfl`). -/
theorem delete_detached_terminates (s : KState) (r : KState × List Key)
    (h : forIn (List.range (s.nodes.length + 1)) (s, ([] : List Key)) baseBody = .ok r) :
    r.1.cands = [] := by
  obtain ⟨D, _, hnl⟩ := baseLoop_spec s r h
  rw [cands_eq]
  exact List.filter_eq_nil_iff.2 fun n hn => Bool.eq_false_iff.1 (hnl n.core (mem_cores hn))

/-- **Fixed point.** After `Trellis.delete_detached` no detached node without products and
without outgoing dependency is left. -/
theorem delete_detached_fixpoint (s s' : KState) (h : s.deleteDetachedBase = .ok s') : Fixpoint s' := by
  obtain ⟨D, spec⟩ := deleteDetachedBase_spec s s' h
  exact fixpoint_of_noLeaf s' spec.noLeaf

/-- The same for `Workflow.delete_detached` (which first detaches unused static-tree files). -/
theorem workflow_delete_detached_fixpoint (s s' : KState) (h : s.deleteDetached = .ok s') : Fixpoint s' := by
  obtain ⟨st, _, hb⟩ := deleteDetached_split s s' h
  exact delete_detached_fixpoint st s' hb

/-! ## What is deleted -/

/-- The result is the input restricted to the surviving keys: rows (up to scheduling flags and
stored step hashes) and edges are kept or dropped as a whole, nothing is rewritten. -/
theorem result_is_restriction (s s' : KState) (h : s.deleteDetachedBase = .ok s') :
    ∃ D : List Key, s'.cores = s.cores.filter (fun c => !D.contains c.1) ∧
      s'.deps = s.deps.filter (fun d => !D.contains d.snk) ∧ (∀ d ∈ s'.deps, d.src ∉ D) := by
  obtain ⟨D, spec⟩ := deleteDetachedBase_spec s s' h
  exact ⟨D, spec.cores, spec.deps, spec.src_alive⟩

theorem only_detached_nodes_are_deleted (s s' : KState) (h : s.deleteDetachedBase = .ok s') (n : Node)
    (hn : n ∈ s.nodes) (hgone : s'.has n.key = false) :
    ∃ m ∈ s.nodes, m.key = n.key ∧ m.detached = true := by
  obtain ⟨D, spec⟩ := deleteDetachedBase_spec s s' h
  obtain ⟨c, hc, hk, hdet⟩ := spec.leafs n.key (spec.gone hn hgone)
  obtain ⟨m, hm, rfl⟩ := List.mem_map.1 hc
  exact ⟨m, hm, hk, hdet⟩

/-- An attached node (every row with its key is attached) survives. -/
theorem attached_nodes_survive (s s' : KState) (h : s.deleteDetachedBase = .ok s') (n : Node)
    (hn : n ∈ s.nodes) (hatt : ∀ m ∈ s.nodes, m.key = n.key → m.detached = false) : s'.has n.key = true := by
  cases hh : s'.has n.key with
  | true => rfl
  | false =>
    obtain ⟨m, hm, hk, hdet⟩ := only_detached_nodes_are_deleted s s' h n hn hh
    rw [hatt m hm hk] at hdet; cases hdet

/-- **Survivor characterisation.** With unique keys and dependency edges that end in existing
nodes (both are constraints of the tables), a node survives `Trellis.delete_detached` iff it is
not `Deletable`: from it one can reach, along creator-to-product and source-to-sink edges, an
attached node or a cycle of such edges. -/
theorem survivor_characterisation (s s' : KState) (hnd : KeysNodup s) (hcl : SinksExist s)
    (h : s.deleteDetachedBase = .ok s') (n : Node) (hn : n ∈ s.nodes) :
    s'.has n.key = true ↔ ¬ Deletable s n.key := by
  obtain ⟨D, spec⟩ := deleteDetachedBase_spec s s' h
  constructor
  · intro hhas hdel
    exact deletable_removed s s' D spec hcl n.key hdel ((has_iff s' n.key).1 hhas)
  · intro hnot
    cases hh : s'.has n.key with
    | true => rfl
    | false => exact absurd (spec.deletable hnd n.key (spec.gone hn hh)) hnot

/-- A node reaches an attached node along creator-to-product and source-to-sink edges (it is held,
directly or indirectly, by something the workflow still defines). -/
inductive ReachesAttached (s : KState) : Key → Prop
  | here (k : Key) (c : Core) (hc : c ∈ s.cores) (hk : c.1 = k) (hatt : c.2.2.1 = false) : ReachesAttached s k
  | product (k : Key) (c : Core) (hc : c ∈ s.cores) (hcr : c.2.1 = some k) (hne : c.1 ≠ k)
      (h : ReachesAttached s c.1) : ReachesAttached s k
  | sink (k : Key) (d : Dep) (hd : d ∈ s.deps) (hsrc : d.src = k) (h : ReachesAttached s d.snk) :
      ReachesAttached s k

/-- No detached cycle of creator and dependency edges that is cut off from the attached part:
every detached node either reaches an attached node or sits on a well-founded detached subgraph. -/
def NoDetachedMixedCycle (s : KState) : Prop :=
  ∀ n ∈ s.nodes, n.detached = true → ReachesAttached s n.key ∨ Deletable s n.key

/-- The full statement of the kernel part of C07: whatever detached node is left after
`Workflow.delete_detached` is held by something attached. -/
def OrphansRemoved : Prop :=
  ∀ s s' : KState, KeysNodup s → SinksExist s → s.deleteDetached = .ok s' →
    ∀ n ∈ s'.nodes, n.detached = true → ReachesAttached s' n.key

/-- **Orphans are removed (partial: no detached mixed cycle).** Every detached node whose products
and sinks are, recursively, detached and well founded is gone after `Trellis.delete_detached`;
hence under `NoDetachedMixedCycle` every detached node that is still there reaches an attached
node of the state the cleanup started from. -/
theorem orphans_removed_partial (s s' : KState) (hcl : SinksExist s) (h : s.deleteDetachedBase = .ok s') :
    (∀ k, Deletable s k → s'.has k = false) ∧
    (NoDetachedMixedCycle s → ∀ n ∈ s.nodes, n.detached = true → s'.has n.key = true → ReachesAttached s n.key) := by
  obtain ⟨D, spec⟩ := deleteDetachedBase_spec s s' h
  have hdel : ∀ k, Deletable s k → s'.has k = false := by
    intro k hk
    cases hh : s'.has k with
    | false => rfl
    | true => exact absurd ((has_iff s' k).1 hh) (deletable_removed s s' D spec hcl k hk)
  refine ⟨hdel, fun hno n hn hdet hhas => ?_⟩
  rcases hno n hn hdet with hr | hd
  · exact hr
  · rw [hdel n.key hd] at hhas; cases hhas

/-- Every deleted VOLATILE / BUILT / OUTDATED file row with a usable record has its path in the
queue afterwards (so `remove_deletable_files` will consider it). -/
theorem deleted_outputs_are_queued (s s' : KState) (hnd : KeysNodup s) (h : s.deleteDetachedBase = .ok s')
    (n : Node) (hn : n ∈ s.nodes) (hgone : s'.has n.key = false) (e : String × Option Nat)
    (he : FileEntryOf n.core e) : ∃ e' ∈ s'.toBeDeleted, e'.1 = n.key.label := by
  obtain ⟨D, spec⟩ := deleteDetachedBase_spec s s' h
  exact spec.complete hnd n.core (mem_cores hn) (spec.gone hn hgone) n.key.label
    (Or.inl ⟨e, he, he.2.1⟩)

/-- ... together with the key of its parent directory (whatever the state of the file row): the
directories StepUp created for a deleted output are considered for removal. -/
theorem deleted_file_queues_parent_directory (s s' : KState) (hnd : KeysNodup s) (h : s.deleteDetachedBase = .ok s')
    (n : Node) (hn : n ∈ s.nodes) (hk : n.key.kind = .file) (hgone : s'.has n.key = false)
    (hdir : ¬ (parentDir n.key.label = "" ∨ parentDir n.key.label = ".")) :
    ∃ e' ∈ s'.toBeDeleted, e'.1 = parentDir n.key.label ++ "/" := by
  obtain ⟨D, spec⟩ := deleteDetachedBase_spec s s' h
  exact spec.complete hnd n.core (mem_cores hn) (spec.gone hn hgone) _ (Or.inr ⟨hk, hdir, rfl⟩)

/-- Nothing that was queued before is forgotten by the deletion loop. -/
theorem queue_keeps_paths (s s' : KState) (h : s.deleteDetachedBase = .ok s') :
    ∀ e ∈ s.toBeDeleted, ∃ e' ∈ s'.toBeDeleted, e'.1 = e.1 := by
  obtain ⟨D, spec⟩ := deleteDetachedBase_spec s s' h
  exact spec.keep

/-- **Creators that lost a product and survive have no hash.** If a deleted node was created by a
step that is still in the graph, that step's stored hash is gone, so it cannot be skipped when it
is recycled (it has to run again and recreate what was deleted). -/
theorem survivors_that_lost_a_product_have_no_hash (s s' : KState) (hnd : KeysNodup s)
    (h : s.deleteDetachedBase = .ok s') (n : Node) (hn : n ∈ s.nodes) (hgone : s'.has n.key = false)
    (x : Key) (hx : n.creator = some x) (hkind : x.kind = .step) (m : Node) (hm : m ∈ s'.nodes)
    (hmx : m.key = x) : m.shash = none := by
  obtain ⟨D, spec⟩ := deleteDetachedBase_spec s s' h
  exact spec.lost hnd n.core (mem_cores hn) (spec.gone hn hgone) x hx hkind m hm hmx

/-! ## The detached cycle (finding F5) -/

/-- Step `S` created step `T`, `T` built `o2`, `S` amended `o2` as an input; then the plan dropped
`S` (everything below it is detached, `S` has no creator any more). -/
def cycleState : KState :=
  { nodes := [
      { key := rootKey, creator := some rootKey, detached := false },
      { key := ⟨.step, "S"⟩, creator := none, detached := true, sstate := .succeeded, shash := some 1 },
      { key := ⟨.step, "T"⟩, creator := some ⟨.step, "S"⟩, detached := true, sstate := .succeeded, shash := some 2 },
      { key := ⟨.file, "o2"⟩, creator := some ⟨.step, "T"⟩, detached := true, fstate := .built, fhash := some 7 }],
    deps := [
      { src := ⟨.step, "T"⟩, snk := ⟨.file, "o2"⟩ },
      { src := ⟨.file, "o2"⟩, snk := ⟨.step, "S"⟩, dyn := true }] }

theorem cycle_not_reaching (k : Key) (h : ReachesAttached cycleState k) : k = rootKey := by
  -- the root is the only attached row, it is its own creator, and no edge ends in it
  have att : ∀ c ∈ cycleState.cores, c.2.2.1 = false → c.1 = rootKey := by decide
  have prod : ∀ c ∈ cycleState.cores, c.1 = rootKey → c.2.1 = some rootKey := by decide
  have sink : ∀ d ∈ cycleState.deps, d.snk ≠ rootKey := by decide
  induction h with
  | here k c hc hk hatt => exact hk ▸ att c hc hatt
  | product k c hc hcr hne _ ih =>
    exact absurd (ih.trans (Option.some.inj ((prod c hc ih).symm.trans hcr))) hne
  | sink k d hd _ _ ih => exact absurd ih (sink d hd)

theorem cycle_run : cycleState.deleteDetached = .ok cycleState := rfl

/-- **Negation of the full statement (finding F5).** `Workflow.delete_detached` returns the
detached cycle unchanged: the BUILT file `o2` stays in the graph, nothing is queued for removal,
and none of the three nodes is held by anything attached. -/
theorem orphan_cycle_negation : ¬ OrphansRemoved := by
  intro hfull
  have hnd : KeysNodup cycleState := by
    unfold KeysNodup cycleState KState.cores
    decide
  have hcl : SinksExist cycleState := by
    unfold SinksExist KState.hasKey cycleState KState.cores
    decide
  have := hfull cycleState cycleState hnd hcl cycle_run
    { key := ⟨.file, "o2"⟩, creator := some ⟨.step, "T"⟩, detached := true, fstate := .built, fhash := some 7 }
    (by simp [cycleState]) rfl
  exact absurd (cycle_not_reaching _ this) (by decide)

/-- What the witness shows in the terms of the property: the output is still in the graph, still
BUILT, and its path was not queued. -/
theorem orphan_cycle_output_stays :
    ∃ s', cycleState.deleteDetached = .ok s' ∧ s'.has ⟨.file, "o2"⟩ = true ∧ s'.toBeDeleted = [] :=
  ⟨cycleState, cycle_run, rfl, rfl⟩

/-- A chain: dropped step `A` with output `o`, nothing consumes it. -/
def chainState : KState :=
  { nodes := [
      { key := rootKey, creator := some rootKey, detached := false },
      { key := ⟨.step, "A"⟩, creator := none, detached := true, sstate := .succeeded },
      { key := ⟨.file, "o"⟩, creator := some ⟨.step, "A"⟩, detached := true, fstate := .built, fhash := some 5 }],
    deps := [{ src := ⟨.step, "A"⟩, snk := ⟨.file, "o"⟩ }] }

example : chainState.cands.map (·.key) = [⟨.file, "o"⟩] := by decide

example : Deletable chainState ⟨.file, "o"⟩ :=
  have noProduct : ∀ c ∈ chainState.cores, c.2.1 ≠ some ⟨.file, "o"⟩ := by decide
  have noSink : ∀ d ∈ chainState.deps, d.src ≠ ⟨.file, "o"⟩ := by decide
  Deletable.mk _ (by decide) (fun c hc h => absurd h (noProduct c hc)) fun d hd h => absurd h (noSink d hd)

example : KeysNodup chainState ∧ SinksExist chainState := by
  refine ⟨by unfold KeysNodup chainState KState.cores; decide, ?_⟩
  unfold SinksExist KState.hasKey chainState KState.cores
  decide

end StepupModel.Props.C07
