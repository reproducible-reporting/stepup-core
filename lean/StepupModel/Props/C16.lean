import StepupModel.Lemmas.Rpc
/-!
# C16  Remote calls are answered exactly once and correctly paired

Theorems about the model of `stepup/core/rpc.py` in `P/Rpc.lean`: for all message lists, all ways
to cut the byte stream into chunks, all event scripts (arrivals, completion orders, writer
pauses and losses, stops).  The tie to the code is the correspondence of `harness/props/c16.py`
(the real `RPCServerConnection` and `SocketAsyncRPCClient` on in-memory streams, event by event)
and the regenerated `Generated/Rpc.lean` (wire constants, the attribute table of
`DirectorHandler`, the exception classes).

Three statements of the property are false of the code as literally stated (`server_exactly_once`,
`client_pairing`, `failure_isolated`); each is kept as a `def ..._full : Prop` with a `_negation`
witness (replayed on the real code by the harness) and the part that holds is proved as `_partial`.
-/
namespace StepupModel.Props.C16
open StepupModel.P.Rpc StepupModel.Generated.Rpc

/-! ## (1) Framing -/

/-- For every list of encodable messages and every way to cut the concatenated encoding into
chunks, the incremental decoder yields exactly those messages, in order (an empty body is read
back as the sentinel), and is left at a message boundary. -/
theorem frame_roundtrip_any_fragmentation (msgs : List Msg) (chunks : List Bytes)
    (hwf : ∀ m ∈ msgs, m.WF) (hsplit : chunks.flatten = (msgs.map encodeMessage).flatten) :
    runChunks (.buf []) chunks = (msgs.map Msg.norm, .buf []) := by
  rw [runChunks_encodes msgs [] chunks hwf (hsplit.trans (List.append_nil _).symm), pump_nil, List.append_nil]

/-- A header announcing more than `MAX_BODY_SIZE` after any number of good messages: the messages
before it are delivered, the outcome is the error, whatever follows and however it is cut. -/
theorem frame_oversize_header_is_error (msgs : List Msg) (hdr rest : Bytes) (chunks : List Bytes)
    (hwf : ∀ m ∈ msgs, m.WF) (hbad : BadHeader hdr)
    (hsplit : chunks.flatten = (msgs.map encodeMessage).flatten ++ (hdr ++ rest)) :
    runChunks (.buf []) chunks = (msgs.map Msg.norm, .bad) ∧ streamEnd (runChunks (.buf []) chunks).2 = .error := by
  have h : runChunks (.buf []) chunks = (msgs.map Msg.norm, .bad) := by
    rw [runChunks_encodes msgs _ chunks hwf hsplit, pump_of_bad (parseOne_badHeader hdr rest hbad), List.append_nil]
  exact ⟨h, by rw [h]; rfl⟩

/-- A stream that ends inside a message (anywhere in its header or body): exactly the complete
messages are delivered, never a partial one, and the outcome at EOF is "peer gone", not an error. -/
theorem frame_truncated_is_peer_gone (msgs : List Msg) (m : Msg) (t : Bytes) (chunks : List Bytes)
    (hwf : ∀ m ∈ msgs, m.WF) (hm : m.WF) (hpre : t <+: encodeMessage m)
    (hlt : t.length < (encodeMessage m).length)
    (hsplit : chunks.flatten = (msgs.map encodeMessage).flatten ++ t) :
    runChunks (.buf []) chunks = (msgs.map Msg.norm, .buf t) ∧
      streamEnd (runChunks (.buf []) chunks).2 = .peerGone := by
  have h : runChunks (.buf []) chunks = (msgs.map Msg.norm, .buf t) := by
    rw [runChunks_encodes msgs _ chunks hwf hsplit, pump_of_need (parseOne_truncated m t hm hpre hlt), List.append_nil]
  exact ⟨h, by rw [h]; rfl⟩

/-- Chunking never matters, also for streams that are not encodings of anything. -/
theorem decoder_chunking_irrelevant (chunks chunks' : List Bytes) (h : chunks.flatten = chunks'.flatten) :
    runChunks (.buf []) chunks = runChunks (.buf []) chunks' := by
  rw [runChunks_eq, runChunks_eq, h]

/-! ## (2) The server connection -/

/-- The full statement: whenever all handlers have completed and the writer has drained, every
received call has exactly one reply.  False of the code, see `server_exactly_once_negation`. -/
def server_exactly_once_full : Prop :=
  ∀ (cfg : Cfg) (evs : List Ev), let c := run cfg {} evs
    c.inflight = [] → c.sendBlocked = false → (c.sent.map (·.call)).Perm c.recvd

/-- The handler procedure `w` used in witnesses. -/
def wName : Name := [119]
def wCfg : Cfg := ⟨[(wName, true)], []⟩

/-- Witness: a call arrives, the peer closes its sending side, the handler completes.  The reply is
dropped (`RPCServerConnection.stop` documents this), although the peer may still be reading. -/
def dropScript : List Ev := [.frame (.call 7 wName true), .eof, .complete 0 .result]

theorem server_exactly_once_negation : ¬ server_exactly_once_full := by
  intro h
  have := h wCfg dropScript (by decide +kernel) (by decide +kernel)
  revert this
  decide +kernel

/-- What holds for every event script (arrivals in any fragmentation, completions in any order,
writer pauses, drains and losses, stops, malformed frames):

1. every received call is in exactly one of: in flight, reply queued, replied, dropped;
   received calls are distinct instances (`seq`) and keep the id they came with;
2. every reply written carries the `(seq, id)` of a received call, and no call is replied twice;
3. as long as the stop event is not set (no EOF, close request, stop, lost writer or failure),
   once all handlers have completed and the writer has drained, the replies are exactly the
   received calls: each has exactly one reply, with its own id. -/
theorem server_exactly_once_partial (cfg : Cfg) (evs : List Ev) :
    let c := run cfg {} evs
    (c.inflight ++ (c.queue.map (·.call) ++ (c.sent.map (·.call) ++ c.dropped))).Perm c.recvd ∧
    c.recvd.Nodup ∧ c.recvd.map (·.seq) = List.range c.recvd.length ∧
    (∀ r ∈ c.sent, r.call ∈ c.recvd) ∧ (c.sent.map (·.call)).Nodup ∧
    (c.stopped = false → c.inflight = [] → c.sendBlocked = false → (c.sent.map (·.call)).Perm c.recvd) := by
  intro c
  have h : Inv cfg c := inv_run evs (inv_init cfg)
  exact ⟨calls_perm h, nodup_recvd h, h.seqs, fun r hr => sent_mem_recvd h r.call (List.mem_map_of_mem hr),
    sent_nodup h, sent_perm_of_live h⟩

/-- Part 3 in terms of events: along `benign` events (calls arriving, handlers completing in any
order with a result or an exception, the writer pausing and draining) the stop event is never set. -/
theorem server_exactly_once_without_faults (cfg : Cfg) (evs : List Ev) (he : ∀ e ∈ evs, e.benign = true) :
    let c := run cfg {} evs
    c.inflight = [] → c.sendBlocked = false → (c.sent.map (·.call)).Perm c.recvd :=
  (server_exactly_once_partial cfg evs).2.2.2.2.2 ((kept_run evs (fun _ h => by cases h) rfl he).stopped rfl)

/-- Exactly-one-of, spelled out per call: the number of places a received call is accounted in is 1. -/
theorem server_call_in_exactly_one_class (cfg : Cfg) (evs : List Ev) (x : Call) :
    let c := run cfg {} evs
    x ∈ c.recvd →
      c.inflight.count x + (c.queue.map (·.call)).count x + (c.sent.map (·.call)).count x + c.dropped.count x = 1 := by
  intro c hx
  rw [count_calls_eq (inv_run evs (inv_init cfg)) x, if_pos hx]

/-- Nothing is dropped and both loops keep running as long as the stop event is not set. -/
theorem server_live_until_stopped (cfg : Cfg) (evs : List Ev) :
    let c := run cfg {} evs
    c.stopped = false → c.failed = none ∧ c.sendAlive = true ∧ c.recvAlive = true ∧ c.dropped = [] := by
  intro c
  exact (inv_run evs (inv_init cfg)).live

/-- A handler that completes while the send loop is idle and the writer works is answered at once,
with its own id and the kind of its outcome (value, failure, or the sentinel). -/
theorem server_reply_is_paired (c : Conn) (call : Call) (o : Outcome) (ha : c.sendAlive = true)
    (hb : c.sendBlocked = false) (hq : c.queue = []) (hl : c.lost = false) :
    (complete c call o).sent = c.sent ++ [⟨call, o.kind⟩] :=
  complete_writes c call o ha hb hq hl

/-- The full statement "a failure does not disturb other calls": whatever way a handler ends, the
other handlers of the connection keep running.  False of the code for one kind of internal
fault, see `failure_isolated_negation`. -/
def failure_isolated_full : Prop :=
  ∀ (cfg : Cfg) (evs : List Ev) (k : Nat) (o : Outcome) (x : Call), let c := run cfg {} evs
    x ∈ c.inflight → c.invoked[k]?.map (·.1) ≠ some x → x ∈ (step cfg c (.complete k o)).inflight

/-- Witness: two calls in flight, the first returns a value that cannot be pickled: the send loop
raises after sending the sentinel, the connection is torn down and the second handler is
cancelled.  (No procedure of `DirectorHandler` returns such a value.) -/
theorem failure_isolated_negation : ¬ failure_isolated_full := by
  intro h
  have := h wCfg [.frame (.call 1 wName true), .frame (.call 2 wName true)] 0 .unpicklable ⟨1, 2⟩
    (by decide +kernel) (by decide +kernel)
  revert this
  decide +kernel

/-- What holds: a handler that ends with a result or with any exception (usage error or internal
fault) leaves every other handler of the connection running, on every reachable state. -/
theorem failure_isolated_partial (cfg : Cfg) (evs : List Ev) (k : Nat) (o : Outcome) (ho : o ≠ .unpicklable)
    (x : Call) : let c := run cfg {} evs
    x ∈ c.inflight → c.invoked[k]?.map (·.1) ≠ some x →
      x ∈ (step cfg c (.complete k o)).inflight ∧ (step cfg c (.complete k o)).cancelled = c.cancelled := by
  intro c hx hne
  have h := step_complete_keeps_others (inv_run evs (inv_init cfg)) k o ho
  exact ⟨h.1 x hx hne, h.2⟩

/-- A handler that raises `CancelledError` from the inside (it awaited something of the server that
somebody else cancelled) while its connection is live: `_call_and_capture_failure` turns it into
a reply like any other exception.  On an idle working writer exactly one error reply (the
`RemoteFailure` of a `CancelledError`, not a usage error, hence `RPCError` for the caller) is
written at once under the id of that call, every other handler keeps running, nothing fails. -/
theorem cancelled_inside_gets_one_error_reply (cfg : Cfg) (evs : List Ev) (k : Nat) (call : Call) (name : Name) :
    let c := run cfg {} evs
    c.invoked[k]? = some (call, name) → call ∈ c.inflight →
    c.sendAlive = true → c.sendBlocked = false → c.lost = false →
    let c' := step cfg c (.complete k .cancelledInside)
    c'.sent = c.sent ++ [⟨call, .cancelFailure⟩] ∧
    (∀ x ∈ c.inflight, x ≠ call → x ∈ c'.inflight) ∧ c'.cancelled = c.cancelled := by
  intro c hk hin ha hb hl c'
  have hinv : Inv cfg c := inv_run evs (inv_init cfg)
  have h := step_complete_keeps_others hinv k .cancelledInside nofun
  refine ⟨step_complete_writes hinv k .cancelledInside call name hk hin ha hb hl, fun x hx hne => h.1 x hx ?_, h.2⟩
  rw [hk]
  exact fun e => hne (Option.some.inj e).symm

/-- The same in every context: such a handler is one of the "benign" completions of
`server_exactly_once_without_faults` and one of the outcomes of `failure_isolated_partial`. -/
example : (Ev.complete 0 .cancelledInside).benign = true ∧ Outcome.cancelledInside ≠ .unpicklable := by decide +kernel

/-- Writer loss: which `ConnectionError` subclass the transport reports (`ConnectionResetError`,
`BrokenPipeError`, `ConnectionAbortedError`) and whether `write` or `drain` raises it makes no
difference to the connection. -/
theorem writer_loss_class_irrelevant (cfg : Cfg) (c : Conn) (k k' : LossClass) (s s' : LossSite) :
    step cfg c (.lose k s) = step cfg c (.lose k' s') := rfl

/-- A peer that vanishes never crashes the connection and never costs a handler: on every script of
`harmless` events (all but a malformed frame and an unpicklable result; the writer may be lost with
any `ConnectionError` while calls are in flight), `serve()` does not raise and no handler is
cancelled: every request that arrived in full runs to completion. -/
theorem vanished_peer_never_fails_connection (cfg : Cfg) (evs : List Ev) (he : ∀ e ∈ evs, e.harmless = true) :
    let c := run cfg {} evs
    c.failed = none ∧ c.cancelled = [] := by
  intro c
  have h : Quiet c := quiet_run evs ⟨rfl, rfl, rfl, fun _ h => by cases h⟩ he
  exact ⟨h.1, h.2.1⟩

/-- "Received in full is applied in full": however the requester goes away after a request was
decoded (any `harmless` events) and however much time passes (`tick`: no wait of the connection is
bounded), every call that was in flight is still in flight or has run to completion (its reply
queued, written or dropped): none is cancelled by the teardown and `serve()` does not raise. -/
theorem handler_survives_teardown (cfg : Cfg) (evs more : List Ev) (hm : ∀ e ∈ evs ++ more, e.harmless = true)
    (x : Call) : let c := run cfg {} evs
    let c' := run cfg c more
    x ∈ c.inflight →
      c'.cancelled = [] ∧ c'.failed = none ∧
      (x ∈ c'.inflight ∨ x ∈ c'.queue.map (·.call) ∨ x ∈ c'.sent.map (·.call) ∨ x ∈ c'.dropped) := by
  intro c c' hx
  have hq := vanished_peer_never_fails_connection cfg (evs ++ more) hm
  rw [run_append] at hq
  refine ⟨hq.2, hq.1, ?_⟩
  simpa only [Conn.calls, List.mem_append] using
    calls_mono_run (inv_run evs (inv_init cfg)) more (List.mem_append_left _ hx)

theorem passing_time_changes_nothing (cfg : Cfg) (c : Conn) :
    (step cfg c .tick).inflight = c.inflight ∧ (step cfg c .tick).cancelled = c.cancelled ∧
    (step cfg c .tick).failed = c.failed ∧ (step cfg c .tick).sent = c.sent := by
  rw [show step cfg c .tick = settleRecv c from rfl, settleRecv_eq]
  exact ⟨rfl, rfl, rfl, rfl⟩

/-! ## (3) The client -/

/-- The full statement: a reply with an id that is not pending leaves the other calls alone.
False of the code, see `client_pairing_negation`. -/
def client_pairing_full : Prop :=
  ∀ (c : Client) (id : Nat) (body : Option Bytes), c.alive = true → c.pending.lookup id = none →
    (cstep c (.reply id body)).pending = c.pending

/-- Witness: one call pending (id 1), a reply for id 99 arrives: `_recv_loop` raises `RPCError`
and its `finally` fails the pending call with `ConnectionResetError`. -/
theorem client_pairing_negation : ¬ client_pairing_full := by
  intro h
  have := h (crun {} [.call 0]) 99 none (by decide +kernel) (by decide +kernel)
  revert this
  decide +kernel

/-- The same for a second reply to an answered call: the duplicate is an unknown id by then. -/
theorem client_duplicate_reply_fails_others :
    (crun {} [.call 0, .call 1, .reply 1 (some [1]), .reply 1 (some [1])]).resolved =
      [(0, .body (some [1])), (1, .connectionLost)] := by decide +kernel

/-- What holds: call ids in the pending table are distinct at all times; a reply with a pending id
resolves the caller registered under that id with exactly the body received, removes that entry,
and leaves every other entry and every earlier result untouched. -/
theorem client_pairing_partial (evs : List CEv) (id : Nat) (body : Option Bytes) (caller : Nat) :
    let c := crun {} evs
    ((c.pending.map (·.1)).Nodup) ∧
    (c.alive = true → c.pending.lookup id = some caller →
      let c' := cstep c (.reply id body)
      c'.resolved = c.resolved ++ [(caller, .body body)] ∧
      c'.pending = c.pending.filter (fun p => p.1 != id) ∧
      (∀ p ∈ c.pending, p.1 ≠ id → p ∈ c'.pending) ∧
      (∀ p ∈ c'.pending, p ∈ c.pending ∧ p.1 ≠ id) ∧ c'.alive = true) := by
  intro c
  refine ⟨(cinv_crun evs).1, fun ha hl => ?_⟩
  rw [cstep_reply body ha hl]
  refine ⟨rfl, rfl, ?_, ?_, ha⟩
  · intro p hp hne
    exact List.mem_filter.mpr ⟨hp, by simpa using hne⟩
  · intro p hp
    have := List.mem_filter.mp hp
    exact ⟨this.1, by simpa using this.2⟩

/-- Ids are issued by a counter: a new call gets an id no pending call has. -/
theorem client_fresh_id (evs : List CEv) : ∀ p ∈ (crun {} evs).pending, p.1 ≤ (crun {} evs).counter :=
  (cinv_crun evs).2

/-! ## (4) Only exposed procedures -/

/-- A procedure is invoked iff its name resolves to an attribute carrying the flag and the
arguments bind; on every event script only such names are ever invoked. -/
theorem only_allowed (cfg : Cfg) (evs : List Ev) :
    (∀ name b, callDecision cfg.table name b = .invoke ↔ cfg.table.lookup name = some true ∧ b = true) ∧
    (∀ p ∈ (run cfg {} evs).invoked, cfg.table.lookup p.2 = some true ∧ (p.2, true) ∈ cfg.table) := by
  refine ⟨fun _ _ => callDecision_invoke, fun p hp => ?_⟩
  have := (inv_run evs (inv_init cfg)).allowed p hp
  exact ⟨this, mem_of_lookup_eq_some this⟩

/-- A rejected call (unknown name, attribute without the flag, arguments that do not bind) invokes
nothing and is answered at once by exactly one error reply carrying its id. -/
theorem only_allowed_rejected_gets_one_error_reply (cfg : Cfg) (c : Conn) (id : Nat) (name : Name) (b : Bool)
    (hd : callDecision cfg.table name b ≠ .invoke) (hr : c.recvAlive = true) (ha : c.sendAlive = true)
    (hb : c.sendBlocked = false) (hq : c.queue = []) (hl : c.lost = false) :
    (stepFrame cfg c (.call id name b)).sent = c.sent ++ [⟨⟨c.recvd.length, id⟩, .failure false none⟩] ∧
    (stepFrame cfg c (.call id name b)).invoked = c.invoked := by
  rw [stepFrame, if_neg (by simp [hr])]
  cases hdec : callDecision cfg.table name b with
  | invoke => exact absurd hdec hd
  | unknown | notAllowed | badArgs =>
    exact ⟨complete_writes _ _ _ ha hb hq hl, (complete_recvd_invoked _ _ _).2⟩

def hasDot (n : Name) : Bool := n.contains 46

/-- Over the regenerated attribute table of `DirectorHandler`: no flagged name is a dunder name,
is private, is empty or contains a dot (checked on the complete table). -/
theorem handler_table_flagged_names_plain :
    handlerAttrs.all (fun p => !p.2 || (!isDunder p.1 && !hasDot p.1 && p.1.head? != some 95 && !p.1.isEmpty)) = true := by
  decide +kernel

def ascending : List Name → Bool
  | a :: b :: l => decide (a < b) && ascending (b :: l)
  | _ => true

theorem pairwise_of_ascending : ∀ l : List Name, ascending l = true → l.Pairwise (· < ·)
  | [], _ => .nil
  | [a], _ => List.pairwise_singleton _ _
  | a :: b :: l, h => by
    rw [ascending, Bool.and_eq_true, decide_eq_true_iff] at h
    have ih := pairwise_of_ascending (b :: l) h.2
    refine List.pairwise_cons.2 ⟨fun x hx => ?_, ih⟩
    obtain rfl | hx := List.mem_cons.1 hx
    · exact h.1
    · exact List.lt_trans h.1 ((List.pairwise_cons.1 ih).1 x hx)

/-- The names in the table are distinct, so `lookup` sees every row: `dir()` lists them in
ascending order. -/
theorem handler_table_names_distinct : (handlerAttrs.map (·.1)).Nodup := by
  have h := pairwise_of_ascending (handlerAttrs.map (·.1)) (by decide +kernel)
  exact h.imp fun {a b} (hlt : a < b) (e : a = b) => List.lt_irrefl b (e ▸ hlt)

/-- Hence, for the real handler: dunder names, private names, dotted names and names that are not
attributes are never invoked, whatever the arguments. -/
theorem only_allowed_director (name : Name) (b : Bool)
    (h : isDunder name = true ∨ hasDot name = true ∨ name.head? = some 95 ∨ handlerAttrs.lookup name = none) :
    callDecision handlerAttrs name b ≠ .invoke := by
  intro hinv
  have hl := (callDecision_invoke.mp hinv).1
  have hm := mem_of_lookup_eq_some hl
  have hall := List.all_eq_true.mp handler_table_flagged_names_plain _ hm
  simp only [Bool.not_true, Bool.false_or, Bool.and_eq_true, Bool.not_eq_true', bne_iff_ne, ne_eq] at hall
  rcases h with h | h | h | h
  · rw [hall.1.1.1] at h; cases h
  · rw [hall.1.1.2] at h; cases h
  · exact hall.1.2 h
  · rw [h] at hl; cases hl

/-- The public attributes of `DirectorHandler` without the flag, each rejected as "not allowed". -/
theorem only_allowed_director_public_unflagged :
    (handlerAttrs.filter (fun p => !p.2 && p.1.head? != some 95)).all
      (fun p => callDecision handlerAttrs p.1 true == .notAllowed) = true := by
  decide +kernel

/-! ## (5) The class of the error the caller sees -/

/-- A `UsageError`-family exception comes back as the same class when the class is found again by
module and qualified name and can be built from one string (and `STEPUP_DEBUG` is off); in every
other case (not importable, richer constructor, debug mode, internal fault) as the generic
`RPCError`. -/
theorem failure_class (e : Exc) (debug : Bool) :
    (e.usage = true → e.importable = true → e.ctorOk = true → debug = false → clientClass e debug = e.name) ∧
    (e.usage = false → clientClass e debug = rpcErrorName) ∧
    (e.importable = false ∨ e.ctorOk = false ∨ debug = true → clientClass e debug = rpcErrorName) := by
  refine ⟨?_, ?_, ?_⟩
  · intro h1 h2 h3 h4; simp [clientClass, h1, h2, h3, h4]
  · intro h1; simp [clientClass, h1]
  · intro h; rcases h with h | h | h <;> simp [clientClass, h]

/-- Over the regenerated table of `stepup.core.exceptions`: every `UsageError` subclass is rebuilt
as itself, every other class arrives as `RPCError`. -/
theorem failure_class_table :
    excTable.all (fun (n, u, i, k) =>
      clientClass ⟨n, u, i, k⟩ false == (if u then n else rpcErrorName) &&
      clientClass ⟨n, u, i, k⟩ true == rpcErrorName) = true := by
  decide +kernel

/-! ## Non-vacuity -/

/-- Encodable messages exist in every shape: the sentinel, an empty body, a non-empty body, the largest id. -/
example : ∀ m ∈ [(⟨0, none⟩ : Msg), ⟨1, some []⟩, ⟨2 ^ 64 - 1, some [1, 2, 3]⟩], m.WF := by
  intro m hm
  simp only [List.mem_cons, List.mem_nil_iff, or_false] at hm
  rcases hm with rfl | rfl | rfl <;> exact ⟨by decide +kernel, by decide +kernel⟩

/-- A bad header and a proper truncation exist. -/
example : BadHeader (List.replicate 16 255) := ⟨by decide +kernel, by decide +kernel⟩
example : [0, 0, 0, 0, 0] <+: encodeMessage ⟨5, some [9]⟩ ∧ [0, 0, 0, 0, 0].length < (encodeMessage ⟨5, some [9]⟩).length := by
  decide +kernel

/-- A script satisfying the hypotheses of part 3 of `server_exactly_once_partial` with two calls
completing out of order, a paused writer and a rejected call in between: all three are replied. -/
def liveScript : List Ev :=
  [.frame (.call 1 wName true), .frame (.call 2 wName true), .pause, .complete 1 (.usage 3),
   .frame (.call 3 [104] true), .complete 0 .result, .resume]

example : ∀ e ∈ liveScript, e.benign = true := by decide +kernel

example : let c := run wCfg {} liveScript
    c.stopped = false ∧ c.inflight = [] ∧ c.sendBlocked = false ∧
    c.sent = [⟨⟨1, 2⟩, .failure true (some 3)⟩, ⟨⟨2, 3⟩, .failure false none⟩, ⟨⟨0, 1⟩, .value⟩] := by
  decide +kernel

/-- A script for `vanished_peer_never_fails_connection`: two calls in flight, a big reply fills the
buffer, the peer vanishes with a broken pipe while the send loop waits in `drain()`; the other
handler still completes, `serve()` ends normally. -/
def vanishScript : List Ev :=
  [.frame (.call 1 wName true), .frame (.call 2 wName true), .complete 1 .bigResult,
   .lose .brokenPipe .drain, .complete 0 .cancelledInside, .eof]

example : (∀ e ∈ vanishScript, e.harmless = true) ∧
    (let c := run wCfg {} vanishScript
     c.failed = none ∧ c.cancelled = [] ∧ c.finished = true ∧ c.sent = [⟨⟨1, 2⟩, .value⟩] ∧ c.dropped = [⟨0, 1⟩]) := by
  decide +kernel

/-- A state for `cancelled_inside_gets_one_error_reply`. -/
example : let c := run wCfg {} [.frame (.call 1 wName true), .frame (.call 2 wName true)]
    c.invoked[0]? = some (⟨0, 1⟩, wName) ∧ (⟨0, 1⟩ : Call) ∈ c.inflight ∧ c.sendAlive = true ∧
    c.sendBlocked = false ∧ c.lost = false := by decide +kernel

/-- The negation witness ends quiescent with the call dropped. -/
example : let c := run wCfg {} dropScript
    c.inflight = [] ∧ c.sendBlocked = false ∧ c.sent = [] ∧ c.dropped = [⟨0, 7⟩] ∧ c.finished = true := by
  decide +kernel

/-- A client state satisfying the hypotheses of `client_pairing_partial`. -/
example : let c := crun {} [.call 10, .call 11]
    c.alive = true ∧ c.pending.lookup 2 = some 11 := by decide +kernel

end StepupModel.Props.C16
