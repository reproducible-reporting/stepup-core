import StepupModel.Lemmas.NGlob
import StepupModel.Generated.NGlob
/-!
# C17  Named glob matching is consistent with the file system and with itself

Every theorem is about the model in `P/NGlob.lean` (tokeniser, the two compilers, a regex AST with
a backtracking `fullmatch`, CPython's `iglob` on a finite tree, `NamedGlob` results); the
correspondence harness (`harness/props/c17.py`) ties each modelled function to
`stepup/core/nglob.py` on generated patterns, trees and change sets.
-/
namespace StepupModel.Props.C17
open StepupModel.P.NGlob

/-! ## 1. Updating a recorded match set = scanning again -/

/-- `r` is what a scan of the path list `paths` records for the matcher `m`: a dictionary of
non-empty sets that holds exactly the matching paths, each under its key.  By definition this is
`Holds r fun k q => q ∈ paths ∧ m q = some k` of `Lemmas/NGlob.lean`, and the proofs below pass one for the other. -/
def Records (m : Str → Option Key) (r : Results) (paths : List Str) : Prop :=
  WF r ∧ ∀ k q, q ∈ r.get k ↔ (q ∈ paths ∧ m q = some k)

/-- `added` and `deleted` are complete and disjoint relative to the old and new path sets.
(`added` may repeat unchanged paths, `deleted` may name paths that never existed: the watcher's
`updated` set holds modified files too.) -/
structure ChangeSet (oldP newP added deleted : List Str) : Prop where
  added_exist : ∀ p ∈ added, p ∈ newP
  deleted_gone : ∀ p ∈ deleted, p ∉ newP
  new_covered : ∀ p ∈ newP, p ∈ oldP ∨ p ∈ added
  old_covered : ∀ p ∈ oldP, p ∈ newP ∨ p ∈ deleted

theorem scan_records (m : Str → Option Key) (paths : List Str) :
    Records m (extend m [] paths) paths :=
  (Holds.nil.extend m paths).congr fun _ _ => ⟨fun h => h.resolve_left id, Or.inr⟩

theorem records_eqv {m : Str → Option Key} {a b : Results} {paths : List Str}
    (ha : Records m a paths) (hb : Records m b paths) : eqv a b = true :=
  (Holds.eqv ha hb).2 fun _ _ => Iff.rfl

/-- `reduce (extend old added) deleted` records the new path list when the two sets are right about the
paths the matcher accepts; nothing is asked about the others. -/
theorem records_update (m : Str → Option Key) (old : Results) (oldP newP added deleted : List Str)
    (hold : Records m old oldP)
    (hadd : ∀ p ∈ added, (m p).isSome → p ∈ newP) (hdel : ∀ p ∈ deleted, (m p).isSome → p ∉ newP)
    (hnew : ∀ p ∈ newP, (m p).isSome → p ∈ oldP ∨ p ∈ added)
    (hgone : ∀ p ∈ oldP, (m p).isSome → p ∈ newP ∨ p ∈ deleted) :
    Records m (reduce m (extend m old added) deleted) newP := by
  refine ((Holds.extend hold m added).reduce (fun k q h => h.elim (·.2) (·.2)) deleted).congr fun k q => ?_
  constructor
  · rintro ⟨(⟨ho, hm⟩ | ⟨ha, hm⟩), hd⟩
    · exact ⟨(hgone q ho (hm ▸ rfl)).resolve_right hd, hm⟩
    · exact ⟨hadd q ha (hm ▸ rfl), hm⟩
  · rintro ⟨hn, hm⟩
    exact ⟨(hnew q hn (hm ▸ rfl)).imp (⟨·, hm⟩) (⟨·, hm⟩), fun hd => hdel q hd (hm ▸ rfl) hn⟩

/-- `Records` is an invariant of the incremental update, so any number of updates stays equal to a
fresh scan. -/
theorem incremental_records (m : Str → Option Key) (old : Results) (oldP newP added deleted : List Str)
    (hold : Records m old oldP) (hc : ChangeSet oldP newP added deleted) :
    Records m (reduce m (extend m old added) deleted) newP :=
  records_update m old oldP newP added deleted hold (fun p h _ => hc.added_exist p h)
    (fun p h _ => hc.deleted_gone p h) (fun p h _ => hc.new_covered p h) (fun p h _ => hc.old_covered p h)

/-- The incremental update equals (as a dictionary of sets, `dict.__eq__`) the result of
matching the new path set from scratch. -/
theorem incremental_eq_rescan (m : Str → Option Key) (old : Results) (oldP newP added deleted : List Str)
    (hold : Records m old oldP) (hc : ChangeSet oldP newP added deleted) :
    eqv (reduce m (extend m old added) deleted) (extend m [] newP) = true :=
  records_eqv (incremental_records m old oldP newP added deleted hold hc) (scan_records m newP)

/-- `will_change` returns `None` exactly when a fresh scan of the new path set would record what
is recorded already. -/
theorem will_change_none_iff (m : Str → Option Key) (old : Results) (oldP newP added deleted : List Str)
    (hold : Records m old oldP) (hc : ChangeSet oldP newP added deleted) :
    willChange m old deleted added = none ↔ eqv (extend m [] newP) old = true := by
  have key : eqv (reduce m (extend m old added) deleted) old = eqv (extend m [] newP) old := by
    rw [Bool.eq_iff_iff, Holds.eqv (incremental_records m old oldP newP added deleted hold hc) hold,
      Holds.eqv (scan_records m newP) hold]
  unfold willChange
  simp only [key]
  split <;> simp_all

/-- When `will_change` returns a value it is the fresh scan. -/
theorem will_change_some (m : Str → Option Key) (old : Results) (oldP newP added deleted : List Str)
    (hold : Records m old oldP) (hc : ChangeSet oldP newP added deleted) (e : Results)
    (h : willChange m old deleted added = some e) : eqv e (extend m [] newP) = true := by
  unfold willChange at h
  simp only at h
  split at h
  · cases h
  · cases h; exact incremental_eq_rescan m old oldP newP added deleted hold hc

/-- `files()` lists exactly the recorded paths. -/
theorem files_spec (m : Str → Option Key) (r : Results) (paths : List Str) (h : Records m r paths) (q : Str) :
    q ∈ files r ↔ q ∈ paths ∧ (m q).isSome = true :=
  (Holds.files h q).trans
    ⟨fun ⟨_, hk⟩ => ⟨hk.1, hk.2 ▸ rfl⟩,
     fun hm => let ⟨k, hk⟩ := Option.isSome_iff_exists.mp hm.2; ⟨k, hm.1, hk⟩⟩

/-! ## 2. A repeated name binds equal substrings -/

/-- The compiler emits at most one group per name; every further occurrence is a back-reference. -/
theorem one_group_per_name (pattern : Str) (subs : Subs) (re : List Item)
    (hc : compileRegex pattern subs = .ok re) : (groupNames re).Nodup := by
  unfold compileRegex at hc
  split at hc
  · cases hc
  · exact compileToks_nodup hc

/-- In a successful match of a compiled pattern the subject splits into one segment per part of
the expression, every part accepts its segment, and every occurrence of a name `n` (the group and
all its back-references) has the segment bound to `n` in the returned `groupdict`. -/
theorem backref_equal (pattern : Str) (subs : Subs) (re : List Item) (s : Str) (env : Env)
    (hc : compileRegex pattern subs = .ok re) (hm : fullmatch re s = some env) :
    ∃ segs : List Str, segs.flatten = s ∧ SegsOK env re segs := by
  obtain ⟨segs, h1, h2, _⟩ :=
    matchItems_sound re [] s env hm (one_group_per_name pattern subs re hc) (fun _ _ => rfl)
  exact ⟨segs, h1, h2⟩

/-- Two occurrences of one name matched equal substrings. -/
theorem backref_occurrences_equal (env : Env) (re : List Item) (segs : List Str) (h : SegsOK env re segs)
    (it1 it2 : Item) (s1 s2 n : Str) (h1 : (it1, s1) ∈ re.zip segs) (h2 : (it2, s2) ∈ re.zip segs)
    (n1 : it1.name? = some n) (n2 : it2.name? = some n) : s1 = s2 :=
  Option.some.inj (((h.mem h1).bound n1).symm.trans ((h.mem h2).bound n2))

/-! ## 3. The recorded set -/

theorem matcher_isSome (ng : NG) (q : Str) : (ng.matcher q).isSome = accepts ng.regex q := by
  unfold NG.matcher matchValues accepts
  cases fullmatch ng.regex q <;> rfl

/-- What `glob()` records: the paths yielded by the modelled `iglob` (directories marked with a
trailing separator) that the regular expression accepts. -/
theorem recorded_spec (ng : NG) (t : Tree) (q : Str) :
    q ∈ files (ng.scan t) ↔ q ∈ globPaths t ng.glob ∧ accepts ng.regex q = true := by
  unfold NG.scan
  rw [files_spec ng.matcher _ _ (scan_records ng.matcher _), matcher_isSome]

/-- Statement of "recorded = existing, globbed and accepted". -/
def RecordedEqAccepted : Prop :=
  ∀ (pattern : Str) (subs : Subs) (ng : NG) (t : Tree), mkNG pattern subs = .ok ng → ∀ q,
    q ∈ files (ng.scan t) ↔ (q ∈ treePaths t ∧ q ∈ globPaths t ng.glob ∧ accepts ng.regex q = true)

/-- Every path handed to `extend` exists. -/
theorem globbed_exist (t : Tree) (g : Str) (q : Str) (hq : q ∈ globPaths t g) : q ∈ treePaths t := by
  simp only [globPaths, List.mem_filterMap] at hq
  obtain ⟨x, _, hx⟩ := hq
  unfold recordPath at hx
  split at hx
  · next hd =>
    cases hx
    exact render_mem_treePaths ((isDirQ_iff t x.1).mp hd).2
  · next hd =>
    split at hx
    · next hc =>
      cases hx
      simp only [Bool.and_eq_true, Bool.not_eq_true'] at hc
      obtain ⟨hne, hm | hm⟩ := (existsQ_iff t x.1).mp hc.2
      · exact absurd ((isDirQ_iff t x.1).mpr ⟨hne, hm⟩) hd
      · have : x = (x.1, false) := by rw [← hc.1]
        rw [this]; exact render_mem_treePaths hm
    · cases hx

/-- The recorded set equals the set of tree paths (directories with trailing slash) returned by
`iglob` and accepted by the regex: `NamedGlob.glob` only hands existing paths to `extend`
(the existence filter; CPython's `_glob2` yields its base unchecked). -/
theorem recorded_eq_accepted (ng : NG) (t : Tree) (q : Str) :
    q ∈ files (ng.scan t) ↔ (q ∈ treePaths t ∧ q ∈ globPaths t ng.glob ∧ accepts ng.regex q = true) := by
  rw [recorded_spec]
  constructor
  · rintro ⟨h1, h2⟩; exact ⟨globbed_exist t ng.glob q h1, h1, h2⟩
  · rintro ⟨_, h1, h2⟩; exact ⟨h1, h2⟩

theorem recorded_eq_accepted_all : RecordedEqAccepted :=
  fun _ _ ng t _ q => recorded_eq_accepted ng t q

/-- The property as worded ("recorded = existing paths the matcher accepts") follows from the
theorem above plus completeness of the glob for this pattern and tree.  Completeness is the
full statement `GlobComplete` below, which is false in the four classes named by the
`..._negation` theorems of section 4. -/
theorem recorded_eq_existing_accepted_partial (ng : NG) (t : Tree)
    (hcomplete : ∀ q ∈ treePaths t, accepts ng.regex q = true → q ∈ globPaths t ng.glob) (q : Str) :
    q ∈ files (ng.scan t) ↔ (q ∈ treePaths t ∧ accepts ng.regex q = true) := by
  rw [recorded_eq_accepted ng t]
  constructor
  · rintro ⟨h1, _, h3⟩; exact ⟨h1, h3⟩
  · rintro ⟨h1, h3⟩; exact ⟨h1, hcomplete q h1 h3, h3⟩

/-- The existence filter at work (the witnesses of F10): in an empty tree `n/**` records nothing although
the modelled `iglob` still yields `n/`; with `a/f` a regular file `a/f/**` records nothing. -/
theorem phantom_base_fixed :
    (mkNG [110, 47, 42, 42] []).toOption.map (fun ng => ((iglob [] ng.glob).map render, files (ng.scan []))) =
      some ([[110, 47]], []) ∧
    (mkNG [97, 47, 102, 47, 42, 42] []).toOption.map
      (fun ng => files (ng.scan [([[97]], true), ([[97], [102]], false)])) = some [] := by decide +kernel

/-! ### Obligations on the regenerated table `Generated/NGlob.lean` -/

/-- `NGLOB_REGEX_FLAGS` contains `re.DOTALL` and nothing else that changes matching. -/
theorem dotall_flag_set : Generated.NGlob.dotAll = true ∧ Generated.NGlob.onlyDotAll = true := by decide +kernel

/-- Every `re.compile` of an emitted expression (nglob.py, workflow.py) passes the flags. -/
theorem compile_sites_pass_flags :
    Generated.NGlob.compileSites = Generated.NGlob.compileSitesWithFlags ∧ 0 < Generated.NGlob.compileSites := by
  decide +kernel

/-- `.` accepts every character, so `**` accepts names with a newline. -/
theorem dot_matches_all (c : Nat) : CSet.dot.mem c = true := by
  simp [CSet.mem, dotall_flag_set.1]

/-! ## 4. The two compilers against each other (language statements) -/

def NoRepeatedNames (pattern : Str) : Prop :=
  ((tokenize pattern).filterMap fun t => match t with | .named n => some n | _ => none).Nodup

/-- Full statement `glob_complete`: every existing path the regex accepts is returned by the
plain recursive glob. -/
def GlobComplete : Prop :=
  ∀ (pattern : Str) (subs : Subs) (ng : NG) (t : Tree), mkNG pattern subs = .ok ng → closedTree t = true →
    ∀ q ∈ treePaths t, accepts ng.regex q = true → q ∈ globPaths t ng.glob

/-- Full statement `regex_eq_glob_no_repeats`: without repeated names the regex accepts exactly
what the recursive glob (hidden entries included) returns, on every tree. -/
def RegexEqGlobNoRepeats : Prop :=
  ∀ (pattern : Str) (subs : Subs) (ng : NG) (t : Tree), mkNG pattern subs = .ok ng → NoRepeatedNames pattern →
    closedTree t = true → ∀ q ∈ treePaths t, (accepts ng.regex q = true ↔ q ∈ globPaths t ng.glob)

/-- DOTALL at work (the witness of F4): tree `d/`, `d/ok`, `d/a\\nb`, pattern `d/**`: the
name with a newline is accepted by `d/.*` (DOTALL) and recorded. -/
theorem newline_fixed :
    (mkNG [100, 47, 42, 42] []).toOption.map (fun ng =>
      (accepts ng.regex [100, 47, 97, 10, 98],
       files (ng.scan [([[100]], true), ([[100], [111, 107]], false), ([[100], [97, 10, 98]], false)]))) =
    some (true, [[100, 47], [100, 47, 97, 10, 98], [100, 47, 111, 107]]) := by decide +kernel

theorem ok_of_toOption {ε α : Type} {e : Except ε α} {a : α} (h : e.toOption = some a) : e = .ok a := by
  cases e with
  | error _ => cases h
  | ok _ => cases h; rfl

/-- By design a directory is only accepted through a trailing single-component wildcard, `**`
or `/`: the literal pattern `a` does not record the directory `a/` that the glob returns. -/
theorem directory_needs_wildcard_negation : ¬ RegexEqGlobNoRepeats := by
  intro h
  have hng : mkNG [97] [] = .ok ⟨[.atom (.lit [97])], [], [97]⟩ := ok_of_toOption (by decide +kernel)
  have h1 := (h _ _ _ [([[97]], true)] hng (by unfold NoRepeatedNames; decide +kernel) (by decide +kernel) [97, 47] (by decide +kernel)).mpr (by decide +kernel)
  exact absurd h1 (by decide +kernel)

/-- `q` is an existing path of the closed tree `t` that the regex of `pattern` (no substitutions) accepts
and its glob misses. -/
def missedBy (pattern : Str) (t : Tree) (q : Str) : Bool :=
  match mkNG pattern [] with
  | .ok ng => closedTree t && decide (q ∈ treePaths t) && accepts ng.regex q && !decide (q ∈ globPaths t ng.glob)
  | .error _ => false

theorem not_globComplete {pattern : Str} {t : Tree} {q : Str} (h : missedBy pattern t q = true) :
    ¬ GlobComplete := by
  intro hg
  unfold missedBy at h
  cases hng : mkNG pattern [] with
  | error e => rw [hng] at h; cases h
  | ok ng =>
    simp only [hng, Bool.and_eq_true, Bool.not_eq_true', decide_eq_true_eq, decide_eq_false_iff_not] at h
    exact h.2 (hg _ _ ng t hng h.1.1.1 q h.1.1.2 h.1.2)

/-- `[!x]` is copied as `[^x]`, which matches a separator: `?[!x]f` (compiled to `[^/][^x]f`) accepts the
existing path `b/f` that no single-component glob returns. -/
theorem negated_class_slash_negation : ¬ GlobComplete :=
  not_globComplete (pattern := [63, 91, 33, 120, 93, 102]) (t := [([[98]], true), ([[98], [102]], false)])
    (q := [98, 47, 102]) (by decide +kernel)

/-- `a/**/*` compiles to `a/(?:.*/|)[^/]*/?`: the trailing rule only looks for a literal `/`
before the wildcard, so the existing directory path `a/` itself is accepted. -/
theorem recursive_star_base_negation : ¬ GlobComplete :=
  not_globComplete (pattern := [97, 47, 42, 42, 47, 42]) (t := [([[97]], true), ([[97], [120]], false)])
    (q := [97, 47]) (by decide +kernel)

/-- A back-reference that makes up a whole component may be empty: `b${*n}/${*n}` (compiled to
`b(?P<n>[^/]*)/(?P=n)`, glob `b*/*`) accepts the existing directory path `b/` with `n` bound to the empty
string. -/
theorem backref_empty_component_negation : ¬ GlobComplete :=
  not_globComplete (pattern := [98, 36, 123, 42, 110, 125, 47, 36, 123, 42, 110, 125]) (t := [([[98]], true)])
    (q := [98, 47]) (by decide +kernel)

/-- The run of single-component wildcards `${*m}*` may be empty as a whole: `a/${*m}*` (compiled to
`a/(?P<m>[^/]*)[^/]*/?`, glob `a/*`) accepts the existing directory path `a/` (the non-empty rule only covers
a lone wildcard after a separator). -/
theorem wildcard_run_empty_component_negation : ¬ GlobComplete :=
  not_globComplete (pattern := [97, 47, 36, 123, 42, 109, 125, 42]) (t := [([[97]], true), ([[97], [120]], false)])
    (q := [97, 47]) (by decide +kernel)

/-! ### Anonymous `*` versus a fresh named wildcard -/

/-- Acceptance by the expression compiled from a token list (`false` when the compiler raises). -/
def acceptsT (toks : List Tok) (subs : Subs) (s : Str) : Bool :=
  match compileToks toks subs with
  | .ok re => accepts re s
  | .error _ => false

def acceptsP (pattern : Str) (subs : Subs) (s : Str) : Bool :=
  match compileRegex pattern subs with
  | .ok re => accepts re s
  | .error _ => false

/-- `${*n}` -/
def wildText (n : Str) : Str := [36, 123, 42] ++ n ++ [125]

/-- Full statement `anon_named_equiv` on pattern strings: the `*` after `pre` is a token of its
own, `n` is a fresh valid name without substitution; replacing that `*` by `${*n}` does not
change the accepted set. -/
def AnonNamedEquiv : Prop :=
  ∀ (pre post n : Str) (subs : Subs) (tp tq : List Tok),
    tokenize (pre ++ 42 :: post) = tp ++ Tok.star :: tq → renderToks tp = pre →
    n ≠ [] → n.all isNameChar = true → Tok.named n ∉ tp → Tok.named n ∉ tq → subs.getD n = [42] →
    ∀ s, acceptsP (pre ++ 42 :: post) subs s = acceptsP (pre ++ wildText n ++ post) subs s

/-- Proved part, on token lists: when the replaced `*` is not preceded by a `*`/`**` token and not
followed by a `*`, `**` or `**/` token, both patterns compile to the same expression up to the
group around that wildcard, and accept the same strings (all strings, not only paths).
Not proved: that the tokeniser maps the two pattern strings to these two token lists. -/
theorem anon_named_equiv_partial (subs : Subs) (tp tq : List Tok) (n : Str)
    (hn : n ≠ []) (hsub : subs.getD n = [42]) (hp : Tok.named n ∉ tp) (hq : Tok.named n ∉ tq)
    (hl1 : tp.getLast? ≠ some .star) (hl2 : tp.getLast? ≠ some .dstar)
    (hright : ∀ t, tq.head? = some t → starLike t = false) (s : Str) :
    acceptsT (tp ++ .star :: tq) subs s = acceptsT (tp ++ .named n :: tq) subs s := by
  unfold acceptsT
  obtain ⟨h, hb⟩ := compileToks_anon subs tp tq n hn hsub hp hq hl1 hl2 hright
  rw [h]
  cases hR : compileToks (tp ++ .named n :: tq) subs with
  | error e => rfl
  | ok R => exact accepts_anon n R (hb R hR) s

/-- The hypothesis on the neighbours is needed: `a/***` rejects the directory path `a/`, while
`a/*${*n}*` accepts it (the middle `*` replaced). -/
theorem anon_named_adjacent_negation : ¬ AnonNamedEquiv := by
  intro h
  have := h [97, 47, 42] [42] [110] [] [.lit [97, 47], .star] [.star] (by rfl) (by rfl) (by decide +kernel) (by decide +kernel)
    (by decide +kernel) (by decide +kernel) (by rfl) [97, 47]
  revert this
  decide +kernel

/-! ## Non-vacuity -/

/-- A change set with an addition, a deletion, an unchanged path and a re-reported path. -/
example : ChangeSet [[97], [98], [99]] [[98], [99], [100]] [[100], [99]] [[97], [101]] := by
  constructor <;> decide +kernel

/-- `${*n}/x${*n}` matches `ab/xab` with `n = ab` and rejects `ab/xba`. -/
example : (compileRegex [36, 123, 42, 110, 125, 47, 120, 36, 123, 42, 110, 125] []).toOption.map
    (fun re => (fullmatch re [97, 98, 47, 120, 97, 98], accepts re [97, 98, 47, 120, 98, 97])) =
    some (some [([110], [97, 98])], false) := by decide +kernel

/-- A trailing `**`: the base and everything below it, hidden entries included, are recorded. -/
example : (mkNG [97, 47, 42, 42] []).toOption.map
      (fun ng => files (ng.scan [([[97]], true), ([[97], [120]], false), ([[97], [46, 104]], true)])) =
      some [[97, 47], [97, 47, 46, 104, 47], [97, 47, 120]] := by decide +kernel

/-- The hypotheses of `anon_named_equiv_partial` for `a/*.txt` and `a/${*n}.txt`. -/
example (s : Str) : acceptsT ([.lit [97, 47]] ++ .star :: [.lit [46, 116, 120, 116]]) [] s =
    acceptsT ([.lit [97, 47]] ++ .named [110] :: [.lit [46, 116, 120, 116]]) [] s :=
  anon_named_equiv_partial [] _ _ [110] (by decide +kernel) (by rfl) (by decide +kernel) (by decide +kernel) (by decide +kernel) (by decide +kernel)
    (by intro t ht; cases ht; rfl) s

end StepupModel.Props.C17
