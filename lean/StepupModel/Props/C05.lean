import StepupModel.Lemmas.Restart
import StepupModel.Lemmas.Cleanup
/-!
# C05  A build killed at any point is completed correctly after restart

What is proved here, on the kernel model (`K/*.lean`, tied to the code by the kernel
correspondence over all scopes):

* the restart's first transaction pair, `reset_interrupted_steps` (`resetInterrupted`): afterwards
  no step, attached or detached, is RUNNING, CHECKING or FAILED, every `_holding` counter is zero,
  and the reset creates no BUILT file behind a PENDING step except behind a step that was CHECKING
  (which never had a BUILT output, see the oracle's committed-state invariant);
* the two places that keep "no BUILT output behind a step that has not succeeded" true while a
  build runs: the failure branch of `mark_completed` and `reset_for_rerun`;
* the deletion queue `to_be_deleted` is memory only: `crash_leaves_orphan_files_negation` is the
  witness (finding F6) that a path can be gone from the graph, queued, and forgotten by a kill.

What is decided by the oracle only (`harness/props/c05.py`, simulated director): that the
database left by a kill after ANY commit or step action opens without consistency error under
`STEPUP_DEBUG=1`, and that the completed restart equals the uninterrupted build (graph, files,
return code).  `committed_states_invariant` (DESIGN.md section 9) is C09's theorem set (`Props/C09.lean`); the
SQL form of the invariants is evaluated by the oracle after every commit of every simulated build.
-/
namespace StepupModel.Props.C05
open StepupModel.K

/-! ## `reset_interrupted_steps` -/

/-- The rows selected by `UPDATE step SET state = PENDING WHERE state = CHECKING`.  This is
`s.stepRows .checking` (`Lemmas/OpCases.lean`), by `rfl`. -/
def checkingRows (s : KState) : List Node := s.nodes.filter fun n => n.key.kind = .step ∧ n.sstate = .checking

theorem reset_no_running_checking (s s' : KState) (h : s.resetInterrupted = .ok s') (q : Key)
    (hq : q.kind = .step) : s'.sstateOf q ≠ some .running ∧ s'.sstateOf q ≠ some .checking :=
  have ⟨_, r⟩ := resetInterrupted_spec h
  ⟨r.marked.stepIn q (· ≠ some .running) (fun _ _ _ _ => nofun) (r.idle hq).1,
    r.marked.stepIn q (· ≠ some .checking) (fun _ _ _ _ => nofun) (r.idle hq).2⟩

/-- After the reset no step is FAILED, attached or detached: a step that kept the state it had after the raw updates
and is FAILED has been marked. -/
theorem reset_no_failed (s s' : KState) (h : s.resetInterrupted = .ok s') (q : Key) (hq : q.kind = .step) :
    s'.sstateOf q ≠ some .failed := by
  obtain ⟨s2, r⟩ := resetInterrupted_spec h
  intro hfail
  rcases r.marked.step q with e | ⟨e, _⟩
  · rcases r.failed q hq (e ▸ hfail) _ hfail with g | g | g <;> cases g
  · cases e.symm.trans hfail

/-- **After the reset no attached step is FAILED** (`reset_no_failed`, which holds of detached steps
as well; `hatt` is not used): every step that failed in the killed build, or was running when it was
killed, is tried again. -/
theorem reset_no_attached_failed (s s' : KState) (h : s.resetInterrupted = .ok s') (q : Key)
    (hq : q.kind = .step) (hatt : s'.detachedOf q = some false) : s'.sstateOf q ≠ some .failed :=
  reset_no_failed s s' h q hq

/-- **After the reset every `_holding` counter is zero**, given the row invariant of C09 (a
positive counter only on a RUNNING step). -/
theorem reset_holding_zero (s s' : KState) (h : s.resetInterrupted = .ok s')
    (hinv : ∀ q n, s.find? q = some n → 0 < n.holding → n.sstate = .running)
    (q : Key) (hq : q.kind = .step) : ∀ n, s'.find? q = some n → n.holding = 0 := by
  obtain ⟨s1, s2, h1, h2, h3⟩ := resetInterrupted_ok h
  have z1 : ∀ n, s1.find? q = some n → n.holding = 0 := by
    apply foldlM_writeStepState_holding .failed (by decide) (s.stepRows .running) q s s1 h1
    by_cases hm : q ∈ (s.stepRows .running).map (·.key)
    · exact Or.inl hm
    · refine Or.inr fun n hn => Classical.byContradiction fun hpos => hm ?_
      exact List.mem_map.mpr ⟨n, mem_stepRows hn hq (hinv q n hn (Nat.pos_of_ne_zero hpos)), find_key hn⟩
  have z2 : ∀ n, s2.find? q = some n → n.holding = 0 :=
    foldlM_writeStepState_holding .pending (by decide) (checkingRows s) q s1 s2 h2 (Or.inr z1)
  exact foldlM_preserves _ _ _ (fun n : Node => (propInv_holdingZero q).pend n.key) s2 s' z2 h3

/-- The reset creates no BUILT file behind a PENDING step, except behind a step that was
CHECKING when the build was killed: every such pair after the reset existed before it. -/
theorem reset_pending_built_origin (s s' : KState) (h : s.resetInterrupted = .ok s') (d : Dep)
    (hsrc : d.src.kind = .step) (hd : PendingBuilt s' d) :
    PendingBuilt s d ∨ (d.src ∈ (checkingRows s).map (·.key) ∧ s.fstateOf d.snk = some .built) := by
  obtain ⟨s2, r⟩ := resetInterrupted_spec h
  obtain ⟨hmem, hkind, hb, hp⟩ := r.marked.pendingBuilt d hd
  rw [r.fstate] at hb
  rw [r.sstate] at hp
  split at hp
  · exact Or.inr ⟨‹_›, hb⟩
  · split at hp
    · cases hx : s.sstateOf d.src <;> rw [hx] at hp <;> cases hp
    · exact Or.inl ⟨r.deps ▸ hmem, hkind, hb, hp⟩

/-- **No output of an interrupted step is treated as up to date**: after the reset, no file at
the end of a dependency edge from a step that was RUNNING when the build was killed (or had FAILED)
is BUILT, and the step itself is PENDING.  Stated for attached steps; `hatt` is not used. -/
theorem reset_interrupted_outputs_not_built (s s' : KState) (h : s.resetInterrupted = .ok s')
    (hnodup : (s.nodes.map (·.key)).Nodup) (k : Key) (hk : k.kind = .step)
    (hst : s.sstateOf k = some .running ∨ s.sstateOf k = some .failed) (hatt : s.detachedOf k = some false) :
    s'.sstateOf k = some .pending ∧ ∀ f ∈ s.sinksOf k, f.kind = .file → s'.fstateOf f ≠ some .built := by
  obtain ⟨s2, r⟩ := resetInterrupted_spec h
  -- the first update makes a RUNNING step FAILED, the second does not select it
  have hf2 : s2.sstateOf k = some .failed := by
    have hnc : k ∉ (s.stepRows .checking).map (·.key) := fun hm => by
      have := sstateOf_of_mem_stepRows hnodup hm
      rcases hst with e | e <;> rw [e] at this <;> cases this
    rw [r.sstate k, if_neg hnc]
    split
    · rcases hst with e | e <;> rw [e] <;> rfl
    · exact hst.resolve_left fun e => ‹k ∉ (s.stepRows .running).map (·.key)› (key_mem_stepRows hk e)
  -- a FAILED step is marked: it moved, to PENDING, and a step that moved has no BUILT file behind it
  have hne : s'.sstateOf k ≠ s2.sstateOf k := fun e =>
    (r.failed k hk hf2 _ (e.trans hf2)).elim nofun (·.elim nofun nofun)
  refine ⟨((r.marked.step k).resolve_left hne).1, fun f hfm hfk => ?_⟩
  obtain ⟨d, hd, rfl, rfl⟩ := KState.mem_sinksOf.1 hfm
  exact r.marked.outs d (r.deps ▸ hd) hfk hne

/-! ## While the build runs: no BUILT output behind a step that has not succeeded -/

theorem mem_products {s : KState} {k q : Key} {n : Node} (hk : k.kind = .step) (hq : q.kind = .file)
    (hf : s.find? q = some n) (hc : n.creator = some k) : n ∈ s.products k := by
  refine mem_products_iff.2 ⟨find_mem hf, hc, fun e => ?_⟩
  rw [find_key hf] at e
  rw [e, hk] at hq
  cases hq

/-- **Failure branch of `mark_completed`** (non-zero exit, missing output, changed input, deferral):
afterwards no file created by the step is BUILT, so a kill right after this transaction leaves
nothing that looks up to date. -/
theorem complete_failure_products_not_built (s s' : KState) (cfg : KConfig) (k : Key) (wd : Bool)
    (hk : k.kind = .step) (h : s.completeFailure cfg k wd = .ok s') (q : Key) (hq : q.kind = .file)
    (hc : s.creatorOf q = some (some k)) : s'.fstateOf q ≠ some .built := by
  obtain ⟨s1, h1, hfs⟩ := completeFailure_fstate h
  obtain ⟨n, hfind, hcn⟩ := Option.map_eq_some_iff.mp hc
  rw [hfs q]
  exact foldlM_est_or_keep (·.key) (fun q b => b.fstateOf q ≠ some .built) _ _
    (fun b a b' _ hw => setFileState_outdated_notBuilt hw a.key (.inl rfl))
    (fun q b a b' _ hb hw => setFileState_outdated_notBuilt hw q (.inr hb)) s s1 h1 q <| mem_or_notBuilt hfind fun hb =>
      List.mem_filter.mpr ⟨List.mem_mergeSort.mpr (List.mem_filter.mpr
        ⟨mem_products hk hq hfind hcn, decide_eq_true (find_key hfind ▸ hq)⟩), decide_eq_true hb⟩

/-- `outdateBuilt`, the last stage of `reset_for_rerun`: afterwards no file created by the step
is BUILT. -/
theorem outdateBuilt_products_not_built (s s' : KState) (k : Key) (hk : k.kind = .step)
    (h : s.outdateBuilt k = .ok s') (q : Key) (hq : q.kind = .file) (hc : s'.creatorOf q = some (some k)) :
    s'.fstateOf q ≠ some .built := by
  unfold KState.outdateBuilt at h
  have hfilekind : ∀ a ∈ (s.products k).filter (fun n => n.key.kind = .file ∧ n.fstate = .built),
      a.key.kind = .file := fun a ha => (of_decide_eq_true (List.mem_filter.mp ha).2).1
  -- creators do not change in this stage
  have hcre : s'.creatorOf q = s.creatorOf q :=
    foldlM_keeps (fun b => b.creatorOf q = s.creatorOf q) _ _
      (fun b a b' ha hb hr => (markFileOutdated_inv (propInv_creatorOf q (b.creatorOf q)) b b' a.key
        (hfilekind a ha) rfl hr).trans hb) s s' rfl h
  obtain ⟨n, hfind, hcn⟩ := Option.map_eq_some_iff.mp (hcre ▸ hc)
  exact foldlM_est_or_keep (·.key) (fun q b => b.fstateOf q ≠ some .built) _ _
    (fun b a b' _ hr => (markFileOutdated_marked hr).2)
    (fun q b a b' _ hb hr => (markFileOutdated_marked hr).1.notBuilt hb) s s' h q <|
    mem_or_notBuilt hfind fun hb => List.mem_filter.mpr ⟨mem_products hk hq hfind hcn, decide_eq_true ⟨find_key hfind ▸ hq, hb⟩⟩

/-- **`reset_for_rerun`** (the transaction right before a command starts, and the reset of a
step whose stored hash no longer matches): afterwards no file created by the step is BUILT, so
from here until the completion transaction a kill finds the outputs of the running step OUTDATED
or PLANNED. -/
theorem reset_for_rerun_products_not_built (s s' : KState) (k : Key) (hk : k.kind = .step)
    (h : s.resetForRerun k = .ok s') (q : Key) (hq : q.kind = .file) (hc : s'.creatorOf q = some (some k)) :
    s'.fstateOf q ≠ some .built := by
  obtain ⟨_, _, _, s5, _, _, _, _, h⟩ := resetForRerun_ok h
  exact outdateBuilt_products_not_built s5 s' k hk h q hq hc

/-! ## The deletion queue does not survive a kill (finding F6) -/

/-- A kill of the director: the database keeps the last committed state, the memory-only queue
`Workflow.to_be_deleted` is gone. -/
def crash (s : KState) : KState := { s with toBeDeleted := [] }

theorem crash_queueDelete (s : KState) (p : String) (h : Option Nat) : crash (s.queueDelete p h) = crash s := rfl

theorem crash_markDir (s : KState) (d : String) : crash (s.markDirToBeDeleted d) = crash s :=
  markDir_ind (C := fun t => crash t = crash s) s d rfl rfl

/-- `File.before_delete` / `Step.before_delete` (called by `delete_detached` right before the row
is deleted, in the same transaction) leave no persistent trace: what they record is in the
memory-only queue, so a kill after that transaction's commit and before
`remove_deletable_files` is indistinguishable from never having recorded anything. -/
theorem before_delete_leaves_no_persistent_trace (s s1 : KState) (n : Node) (h : s.beforeDelete n = .ok s1) :
    crash s1 = crash s := by
  obtain ⟨s0, d, rfl, -, ⟨rfl, -⟩ | ⟨r, rfl, -⟩⟩ := beforeDelete_ok s s1 n h
  · exact crash_markDir _ _
  · exact (crash_markDir _ _).trans (crash_queueDelete _ _ _)

/-- The full statement one would want: whatever `before_delete` records about a file whose row
is being deleted is still known after a kill. -/
def DeletionRecordSurvivesCrash : Prop :=
  ∀ (s s1 : KState) (n : Node), s.beforeDelete n = .ok s1 →
    ∀ p ∈ s1.toBeDeleted.map (·.1), p ∈ (crash s1).toBeDeleted.map (·.1)

/-- A detached BUILT output with a recorded hash whose plan no longer declares it. -/
def orphanRow : Node :=
  { key := fileKey "out/old.txt", creator := none, detached := true, fstate := .built, fhash := some 7 }

/-- It is false (finding F6): `before_delete` of the orphaned output queues its path (and its
directory), the row is deleted and committed, and a kill before `remove_deletable_files` forgets
the queue: nothing in the restarted director knows the file any more. -/
theorem crash_leaves_orphan_files_negation : ¬ DeletionRecordSurvivesCrash := by
  intro hall
  have hrun : ∃ s1, ({} : KState).beforeDelete orphanRow = .ok s1 ∧ s1.toBeDeleted ≠ [] := by
    refine ⟨_, rfl, ?_⟩
    show (KState.markDirToBeDeleted _ _).toBeDeleted ≠ []
    unfold KState.markDirToBeDeleted
    split
    · simp [KState.queueDelete, orphanRow]
    · simp [KState.queueDelete]
  obtain ⟨s1, hs1, hne⟩ := hrun
  cases hq : s1.toBeDeleted with
  | nil => exact hne hq
  | cons e es =>
    have := hall {} s1 orphanRow hs1 e.1 (by rw [hq]; simp)
    simp [crash] at this

def killed : KState :=
  { nodes := [{ key := rootKey, creator := some rootKey },
              { key := stepKey "cc", creator := some rootKey, sstate := .running, holding := 1 },
              { key := fileKey "a.o", creator := some (stepKey "cc"), fstate := .built, fhash := some 3 }],
    deps := [{ src := stepKey "cc", snk := fileKey "a.o" }] }

example : ∃ s', killed.resetInterrupted = .ok s' ∧ s'.sstateOf (stepKey "cc") = some .pending ∧
    s'.fstateOf (fileKey "a.o") = some .outdated ∧ s'.holdingOf (stepKey "cc") = some 0 :=
  ⟨_, rfl, by decide, by decide, by decide⟩

example : (killed.nodes.map (·.key)).Nodup ∧ killed.sstateOf (stepKey "cc") = some .running ∧
    killed.detachedOf (stepKey "cc") = some false := by decide

end StepupModel.Props.C05
