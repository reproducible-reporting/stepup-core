import StepupModel.Drv.K
import StepupModel.Lemmas.Session
import StepupModel.Generated.Handlers
/-!
# C15  Requests that change the workflow are applied atomically

Three parts: the shape of the handlers regenerated from `director.py` (at most one `async with self.db`
block per request, no mutator outside it, no `await` inside it); the driver's `finish`, the model of
commit and rollback (a rejected request leaves state and configuration as they were); and the model of
`DBSession` (`P/Session.lean`): any interleaving of the operations of several tasks commits what the
normally left transactions give one after the other (`session_serialisable`).
-/
namespace StepupModel.Props.C15
open StepupModel StepupModel.K StepupModel.Generated StepupModel.P.Session

/-! ## One transaction per request (regenerated from `director.py` by `ast`) -/

/-- Every exposed coroutine of `DirectorHandler` performs its workflow mutations inside at most
one `async with self.db` block, calls no mutator outside such a block, and never awaits inside
one (so no other task can run between two of its statements). -/
theorem handler_single_transaction :
    ∀ h ∈ handlerShapes, h.2.2.1 ≤ 1 ∧ h.2.2.2.1 = 0 ∧ h.2.2.2.2 = 0 := by decide

/-- The six requests the property names are exposed and do mutate in exactly one block. -/
theorem mutating_requests_present :
    ∀ name ∈ ["define_step", "amend_step", "declare_static", "register_glob", "hold_dispatch", "release_dispatch"],
      ∃ h ∈ handlerShapes, h.1 = name ∧ h.2.2.1 = 1 := by decide +kernel

/-! ## A rejected request leaves the stored workflow exactly as it was -/

/-- Every request of the kernel model runs through `finish`: when its body raises, the session
keeps the state and the configuration it had before the request (the model of rollback). -/
theorem rejected_request_identity (sess : Drv.K.Session) (e : Err) :
    (Drv.K.finish sess (.error e)).1.st = sess.st ∧ (Drv.K.finish sess (.error e)).1.cfg = sess.cfg :=
  ⟨rfl, rfl⟩

/-- An accepted request replaces the state by the one its body returned, in one piece. -/
theorem accepted_request_full (sess : Drv.K.Session) (st : KState) (out : String) :
    (Drv.K.finish sess (.ok (st, out))).1.st = st := rfl

/-- `declare_static` (trees, files and patterns in one request): whatever stage fails, the
answer is an error and nothing of the earlier stages remains. -/
theorem declare_static_all_or_nothing (sess : Drv.K.Session) (c : Key) (ts fs : List String)
    (ps : List (String × List String)) (e : Err)
    (h : sess.st.declareStaticRequest sess.cfg c ts fs ps = .error e) :
    (Drv.K.finish sess (do
      let (st, chk) ← sess.st.declareStaticRequest sess.cfg c ts fs ps
      pure (st, Proto.hexList chk))).1.st = sess.st := by
  simp [h, bind, Except.bind, Drv.K.finish]

/-! ## Concurrent requests never interleave (`DBSession`) -/

/-- **Serialisability**: for every interleaving of the operations of any number of tasks, the
committed database equals the result of applying, one whole transaction after the other in commit
order, exactly the transactions that were left normally; statements of a task that does not hold
the transaction, and of transactions that were rolled back, contribute nothing. -/
theorem session_serialisable {σ : Type} (init : σ) (ops : List (Op σ)) :
    (run { committed := init, working := init } ops).committed =
      (specRun { result := init } ops).result := by
  have h0 : Rel ({ committed := init, working := init } : State σ) { result := init } :=
    ⟨rfl, rfl, (fun h => by cases h), fun _ => rfl⟩
  exact (List.foldl_rel (r := Rel) h0 fun o _ s p h => rel_step s p o h).1

/-- Only the holder's statements are executed: a statement issued by any other task is refused
and changes nothing (this is what makes the blocks of concurrent requests non-interleaving). -/
theorem exec_requires_holder {σ : Type} (s : State σ) (t : Nat) (f : σ → σ) (h : s.holder ≠ some t) :
    step s (.exec t f) = (s, .refused) := by
  simp [step, h]

/-! Non-vacuity: two tasks, the second waits, the first is rolled back, the second commits. -/
example : (run { committed := (0 : Nat), working := 0 }
    [.enter 1, .enter 2, .exec 1 (· + 5), .exec 2 (· + 100), .exitErr 1, .enter 2, .exec 2 (· + 7), .exitOk 2]).committed
      = 7 := by decide

end StepupModel.Props.C15
