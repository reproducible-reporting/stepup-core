import StepupModel.Lemmas.Norm
import StepupModel.Lemmas.Guards
/-!
# C02  The result of a build does not depend on scheduling

Proved here, on the kernel model (`K/Workflow.lean`): `normPaths` (the model of
`sorted(set(paths))`, tied to Python by `harness/normcorr.py`) depends on its argument only through
its *set* of members, and every declaration request reads its path lists through it, so the order
in which a script or the RPC layer happens to list paths is unobservable.  For a single path,
whether two declarations exclude each other (the claim check of `Props/C08.lean`, by cases in
`Lemmas/Guards.lean`) does not depend on which one is in the graph already.

Decided by the oracle only (`harness/props/c02.py`, simulated builds of the real director under
4 configurations per project): `schedule_confluence` of DESIGN.md section 9 (same canonical graph, files and return-code
class for every job count, resource limit and dispatch/completion order; fresh versus resumed
database) and the equality of rejection texts for requests that race.  `decl_commute` (same section) for whole
requests is not proved (the two orders give node tables that differ in row order; the equality
is one of canonical dumps), it is exercised by the racing projects of the oracle and by C08's
both-orders oracle.
-/
namespace StepupModel.Props.C02
open StepupModel.K

/-! ## `sorted(set(paths))` -/

theorem normPaths_mem (l : List String) (a : String) : a ∈ normPaths l ↔ a ∈ l := mem_normPaths

theorem normPaths_strictly_sorted (l : List String) : (normPaths l).Pairwise (· < ·) := normPaths_strict l

theorem normalise_idem (l : List String) : normPaths (normPaths l) = normPaths l :=
  normPaths_congr _ _ (fun _ => mem_normPaths)

theorem normalise_set_invariant (l1 l2 : List String) (h : ∀ x, x ∈ l1 ↔ x ∈ l2) :
    normPaths l1 = normPaths l2 := normPaths_congr l1 l2 h

theorem normalise_perm_invariant (l1 l2 : List String) (h : l1.Perm l2) : normPaths l1 = normPaths l2 :=
  normPaths_congr l1 l2 (fun _ => h.mem_iff)

theorem normalise_dup_invariant (l extra : List String) (h : ∀ x ∈ extra, x ∈ l) :
    normPaths (l ++ extra) = normPaths l :=
  normPaths_congr _ _ (fun x => by
    rw [List.mem_append]
    exact ⟨fun hx => hx.elim id (h x), Or.inl⟩)

/-! ## Every request reads its path lists through the normal form -/

/-- `define_step` with lists that have the same members as those of `d` (in any order, with any
duplicates) is the same request: same new state, same answer, same error. -/
theorem defineStep_set_invariant (s : KState) (cfg : KConfig) (c : Key) (d : StepDecl)
    (inp env out vol : List String) (hi : ∀ x, x ∈ inp ↔ x ∈ d.inp) (he : ∀ x, x ∈ env ↔ x ∈ d.env)
    (ho : ∀ x, x ∈ out ↔ x ∈ d.out) (hv : ∀ x, x ∈ vol ↔ x ∈ d.vol) :
    s.defineStep cfg c { d with inp := inp, env := env, out := out, vol := vol } = s.defineStep cfg c d := by
  unfold KState.defineStep
  simp only [normPaths_congr inp d.inp hi, normPaths_congr env d.env he, normPaths_congr out d.out ho,
    normPaths_congr vol d.vol hv]

/-- `declare_static_files` likewise. -/
theorem declareStaticFiles_set_invariant (s : KState) (cfg : KConfig) (c : Key) (l1 l2 : List String)
    (h : ∀ x, x ∈ l1 ↔ x ∈ l2) : s.declareStaticFiles cfg c l1 = s.declareStaticFiles cfg c l2 := by
  unfold KState.declareStaticFiles KState.staticTodo
  simp only [normPaths_congr l1 l2 h]

/-- `amend_step` likewise, for its three path lists. -/
theorem amendStep_set_invariant (s : KState) (cfg : KConfig) (k : Key) (inp inp' out out' vol vol' env : List String)
    (conc : List Key) (hi : ∀ x, x ∈ inp ↔ x ∈ inp') (ho : ∀ x, x ∈ out ↔ x ∈ out') (hv : ∀ x, x ∈ vol ↔ x ∈ vol') :
    s.amendStep cfg k inp env out vol conc = s.amendStep cfg k inp' env out' vol' conc := by
  unfold KState.amendStep KState.amendProducts
  simp only [normPaths_congr inp inp' hi, normPaths_congr out out' ho, normPaths_congr vol vol' hv]

/-- `register_nglob` likewise, for the list of matches. -/
theorem registerNglob_set_invariant (s : KState) (k : Key) (p : String) (l1 l2 : List String)
    (h : ∀ x, x ∈ l1 ↔ x ∈ l2) : s.registerNglob k p l1 = s.registerNglob k p l2 := by
  unfold KState.registerNglob
  simp only [normPaths_congr l1 l2 h]

/-! ## Symmetric rejection of single-path conflicts -/

/-- The claim check depends on the graph only through the attached claim on the path. -/
theorem check_depends_on_claim_only (s1 s2 : KState) (c : Option Key) (p : String) (role : FileRole)
    (h : s1.existingClaim p = s2.existingClaim p) :
    s1.checkDeclaration c p role = s2.checkDeclaration c p role := by
  unfold KState.checkDeclaration
  rw [h]

/-- **conflict_symm** (one path): let creator `cA` hold `p` in role `rA` in `sA` and creator `cB`
hold it in role `rB` in `sB` (the two orders of arrival).  The later declaration is rejected in
one order iff it is rejected in the other. -/
theorem conflict_symm (sA sB : KState) (p : String) (cA cB : Key) (rA rB : FileRole)
    (hA : sA.existingClaim p = some (rA, cA)) (hB : sB.existingClaim p = some (rB, cB)) :
    (∃ e, sA.checkDeclaration (some cB) p rB = .error e) ↔
      (∃ e, sB.checkDeclaration (some cA) p rA = .error e) := by
  rw [rejected_iff_other hA, rejected_iff_other hB]
  exact not_congr ⟨fun h => ⟨h.1.symm, h.2.symm⟩, fun h => ⟨h.1.symm, h.2.symm⟩⟩

/-- Two different creators (steps or the root: the declarers a plan author writes) that both
declare `p` static exclude each other in both orders, with the user-facing `GraphError`. -/
theorem static_static_rejected_either_order (sA sB : KState) (p : String) (cA cB : Key) (hne : cA ≠ cB)
    (hkA : cA.kind ≠ .st) (hkB : cB.kind ≠ .st)
    (hA : sA.existingClaim p = some (.static, cA)) (hB : sB.existingClaim p = some (.static, cB)) :
    (∃ msg, sA.checkDeclaration (some cB) p .static = .error (.graph msg)) ∧
      (∃ msg, sB.checkDeclaration (some cA) p .static = .error (.graph msg)) :=
  ⟨⟨_, collision_graph_error hA cB .static (fun h => hne h.2) hkB hkA⟩,
   ⟨_, collision_graph_error hB cA .static (fun h => hne h.2.symm) hkA hkB⟩⟩

/-- A step being defined (not yet a node) that claims `p` collides with whoever holds `p`, and
once it holds `p` any other step being defined collides with it: rejected in either order. -/
theorem output_output_rejected_either_order (sA sB : KState) (p : String) (cA cB : Key) (rA rB : FileRole)
    (hA : sA.existingClaim p = some (rA, cA)) (hB : sB.existingClaim p = some (rB, cB)) :
    (∃ e, sA.checkDeclaration none p rB = .error e) ∧
      (∃ e, sB.checkDeclaration none p rA = .error e) :=
  ⟨checkDeclaration_rejected hA none rB (nomatch ·.2), checkDeclaration_rejected hB none rA (nomatch ·.2)⟩

example : normPaths ["b", "a", "b"] = normPaths ["a", "b"] :=
  normalise_set_invariant _ _ (by
    intro x
    simp only [List.mem_cons, List.not_mem_nil, or_false]
    exact ⟨fun h => h.elim .inr fun h => h.elim .inl .inr, fun h => h.elim (fun h => .inr (.inl h)) .inl⟩)

end StepupModel.Props.C02
