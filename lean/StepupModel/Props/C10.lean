import StepupModel.Lemmas.MetaAfterW
import StepupModel.Lemmas.MetaSafeReach
import StepupModel.Lemmas.Discipline
import StepupModel.Lemmas.ReadyDiscipline
import StepupModel.Lemmas.SafeDiscipline
import StepupModel.Lemmas.JobLoopInv
import StepupModel.Generated.JobLoop
import StepupModel.Lemmas.BuildWitness
/-!
# C10  Dispatch is exact: nothing ineligible starts, nothing eligible is left

The dispatch decision of the model (`K/Scheduler.lean`) reads the regenerated truth tables of
`STEP_DISPATCH_WHERE` and `UNAVAILABLE_INPUT_WHERE`.  The tables equal their specification on the
complete finite domain; what `popNext` dispatches satisfies it on the cached columns, and `none` is
returned only when no step does.  That the cached columns equal their definitions when a decision
is taken is proved per refresh under a flag discipline (`_update_meta_ready`; `_update_meta_after`
under `CacheInvAfterW`; `_update_meta_safe` under `CacheInvSafeW`, the weakest possible one), and
the three disciplines hold after every history (`_ready` unconditionally, the other two under side
conditions that are shown to be needed).  Last, the builder's job loop and its composition with the
kernel.  The disciplines are also sampled on the real database by the oracle
(`harness/koracles.py`).
-/
namespace StepupModel.Props.C10
open StepupModel.K StepupModel.Generated

def allStepStates : List StepState := [.pending, .running, .succeeded, .failed, .checking]
def allNeeds : List Need := [.optional, .default, .target, .plan]
def allFileStates : List FileState :=
  [.undeclared, .unconfirmed, .missing, .confirmed, .planned, .built, .outdated, .volatile]
def bools : List Bool := [false, true]

/-- The complete 640-row domain of `STEP_DISPATCH_WHERE`. -/
def dispatchDomain : List (StepState × Bool × Bool × Bool × Bool × Need × Bool) :=
  allStepStates.flatMap fun st => bools.flatMap fun safe => bools.flatMap fun hh => bools.flatMap fun snh =>
    bools.flatMap fun d => allNeeds.flatMap fun need => bools.map fun ready => (st, safe, hh, snh, d, need, ready)

/-- The specification of the step-only part of dispatch eligibility. -/
def dispatchSpec (r : StepState × Bool × Bool × Bool × Bool × Need × Bool) : Bool :=
  let (st, safe, hh, snh, deferred, need, ready) := r
  st = .pending && (safe || (hh && snh)) && !deferred && need ≠ .optional && ready

/-- `STEP_DISPATCH_WHERE` equals its specification on any row whatsoever. -/
theorem dispatch_rows_spec (r : StepState × Bool × Bool × Bool × Bool × Need × Bool) :
    dispatchRows.contains r = dispatchSpec r :=
  dispatchRows_contains r.1 r.2.1 r.2.2.1 r.2.2.2.1 r.2.2.2.2.1 r.2.2.2.2.2.1 r.2.2.2.2.2.2

/-- The same for the rows of the enumerated domain, on which SQLite executed it. -/
theorem dispatch_table_exact :
    ∀ r ∈ dispatchDomain, (dispatchRows.contains r) = dispatchSpec r := fun r _ => dispatch_rows_spec r

/-- The specification of "this input blocks its consumer". -/
def unavailableSpec (st : FileState) (dyn detached : Bool) : Bool :=
  st = .volatile || (dyn && !detached && (st = .planned || st = .outdated)) ||
    (!dyn && (detached || !(st = .built || st = .confirmed)))

/-- `UNAVAILABLE_INPUT_WHERE`, executed by SQLite on its complete domain, equals the
specification; in particular a volatile input always blocks and a declared (initial) input
blocks unless it is an attached BUILT or CONFIRMED file. -/
theorem unavailable_table_exact (st : FileState) (dyn detached : Bool) :
    lookupUnavailable st dyn detached = unavailableSpec st dyn detached :=
  lookupUnavailable_eq st dyn detached

example : dispatchSpec (.pending, true, false, false, false, .default, true) = true := by decide
example : dispatchRows ≠ [] := by decide

/-- Nothing ineligible starts (on the cached columns): what holds of a step accepted by the model
of `SELECT_NEXT_STEP`.  Its resources are free unless it is only hash-checked. -/
theorem eligible_sound (s : KState) (cfg : KConfig) (n : Node) (h : s.eligible cfg n = true) :
    n.key.kind = .step ∧ n.sstate = .pending ∧ n.detached = false ∧ n.deferred = false ∧ n.ready = true ∧
      n.impliedNeed ≠ .optional ∧ cfg.threshold.rank < n.impliedNeed.rank ∧
      (n.safe = true ∨ (n.hasHash = true ∧ n.safeNH = true)) ∧
      (n.hasHash = true ∨ s.resourceUnavailable cfg n = false) :=
  (eligible_iff s cfg n).1 h

/-- Nothing eligible is left (on the cached columns): a step with all of these properties is
accepted. -/
theorem eligible_complete (s : KState) (cfg : KConfig) (n : Node)
    (hk : n.key.kind = .step) (hst : n.sstate = .pending) (hdet : n.detached = false)
    (hdef : n.deferred = false) (hready : n.ready = true) (hneed : n.impliedNeed ≠ .optional)
    (hthr : cfg.threshold.rank < n.impliedNeed.rank)
    (hsafe : n.safe = true ∨ (n.hasHash = true ∧ n.safeNH = true))
    (hres : n.hasHash = true ∨ s.resourceUnavailable cfg n = false) :
    s.eligible cfg n = true :=
  (eligible_iff s cfg n).2 ⟨hk, hst, hdet, hdef, hready, hneed, hthr, hsafe, hres⟩

/-- `popNext` (the model of `pop_next_job`) dispatches a step only if it is eligible in the state
with refreshed metadata, and answers "nothing to do" only if no step is eligible there. -/
theorem popNext_exact (s s' : KState) (cfg : KConfig) (choice : Option Key) (d : Dispatch)
    (h : s.popNext cfg choice = .ok (s', d)) :
    ∃ su, s.updateMeta cfg = .ok su ∧
      (match d with
       | .none => ∀ n ∈ su.nodes, su.eligible cfg n = false
       | .job k _ _ => ∃ n ∈ su.nodes, n.key = k ∧ su.eligible cfg n = true) := by
  obtain ⟨su, hu, ⟨_, _, rfl, hnone⟩ | ⟨k, n, run, _, hn, hkey, hel, _, _, rfl⟩⟩ := popNext_ok h
  · exact ⟨su, hu, hnone⟩
  · exact ⟨su, hu, n, hn, hkey, hel⟩

/-- `_update_meta_ready` leaves no step flagged, and a step that was flagged has its cached
`_ready` equal to the definition evaluated on the graph. -/
theorem updateMetaReady_correct (s : KState) (n : Node) (hn : n ∈ s.nodes) (hk : n.key.kind = .step)
    (hflag : n.checkReady = true) :
    ∃ n' ∈ s.updateMetaReady.nodes, n'.key = n.key ∧ n'.checkReady = false ∧ n'.ready = s.computeReady n.key :=
  ⟨_, updateMetaReady_flagged s n hn hk hflag, rfl, rfl, rfl⟩

/-- Readiness, as defined on the graph, does not depend on any cached column: recomputing the
cache does not change the definition it is compared with. -/
theorem computeReady_cache_independent (s : KState) (k : Key) :
    s.updateMetaReady.computeReady k = s.computeReady k :=
  computeReady_updateMetaReady s k

/-! ## The defer cap -/

/-- The decision `Step.mark_completed` takes for an unsuccessful run that asks for a deferral
(`deferOutcome`, used by the model of `mark_completed`): once the defer count has reached the
cap the step is FAILED (not PENDING), so a step that keeps deferring fails after `cap` attempts
and the phase cannot go on forever on it.  The count only restarts on SUCCEEDED
(`stepRowWrite_inv` in C09). -/
theorem defer_cap (cap k : Nat) (h : cap ≤ k) : deferOutcome cap k = .failed := by
  unfold deferOutcome
  have : ¬ (k + 1 ≤ cap) := by omega
  simp [this]

/-! ## The cached `_implied_need` / `_tail_time` agree with their definition after a refresh -/

open StepupModel.K.MetaAfter in
/-- Worklist correctness of `_update_meta_after`.  Flag discipline (`CacheInvAfterW`): every attached
step that is not flagged `_check_after` satisfies its local equation (cached pair = value
recomputed from its declared need, its outputs versus the targets, and the cached pairs of the
attached consumer steps) OR has a flagged consumer step (the first round writes and propagates
from every flagged step).  This is the discipline the code maintains: a new input edge flags only
the consumer, and the producer is repaired in the second round.  Then after the refresh EVERY
attached step satisfies its local equation, all flags are cleared and nothing but the three cached
columns changed. -/
theorem update_meta_after_correct (s s' : KState) (cfg : KConfig) (hk : KeysUnique s)
    (hc : CacheInvAfterW s cfg) (h : s.updateMetaAfter cfg = .ok s') :
    AfterConsistent s' cfg ∧ (∀ n ∈ s'.nodes, n.key.kind = .step → n.checkAfter = false) ∧ AfterFrame s s' :=
  updateMetaAfter_correct_weak s s' cfg hk hc h

open StepupModel.K.MetaAfter in
/-- The local equations determine the cached columns: two tables that differ only in the cached
columns and both satisfy all local equations agree on every attached step.  So "the cache agrees
with its definition" is exactly `AfterConsistent`. -/
theorem cached_need_is_determined (s t : KState) (cfg : KConfig) (hk : KeysUnique s)
    (hf : AfterFrame s t) (hs : AfterConsistent s cfg) (ht : AfterConsistent t cfg) :
    ∀ n ∈ s.nodes, ∀ n' ∈ t.nodes, n'.key = n.key → n.key.kind = .step → n.detached = false →
      n'.impliedNeed = n.impliedNeed ∧ n'.tail = n.tail :=
  afterConsistent_unique s t cfg hk hf hs ht

open StepupModel.K.MetaAfter in
/-- The incremental refresh equals the refresh from scratch (every step flagged), as an equation
of states, on an acyclic table that obeys the flag discipline. -/
theorem incremental_refresh_equals_from_scratch (s s' : KState) (cfg : KConfig) (hac : Acyclic s)
    (hk : KeysUnique s) (hc : CacheInvAfterW s cfg) (h : s.updateMetaAfter cfg = .ok s') :
    recomputeAfter s cfg = .ok s' :=
  updateMetaAfter_eq_recomputeAfter_weak s s' cfg hac hk hc h

open StepupModel.K.MetaAfter in
/-- `_update_meta_after` terminates (never reports a hang) in every reachable database: the
dependency graph of a reachable database is acyclic (C09), and the work set of round r only
contains steps at the start of a dependency chain of length >= 2r. -/
theorem update_meta_after_terminates_after_every_history (h : List (KConfig × Req)) (cfg : KConfig) :
    ∃ s', (KState.init.run h).updateMetaAfter cfg = .ok s' :=
  updateMetaAfter_no_hang _ cfg (acyclic_reachable h)

/-! ## The cached `_safe` / `_safe_ignoring_hold` agree with their definition after a refresh -/

open StepupModel.K.MetaSafe in
/-- `_update_meta_safe` (`FILL_SAFE_UPDATE` with `MAX(depth)` + `APPLY_SAFE_UPDATE`): with unique keys,
well-founded step-creator links and the flag discipline `CacheInvSafeW` (every step that is neither
flagged `_check_safe` nor below a flagged step satisfies its local equation) the refresh ends,
changes only `_safe`, `_safe_ignoring_hold`, `_check_safe`, clears every flag and leaves every step
with both local equations satisfied.  `updateMetaSafe_correct_iff` shows this discipline is the
weakest possible: the result is consistent iff it held. -/
theorem update_meta_safe_correct {s : KState} (hk : KeysUnique s) (hwf : StepCreatorWF s) (hc : CacheInvSafeW s) :
    ∃ s', s.updateMetaSafe = .ok s' ∧ SafeFrame s s' ∧
      (∀ n ∈ s'.nodes, n.key.kind = .step → n.checkSafe = false ∧ SafeLocal s' n ∧ SafeNHLocal s' n) :=
  updateMetaSafe_spec hk hwf hc

open StepupModel.K.MetaSafe in
/-- Incremental = from scratch: after the refresh the cached columns equal the specification
(walk up the creator links: every recursive step creator RUNNING or SUCCEEDED, and not holding). -/
theorem cached_safe_equals_definition {s s' : KState} (hk : KeysUnique s) (hwf : StepCreatorWF s)
    (hc : CacheInvSafeW s) (h : s.updateMetaSafe = .ok s') :
    ∀ n' ∈ s'.nodes, n'.key.kind = .step → n'.safe = safeSpec s' n' ∧ n'.safeNH = safeNHSpec s' n' :=
  updateMetaSafe_eq_spec hk hwf hc h

open StepupModel.K.MetaSafe in
/-- "Created by steps that are running or succeeded and are not holding it back": the job that
`pop_next_job` hands out has every recursive step creator RUNNING or SUCCEEDED with no open hold,
or it has a stored hash, is only hash-checked (`checking`), and every recursive step creator is
RUNNING or SUCCEEDED. -/
theorem dispatched_step_has_active_creators {s s' : KState} {cfg : KConfig} {k : Key} {d : Dispatch}
    (hk : KeysUnique s) (hwf : StepCreatorWF s) (hc : CacheInvSafeW s)
    (h : s.popNext cfg (some k) = .ok (s', d)) :
    ∃ su n, s.updateMeta cfg = .ok su ∧ SameStruct s su ∧ n ∈ su.nodes ∧ n.key = k ∧
      ((∀ a, StrictAnc su a n → a.sstate.active = true ∧ a.holding = 0) ∨
       (n.hasHash = true ∧ (∃ run, d = .job k true run) ∧ ∀ a, StrictAnc su a n → a.sstate.active = true)) :=
  (popNext_job_creators hk hwf hc h).imp fun _ hsu => hsu.imp fun _ hn => ⟨hn.1, hn.2.1.nodes, hn.2.2⟩

open StepupModel.K.MetaSafe in
/-- The whole metadata refresh (`KState.updateMeta`: safe, after, ready) terminates in every reachable
database: creator links (of attached AND detached nodes) and dependencies are acyclic after every
history, so neither recursive query can run away (the defect F11 was such a runaway). -/
theorem update_meta_terminates_after_every_history (h : List (KConfig × Req)) (cfg : KConfig) :
    ∃ su, (KState.init.run h).updateMeta cfg = .ok su :=
  updateMeta_no_hang cfg (keysNodup_reachable h) (stepCreatorWF_reachable h) (acyclic_reachable h)

open StepupModel.K.MetaSafe in
/-- The repaired defect F14 on the model: with `MIN(depth)` as duplicate resolution the witness
(a flagged step two creator levels below a flagged ancestor, stale value in between) ends with a
row that violates its local equation and no flag left to repair it; with `MAX(depth)` it is
consistent. -/
theorem min_depth_resolution_is_wrong :
    (∃ s', updateMetaSafeMin defectWitness = .ok s' ∧ ¬ SafeConsistent s' ∧ (∀ n ∈ s'.nodes, n.checkSafe = false)) ∧
    (∃ s', defectWitness.updateMetaSafe = .ok s' ∧ SafeConsistent s') := by
  obtain ⟨s1, h1, hn, hf, _⟩ := defectWitness_min
  obtain ⟨s2, h2, hc, _⟩ := defectWitness_max
  exact ⟨⟨s1, h1, hn, hf⟩, ⟨s2, h2, hc⟩⟩

/-! ## The three flag disciplines after every history -/

open StepupModel.K.MetaAfter StepupModel.K.Discipline in
/-- **The cached `_implied_need` / `_tail_time` agree with their definition whenever a decision is
taken, after any history of graph changes.**  For every history of accepted and rejected requests
from the empty workflow that runs under the target sets of `cfg` (`HistOK'`: additionally `amend`
is issued for an existing step, `reset_for_rerun` for a step, and a raw `detach` of an output file
is not issued: the director never does), the flag discipline holds in the reached database, hence
`_update_meta_after` terminates there, leaves every attached step with its local equation
satisfied (whose unique solution is the definition), clears every flag and writes nothing else.
This is the invariant that the repaired defect F20 violated: every one of the 24 request kinds is
shown to flag what it may invalidate (`Lemmas/Discipline*.lean`). -/
theorem cached_need_agrees_after_every_history (cfg : KConfig) (h : List (KConfig × Req))
    (hh : HistOK' cfg KState.init h) :
    ∃ s', (KState.init.run h).updateMetaAfter cfg = .ok s' ∧ AfterConsistent s' cfg ∧
      (∀ n ∈ s'.nodes, n.key.kind = .step → n.checkAfter = false) ∧ AfterFrame (KState.init.run h) s' :=
  updateMetaAfter_reachable_correct_weak h cfg (reachable_ti cfg h hh).disc

open StepupModel.K.MetaAfter StepupModel.K.Discipline in
/-- A new director with other targets: `reconcile_targets` carries the discipline from the old
target sets to the new ones (it flags every step whose cached TARGET elevation may be stale and
every producer of a new target). -/
theorem reconcile_carries_discipline_to_new_targets (cfgO cfgN : KConfig) (s : KState) (res : KState × String)
    (hp : TI cfgO s) (h : s.exec cfgN .reconcile = .ok res) : TI cfgN res.1 :=
  have hT := hp.soft (reconcileTargets_rel (unitOut_ok h))
  ⟨reconcileTargets_retarget hp.st hp.fo hp.disc (unitOut_ok h), hT.st, hT.fo⟩

open StepupModel.K.MetaAfter StepupModel.K.Discipline in
/-- The side condition on `detach` is needed: detaching the output FILE of a step (a request the
director never issues; `Node.detach` is only called on steps, trees and static files) leaves the
producer with a stale TARGET elevation and no flag. -/
theorem raw_detach_of_an_output_file_negation : Disc cxCfg cxState ∧ Struct cxState ∧
    ¬ FileDetachOK cxState (fileKey "o") ∧
    ∃ s', cxState.detach (fileKey "o") = .ok s' ∧ ¬ CacheInvAfterW s' cxCfg := by
  refine ⟨⟨cxState_struct.keys, by decide⟩, cxState_struct, ?_, okAnd_not (by decide)⟩
  intro h
  refine h rfl { key := fileKey "o", creator := some (stepKey "A"), fstate := .planned } (stepKey "A") (by rfl) rfl rfl ?_
  exact ⟨_, List.mem_singleton.2 rfl, rfl, rfl⟩

open StepupModel.K.MetaSafe StepupModel.K.SafeDisc in
/-- **The cached `_safe` / `_safe_ignoring_hold` agree with their definition whenever a decision is
taken, after any history.**  For every history in which a step is only defined "safe from the
start" by the root (`HistOKS`: what `initialize_boot` does; no other caller passes `_safe=True`),
under configurations that may change freely, the flag discipline of `_update_meta_safe` holds in
the reached database, hence the refresh terminates there, clears every flag and leaves in every
step row the value of the specification (every recursive step creator RUNNING or SUCCEEDED, and
holding nothing). -/
theorem cached_safe_agrees_after_every_history (h : List (KConfig × Req)) (hh : HistOKS h) :
    ∃ s', (KState.init.run h).updateMetaSafe = .ok s' ∧ SafeFrame (KState.init.run h) s' ∧
      (∀ n ∈ s'.nodes, n.key.kind = .step →
        n.checkSafe = false ∧ SafeLocal s' n ∧ SafeNHLocal s' n ∧ n.safe = safeSpec s' n ∧ n.safeNH = safeNHSpec s' n) :=
  updateMetaSafe_reachable h (reachable_safeDiscipline h hh)

open StepupModel.K.MetaSafe StepupModel.K.SafeDisc in
/-- The side condition is needed: a step defined `safe` below a step creator that is not active is
left with a wrong, unflagged `_safe` (a request the director never issues; replayed on the real
code: `harness/witness/define_safe_under_step.txt`). -/
theorem define_safe_under_step_negation :
    CacheInvSafeW cxState ∧ KeysUnique cxState ∧
    ¬ InitKindS (stepKey "A") (some (stepKey "./plan.py")) (.step { safe := true }) ∧
    ∃ s', cxState.create (stepKey "A") (some (stepKey "./plan.py")) (.step { safe := true }) = .ok s' ∧
      ¬ CacheInvSafeW s' :=
  have h := safeW_checked (fun _ => 0) (s := cxState) (by decide)
  have ⟨s', e, hq⟩ := okAnd_spec (q := brokenB)
    (r := cxState.create (stepKey "A") (some (stepKey "./plan.py")) (.step { safe := true })) (by decide)
  ⟨h.2.2, h.1, fun hi => hi rfl (stepKey "./plan.py") rfl rfl, s', e, not_disc_of_brokenB hq⟩

open StepupModel.K.ReadyDisc in
/-- **The cached `_ready` agrees with its definition after every history, unconditionally** (every
request kind, configurations free): every step that is not flagged `_check_ready` has
`_ready = "no input is unavailable"` computed from the graph.  Each of the four triggers (file
state, detached flag, dependency insert/delete, dynamic flag) is shown to be needed by a
`decide`-checked witness in `Lemmas/ReadyDiscipline.lean`. -/
theorem cached_ready_agrees_after_every_history (h : List (KConfig × Req)) :
    ∀ n ∈ (KState.init.run h).nodes, n.key.kind = .step → n.checkReady = false →
      n.ready = (KState.init.run h).computeReady n.key :=
  reachable_cacheInvReady h

open StepupModel.K.ReadyDisc in
/-- "A step is dispatched only when ... it has all inputs available", on the graph, after every
history: when `pop_next_job` hands out a job for step `k`, no input of `k` is unavailable, neither
in the database it found nor in the one it leaves: every declared input is an attached BUILT or
CONFIRMED file, no input is VOLATILE, no amended input is an attached PLANNED/OUTDATED file
(`noUnavailableInput_spec`). -/
theorem dispatched_step_inputs_available_after_every_history (h : List (KConfig × Req)) (cfg : KConfig)
    (choice : Option Key) (s' : KState) (k : Key) (chk run : Bool)
    (hd : (KState.init.run h).popNext cfg choice = .ok (s', .job k chk run)) :
    NoUnavailableInput (KState.init.run h) k ∧ NoUnavailableInput s' k :=
  let r := dispatched_step_has_no_unavailable_input (reachable_cacheInvReady h) hd
  ⟨r.1, r.2.1⟩

/-! All three flag disciplines are additionally sampled: on the model state after every request of
the generated histories (`k cacheinv` of the driver runs the executable forms, proved equivalent),
and on the real database by the cache oracle (`koracles.cache_invariants`). -/

/-! ## The builder's job loop (`builder.py`, `hash_queue.py`) -/

open StepupModel.B.JobLoop in
/-- The phase ends (`job_loop` returns) only when no task is running and none waits to be retired. -/
theorem job_loop_returns_only_when_idle (njob : Nat) (evs : List Ev)
    (h : (run njob evs).status = .returned) : (run njob evs).running = [] ∧ (run njob evs).done = [] :=
  run_retIdle njob evs h

open StepupModel.B.JobLoop in
/-- **No lost wake-up**: whenever the loop is parked on `wake_job_loop.wait()`, the event is clear
and, if a job slot is free, the scheduler has no job on offer and every queued hash job has already
been claimed by a promoted runner: the loop never sleeps on work it could start. -/
theorem parked_loop_has_nothing_to_start (njob : Nat) (evs : List Ev)
    (h : (run njob evs).status = .waiting) :
    (run njob evs).wake = false ∧
    ((run njob evs).running.length < njob →
      (run njob evs).offers = [] ∧ ∀ i ∈ (run njob evs).queue, i ∈ (run njob evs).claimed) := by
  obtain ⟨h1, h2⟩ := run_parkedInv njob evs h
  rw [(run_jobLimit njob evs).2] at h2
  exact ⟨h1, h2⟩

open StepupModel.B.JobLoop in
/-- The inner loop terminates: `njob + 4` passes always suffice (more fuel changes nothing). -/
theorem job_loop_passes_bounded (s : JL) (k : Nat) :
    settleN (s.njob + 4 + k) s = settleN (s.njob + 4) s :=
  settleN_fuel_enough _ s k (by have := mu_le s; omega)

open StepupModel.B.JobLoop in
/-- **A phase ends only after the scheduler has answered "no job"**: the pass of `job_loop` that
returns has called `pop_next_job` in that same pass and got nothing, with no task running, none left to
retire and no unclaimed hash job queued (`njob ≥ 1` is enforced by `ServeConfig`).  Together with
`popNext_exact` (the kernel side: "nothing" is answered only when no step is
eligible) and the fact that with no task running no request can reach the director between that poll
and the return, this is the converse direction of the property on the builder side. -/
theorem phase_ends_only_after_an_empty_poll (s : JL) (hn : 1 ≤ s.njob) (h : (iter s).2 = .ret) :
    (iter s).1.polls = s.polls + 1 ∧ s.offers = [] ∧ s.running = [] ∧ (∀ i ∈ s.queue, i ∈ s.claimed) := by
  obtain ⟨a, p⟩ := pass_iter s
  obtain rfl := p.ret h hn
  have hr := (iter_ret s h).1
  obtain ⟨_, _, _, _, _, _, _, _, e⟩ := p.eq
  rw [e] at hr ⊢
  exact ⟨rfl, p.offer.2 rfl, (List.append_nil _).symm.trans hr, p.queue rfl⟩

/-! ## The composed build phase: job loop × kernel (`B/Build.lean`, `Lemmas/Build*.lean`) -/

open StepupModel.B.Build in
/-- **Nothing ineligible starts, in the composed system**: whenever an event makes the loop start a step
job, that event is a pass of the loop in which the kernel's `pop_next_job` (not draining) answered with a
step that is eligible in the refreshed kernel state, and the new kernel state is that refreshed state with
the step set CHECKING or RUNNING. -/
theorem composed_start_is_a_dispatch (k0 : KState) (cfg : KConfig) (njob : Nat) (evs : List Ev) (e : Ev) (i : Nat)
    (h : (run k0 cfg njob (evs ++ [e])).jl.started = (run k0 cfg njob evs).jl.started ++ [.step i]) :
    ∃ key chk rj su n, e = .pass (some key) ∧ (run k0 cfg njob evs).draining = false ∧
      (run k0 cfg njob evs).k.popNext (run k0 cfg njob evs).cfg (some key) =
        .ok ((run k0 cfg njob (evs ++ [e])).k, .job key chk rj) ∧
      (run k0 cfg njob evs).k.updateMeta (run k0 cfg njob evs).cfg = .ok su ∧ n ∈ su.nodes ∧ n.key = key ∧
      su.eligible (run k0 cfg njob evs).cfg n = true ∧ chk = n.hasHash ∧
      su.setStepState key (if chk = true then .checking else .running) = .ok (run k0 cfg njob (evs ++ [e])).k ∧
      i = (run k0 cfg njob evs).assigned.length + 1 ∧
      (run k0 cfg njob (evs ++ [e])).assigned = (run k0 cfg njob evs).assigned ++ [(i, key, chk)] := by
  rw [run_snoc] at h ⊢
  exact start_is_dispatch _ e i h

open StepupModel.B.Build in
/-- **Nothing eligible is left: a build phase that is not draining ends only when no step is eligible.**
In the composed system, for `njob ≥ 1` (enforced by `ServeConfig`), from any kernel state and after any
event sequence: if an event makes `job_loop` return while the scheduler is not draining, then that event is a
pass in which `pop_next_job` answered "nothing", no task runs and none waits to be retired, the kernel state
at that moment is the refreshed state, and no step is eligible in it. -/
theorem phase_ends_only_when_nothing_is_eligible (k0 : KState) (cfg : KConfig) (njob : Nat) (hn : 1 ≤ njob)
    (evs : List Ev) (e : Ev)
    (h0 : (run k0 cfg njob evs).jl.status ≠ .returned)
    (h1 : (run k0 cfg njob (evs ++ [e])).jl.status = .returned)
    (hdr : (run k0 cfg njob evs).draining = false) :
    e = .pass none ∧
    (run k0 cfg njob (evs ++ [e])).jl.running = [] ∧ (run k0 cfg njob (evs ++ [e])).jl.done = [] ∧
    (run k0 cfg njob evs).k.updateMeta (run k0 cfg njob evs).cfg = .ok (run k0 cfg njob (evs ++ [e])).k ∧
    (∀ n ∈ (run k0 cfg njob (evs ++ [e])).k.nodes,
      (run k0 cfg njob (evs ++ [e])).k.eligible (run k0 cfg njob evs).cfg n = false) ∧
    NoEligible (run k0 cfg njob (evs ++ [e])).k (run k0 cfg njob evs).cfg := by
  rw [run_snoc] at h1 ⊢
  have hnj : 1 ≤ (run k0 cfg njob evs).jl.njob := by rw [(run_jobLimit k0 cfg njob evs).2]; exact hn
  obtain ⟨c, rfl, h2, h3, h4⟩ := return_is_quiescent _ e hnj h0 h1
  obtain ⟨rfl, h5, h6, h7⟩ := h4 hdr
  exact ⟨rfl, h2, h3, h5, h6, ⟨_, h7, h6⟩⟩

open StepupModel.B.Build in
/-- **No lost wake-up, composed, under a named proviso**: if every event that happens while the loop is
parked either keeps "no step is eligible" or sets the wake event (`ProvisoAlong`; proved for every event
kind except the end of a promoted hash job that writes to the database and RPC requests other than
`define`/`release`: `benign_wakesOrKeeps`), then a parked loop with a free slot and a scheduler that is not
draining has no eligible step. -/
theorem composed_no_lost_wakeup_partial (k0 : KState) (cfg : KConfig) (njob : Nat) (evs : List Ev)
    (hp : ProvisoAlong (init k0 cfg njob) evs) (hpk : (run k0 cfg njob evs).parked = true) :
    (run k0 cfg njob evs).jl.wake = false ∧
    ((run k0 cfg njob evs).jl.running.length < njob → (run k0 cfg njob evs).draining = false →
      NoEligible (run k0 cfg njob evs).k cfg) :=
  no_lost_wakeup k0 cfg njob evs hp hpk

open StepupModel.B.Build StepupModel.B.Build.Witness in
/-- The proviso is necessary: a kernel-checked run (two slots) after which the loop is parked with a free
slot, the wake event clear and the scheduler not draining, although step `B` is eligible: the end of a
promoted hash job (started by an `amend` of the still running step A) confirmed B's input and set no wake
event.  The real code behaves the same (`harness/witness/build_promoted_hash_wakeup.py`): the dispatch of B
waits for the next wake-up, at the latest the end of A (`parked_loop_is_woken_by_the_end_of_a_task`); the
phase cannot end meanwhile (`phase_ends_only_when_nothing_is_eligible`).  A delay, not a violation of the
property as stated. -/
theorem composed_no_lost_wakeup_negation :
    s11.parked = true ∧ s11.jl.wake = false ∧ s11.jl.running.length < 2 ∧ s11.draining = false ∧
    s11.jl.running = [.step 1] ∧
    ¬ NoEligible s11.k {} ∧ NoEligible s10.k {} ∧ ¬ WakesOrKeeps s10 lastEv ∧ ¬ Benign s10 lastEv := by
  have ⟨h1, h2, h3, h4, h5, hne, hbefore, hw, hben⟩ : s11.parked = true ∧ s11.jl.wake = false ∧
      s11.jl.running.length < 2 ∧ s11.draining = false ∧ s11.jl.running = [.step 1] ∧
      ¬ NoEligible s11.k {} ∧ NoEligible s10.k {} ∧ (applyEv s10 lastEv).jl.wake = false ∧
      s10.jl.running.contains (.hash 1) = false := by decide +kernel
  have hcfg : s10.cfg = {} := by rw [s10_eq]; exact run_cfg _ _ _ _
  have hk : (applyEv s10 lastEv).k = s11.k := by rw [s11_eq]; exact (unpark_frame _).1.symm
  refine ⟨h1, h2, h3, h4, h5, hne, hbefore, fun hwk => ?_, fun hb => ?_⟩
  · unfold WakesOrKeeps at hwk
    rw [hcfg, hk, hw] at hwk
    rcases hwk hbefore with h | h
    · exact hne h
    · cases h
  · rcases hb with hb | hb
    · rw [hben] at hb; cases hb
    · cases hb

open StepupModel.B.Build in
/-- Without any proviso: a parked loop always has a running task, and the end of any running task takes
it out of `wait()`. -/
theorem parked_loop_is_woken_by_the_end_of_a_task (k0 : KState) (cfg : KConfig) (njob : Nat) (evs : List Ev)
    (hpk : (run k0 cfg njob evs).parked = true) :
    ((run k0 cfg njob evs).jl.wake = false ∧ (run k0 cfg njob evs).jl.done = [] ∧
      (run k0 cfg njob evs).jl.running ≠ []) ∧
    (∀ j rs, StepupModel.B.JobLoop.Job.step j ∈ (run k0 cfg njob evs).jl.running →
      (step (run k0 cfg njob evs) (.finish j rs)).parked = false) :=
  have ⟨h1, _, h3, h4⟩ := run_parkedBusy k0 cfg njob evs hpk
  ⟨⟨h1, h3, h4⟩, (end_of_running_job_unparks _ hpk).1⟩

/-- Obligations on the source (tables regenerated by `ast` on every run): the events that the
model treats as setting the wake event do so in the code: a finished task (`_task_done`), a retired
task (`handle_done_tasks`), a submitted hash job (`HashQueue.submit`); the loop body ends with
`wait()` directly followed by `clear()`; the loop returns under exactly the modelled test; and every
RPC handler that can make a step runnable (`define_step`, `release`) sets the wake event. -/
theorem wake_sites_as_modelled :
    (∀ f ∈ Generated.jobLoopWakeFacts, f.2 = true) ∧
    Generated.jobLoopReturnTests = ["len(self.running_tasks) == 0 and len(self.done_tasks) == 0"] ∧
    (∀ r ∈ Generated.handlerWakes, r.2.1 = true → r.2.2 = true) ∧
    (∃ r ∈ Generated.handlerWakes, r.1 = "define_step" ∧ r.2.1 = true) ∧
    (∃ r ∈ Generated.handlerWakes, r.1 = "release_dispatch" ∧ r.2.1 = true) :=
  ⟨by decide, rfl, by decide, by decide, by decide⟩

open StepupModel.B.JobLoop in
example : (run 2 [.offer 1, .start]).status = .waiting ∧ (run 2 [.offer 1, .start]).running.length < 2 ∧
    (run 2 [.offer 1, .start, .fin (.step 1)]).status = .returned := by decide

end StepupModel.Props.C10
