import StepupModel.Lemmas.Cleanup
import StepupModel.Lemmas.CleanupFS
import StepupModel.Lemmas.EverOutput
/-!
# C06  Cleaning never destroys what StepUp does not own

What is proved here (for all states, queues, file systems, argument sets of the models):

* the three cleanup entry points are called from one place only, the final `else` of the chain in
  `Builder.finalize` (regenerated by `ast`); the model `B.cleanupRuns` of that chain
  (`B/Cleanup.lean`; `P.Report.cleanupRuns` of C19 reads it on flags) is true exactly without
  targets, with no return-code flag but WARNING and with cleaning enabled;
* every file entry entering `to_be_deleted` is the label of a file row in state VOLATILE / BUILT /
  OUTDATED of the state the request started from, carrying that row's recorded hash; never a
  STATIC-role or UNDECLARED row, and a row adopted with `static()` loses its recorded hash;
* the model of `remove_deletable_files` removes a regular file only when it is queued and its
  content equals the record (or it has none: volatile), a directory only when nothing is left
  below it;
* `stepup clean`: the row filter regenerated from the SQL selects only BUILT / OUTDATED / VOLATILE
  rows, detached ones unless `--all`; the model of the loop removes a file only for such a row
  and, unless `--unsafe`, only if it is volatile or unchanged.

Decided by the oracle only (`harness/props/c06.py`, simulated builds and real `clean` runs on
scratch trees): that the rows in state VOLATILE / BUILT / OUTDATED are exactly paths some step
declared as output (one direction, the history invariant `EverOutput` of DESIGN, is proved at the
end of this file: `product_rows_were_declared_by_a_step`, `cleanup_queues_only_declared_outputs`),
that the recorded hash is the content StepUp last saw, and everything about whole builds.
The tie of the models to the code is the correspondence in the same harness.
-/
namespace StepupModel.Props.C06
open StepupModel.K StepupModel.B StepupModel.Generated

/-! ## The guard chain of `Builder.finalize` -/

/-- Structure of `Builder.finalize` as it is in the code: one `if / elif / elif / else` chain
with exactly these tests, no cleanup call in a guarded branch or outside the chain, the three
cleanup calls in the final `else`, in this order; and no other call site in the package. -/
theorem finalize_guard_table :
    Finalize.guardChain =
      [("len(self.workflow.targets) > 0 or len(self.workflow.target_dirs) > 0", []),
       ("self.returncode & ~ReturnCode.WARNING", []),
       ("not self.do_remove_outdated", [])] ∧
    Finalize.elseCalls = ["revert_optional_steps", "delete_detached", "remove_deletable_files"] ∧
    Finalize.callsOutsideChain = [] ∧
    (∀ site ∈ Finalize.cleanupCallSites, site.1 = "builder" ∧ site.2.1 = "Builder.finalize") :=
  ⟨rfl, rfl, rfl, by decide⟩

/-- The model's reading of the second guard agrees with `bool(ReturnCode(v) & ~ReturnCode.WARNING)`
evaluated by Python for every combination of flags. -/
theorem incomplete_matches_code : ∀ e ∈ Finalize.incompleteTable, incomplete e.1 = e.2 := by decide

/-- **Guards.** The cleanup pass runs exactly when the build had no file targets and no directory
targets, the return code carries no flag except possibly WARNING, and cleaning is enabled. -/
theorem finalize_guards (nTargets nTargetDirs returncode : Nat) (clean : Bool) :
    cleanupRuns nTargets nTargetDirs returncode clean = true ↔
      nTargets = 0 ∧ nTargetDirs = 0 ∧ (returncode = 0 ∨ returncode = Finalize.warningBit) ∧ clean = true := by
  unfold cleanupRuns incomplete
  by_cases h1 : nTargets > 0 ∨ nTargetDirs > 0
  · simp only [h1, if_true, Bool.false_eq_true, false_iff]
    omega
  · simp only [h1, if_false]
    have h1' : nTargets = 0 ∧ nTargetDirs = 0 := by omega
    by_cases h2 : returncode = 0
    · cases clean <;> simp [h1', h2]
    · by_cases h3 : returncode = Finalize.warningBit
      · cases clean <;> simp [h1', h3]
      · cases clean <;> simp [h1', h2, h3]

/-- After an incomplete build, a build restricted to targets, or with `--no-clean`, the cleanup
part of `finalize` changes nothing: not the stored workflow, not the queue, not a single file. -/
theorem no_cleanup_when_guarded (s : KState) (fs : FS) (nTargets nTargetDirs returncode : Nat) (clean : Bool)
    (h : nTargets > 0 ∨ nTargetDirs > 0 ∨ (returncode ≠ 0 ∧ returncode ≠ Finalize.warningBit) ∨ clean = false) :
    finalizeCleanup s fs nTargets nTargetDirs returncode clean = .ok (s, fs, []) := by
  have hr : cleanupRuns nTargets nTargetDirs returncode clean = false := by
    cases hc : cleanupRuns nTargets nTargetDirs returncode clean with
    | false => rfl
    | true =>
      rw [finalize_guards] at hc
      rcases h with h | h | h | h
      · omega
      · omega
      · rcases hc.2.2.1 with g | g
        · exact absurd g h.1
        · exact absurd g h.2
      · rw [hc.2.2.2] at h; cases h
  exact finalizeCleanup_guarded hr s fs

/-! ## What enters `to_be_deleted` -/

/-- The entry that cleanup queues for the file row `n`.  This is `FileEntryOf n.core e` of
`Lemmas/CleanupLoop.lean` (`outputEntryOf_iff`, by `Iff.rfl`). -/
def OutputEntryOf (n : Node) (e : String × Option Nat) : Prop :=
  n.key.kind = .file ∧ e.1 = n.key.label ∧
    (n.fstate = .volatile ∨ n.fstate = .built ∨ n.fstate = .outdated) ∧
    (e.2 = none ↔ n.fstate = .volatile) ∧ (∀ h, e.2 = some h → n.fhash = some h)

theorem outputEntryOf_iff (n : Node) (e : String × Option Nat) : OutputEntryOf n e ↔ FileEntryOf n.core e :=
  Iff.rfl

/-- `File.before_delete` / `Step.before_delete`: the queue grows by directory keys and at most by
the entry of the deleted row itself, and only if that row is VOLATILE / BUILT / OUTDATED. -/
theorem before_delete_queues_only_outputs (s s' : KState) (n : Node) (h : s.beforeDelete n = .ok s') :
    ∀ e ∈ s'.toBeDeleted, e ∈ s.toBeDeleted ∨ IsDirEntry e ∨ OutputEntryOf n e :=
  (beforeDelete_grows h).sound

/-- **`Trellis.delete_detached`**: every file entry it queues belongs to a row of the state it
started from which was detached, is VOLATILE / BUILT / OUTDATED, and is gone afterwards. -/
theorem trellis_delete_detached_only_detached (s s' : KState) (h : s.deleteDetachedBase = .ok s') :
    ∀ e ∈ s'.toBeDeleted, e ∈ s.toBeDeleted ∨ IsDirEntry e ∨
      ∃ n ∈ s.nodes, n.detached = true ∧ OutputEntryOf n e ∧ s'.has n.key = false :=
  deleteDetachedBase_queue s s' h

/-- **`Workflow.delete_detached`** (unused static-tree files are detached first, then the loop). -/
theorem delete_detached_queues_only_outputs (s s' : KState) (h : s.deleteDetached = .ok s') :
    ∀ e ∈ s'.toBeDeleted, e ∈ s.toBeDeleted ∨ IsDirEntry e ∨ ∃ n ∈ s.nodes, OutputEntryOf n e :=
  deleteDetached_queue s s' h

/-- **`revert_optional_steps`**: what it queues are outputs of attached steps whose implied need
is OPTIONAL, rows of the state it started from, with the row's hash column (none for VOLATILE). -/
theorem revert_optional_queues_only_outputs (s s' : KState) (h : s.revertOptional = .ok s') :
    ∀ e ∈ s'.toBeDeleted, e ∈ s.toBeDeleted ∨ IsDirEntry e ∨
      ∃ n ∈ s.nodes, RevertEntryOf n e ∧
        ∃ o ∈ s.nodes, o.key.kind = .step ∧ o.detached = false ∧ o.impliedNeed = .optional ∧
          ∃ d ∈ s.deps, d.src = o.key ∧ d.snk = n.key :=
  (revertOptional_spec s s' h).queue

/-- With the row invariant of the `file` table (BUILT / OUTDATED rows have a hash: the CHECK
constraint, C09 `fileRowWrite_inv`), what `revert_optional_steps` queues has the same shape as
what `before_delete` queues: no hash exactly for VOLATILE. -/
theorem revert_entry_is_output_entry (n : Node) (e : String × Option Nat)
    (hinv : (n.fstate = .built ∨ n.fstate = .outdated) → n.fhash.isSome) (h : RevertEntryOf n e) :
    OutputEntryOf n e := by
  obtain ⟨h1, h2, h3, h4⟩ := h
  by_cases hv : n.fstate = .volatile
  · rw [if_pos hv] at h4
    exact ⟨h1, h2, h3, ⟨fun _ => hv, fun _ => h4⟩, fun _ heq => nomatch h4.symm.trans heq⟩
  · rw [if_neg hv] at h4
    refine ⟨h1, h2, h3, ⟨fun hnone => ?_, fun hvv => absurd hvv hv⟩, fun _ heq => h4 ▸ heq⟩
    have := hinv (h3.resolve_left hv)
    rw [← h4, hnone] at this
    cases this

/-- The two ways a file path enters `to_be_deleted` during the cleanup pass of `finalize`
(`revert_optional_steps`, then `delete_detached`); the rows are those of the state before the pass
or of the state between its two halves. -/
theorem queued_only_outputs (s s1 s2 : KState) (h1 : s.revertOptional = .ok s1) (h2 : s1.deleteDetached = .ok s2) :
    ∀ e ∈ s2.toBeDeleted, e ∈ s.toBeDeleted ∨ IsDirEntry e ∨
      (∃ n ∈ s.nodes, RevertEntryOf n e) ∨ (∃ n ∈ s1.nodes, OutputEntryOf n e) :=
  cleanupPass_queue s s1 s2 h1 h2

/-- What cleanup queues is never a static file and never an undeclared path: the role of the
row is OUTPUT or VOLATILE. -/
theorem queued_is_never_static (n : Node) (e : String × Option Nat) (h : OutputEntryOf n e) :
    n.fstate.role? = some .output ∨ n.fstate.role? = some .volatile := by
  rcases h.2.2.1 with g | g | g <;> rw [g]
  · exact Or.inr rfl
  · exact Or.inl rfl
  · exact Or.inl rfl

/-- Adopting a former output as a static file: the row moves to UNCONFIRMED and forgets the hash
that a step had produced (`file_clear_hash`), so the static file can never be removed on the
strength of an old product record. -/
theorem static_adoption_forgets_product_hash (n n' : Node) (nh : Option (Option Nat))
    (hold : n.fstate = .built ∨ n.fstate = .outdated) (h : fileRowWrite n .unconfirmed nh = .ok n') :
    n'.fstate = .unconfirmed ∧ n'.fhash = none ∧ n'.fstate.role? = some .static := by
  have hcl : clearsHash n.fstate .unconfirmed = true := by
    rcases hold with g | g <;> rw [g] <;> rfl
  rw [fileRowWrite_eq h]
  exact ⟨rfl, if_pos hcl, rfl⟩

/-! ## What `remove_deletable_files` removes -/

/-- **Removal requires an unchanged file.** The file system after `remove_deletable_files` is the
one before minus exactly the reported paths, and every reported path is
(a) a queued file key whose content on disk equals the recorded hash, or that was queued without
a hash (volatile output), or (b) a directory below which nothing is left. -/
theorem remove_requires_unchanged (queue : List (String × Option Nat)) (fs : FS) :
    (removeDeletable queue fs).1 = erasedBy fs (removeDeletable queue fs).2 ∧
    ∀ p ∈ (removeDeletable queue fs).2,
      (∃ r c, (p, r) ∈ queue ∧ isDirKey p = false ∧ fs.lookup p = some (.file c) ∧ (r = none ∨ r = some c)) ∨
      (fs.lookup p = some .dir ∧ ∀ e ∈ (removeDeletable queue fs).1, isUnder p e.1 = false) :=
  ⟨(removeDeletable_spec queue fs).cur_eq, (removeDeletable_spec queue fs).just⟩

/-- A regular output whose content differs from every hash it is queued with stays on disk. -/
theorem modified_output_survives (queue : List (String × Option Nat)) (fs : FS) (p : String) (c : Nat)
    (hfile : fs.lookup p = some (.file c))
    (hrec : ∀ r, (p, r) ∈ queue → ∃ h, r = some h ∧ h ≠ c) :
    (removeDeletable queue fs).1.lookup p = some (.file c) := by
  obtain ⟨heq, hj⟩ := remove_requires_unchanged queue fs
  rw [heq, lookup_erasedBy]
  cases hmem : (removeDeletable queue fs).2.contains p with
  | false => simpa using hfile
  | true =>
    exfalso
    rcases hj p (by simpa using hmem) with ⟨r, c', hq, _, hl, hr⟩ | ⟨hd, _⟩
    · obtain ⟨h, rfl, hne⟩ := hrec r hq
      rw [hfile] at hl
      cases hl
      rcases hr with hr | hr
      · cases hr
      · exact hne (by cases hr; rfl)
    · rw [hfile] at hd; cases hd

/-- A regular file whose path is not a key of the queue stays on disk (static files, files that no
step ever declared). -/
theorem unqueued_path_survives (queue : List (String × Option Nat)) (fs : FS) (p : String) (c : Nat)
    (hfile : fs.lookup p = some (.file c)) (hnot : ∀ r, (p, r) ∉ queue) :
    (removeDeletable queue fs).1.lookup p = some (.file c) :=
  modified_output_survives queue fs p c hfile (fun r hr => absurd hr (hnot r))

/-- A directory disappears only when nothing is left below it. -/
theorem directory_removed_only_when_empty (queue : List (String × Option Nat)) (fs : FS) (d : String)
    (hdir : fs.lookup d = some .dir) (hgone : (removeDeletable queue fs).1.lookup d = none) :
    ∀ e ∈ (removeDeletable queue fs).1, isUnder d e.1 = false := by
  obtain ⟨heq, hj⟩ := remove_requires_unchanged queue fs
  have hmem : d ∈ (removeDeletable queue fs).2 := by
    rw [heq, lookup_erasedBy] at hgone
    simpa [hdir] using hgone
  rcases hj d hmem with ⟨r, c, _, _, hl, _⟩ | ⟨_, hempty⟩
  · rw [hdir] at hl; cases hl
  · exact hempty

theorem isDirKey_of_dirEntry (e : String × Option Nat) (h : IsDirEntry e) : isDirKey e.1 = true := by
  obtain ⟨d, rfl⟩ := h
  unfold isDirKey
  simp [String.toList_append]

/-- **Automatic cleaning, end to end on the models.** Starting from an empty queue, whatever the
cleanup part of `finalize` removes from the file system is a regular file that is the label of a
VOLATILE / BUILT / OUTDATED file row of the stored workflow (before the cleanup, or after its
`revert_optional_steps` half), whose content equals the hash recorded in that row unless the row
is VOLATILE or (for a reverted row only) carries no hash; or a directory below which nothing is
left; and nothing else changes on disk. -/
theorem automatic_cleaning_safe (s s' : KState) (fs fs' : FS) (ev : List String)
    (nTargets nTargetDirs returncode : Nat) (clean : Bool) (hq : s.toBeDeleted = [])
    (h : finalizeCleanup s fs nTargets nTargetDirs returncode clean = .ok (s', fs', ev)) :
    fs' = erasedBy fs ev ∧
    ∀ p ∈ ev,
      (∃ c, fs.lookup p = some (.file c) ∧
        ∃ n, n.key.kind = .file ∧ n.key.label = p ∧
          (n.fstate = .volatile ∨ n.fstate = .built ∨ n.fstate = .outdated) ∧
          (n.fstate = .volatile ∨ n.fhash = some c ∨ n.fhash = none) ∧
          (n ∈ s.nodes ∨ ∃ s1, s.revertOptional = .ok s1 ∧ n ∈ s1.nodes)) ∨
      (fs.lookup p = some .dir ∧ ∀ e ∈ fs', isUnder p e.1 = false) := by
  obtain ⟨_, rfl, rfl, rfl⟩ | ⟨_, s1, s2, h1, h2, rfl, rfl, rfl⟩ := finalizeCleanup_ok h
  · exact ⟨(erasedBy_nil _).symm, fun _ hp => nomatch hp⟩
  · obtain ⟨heq, hj⟩ := remove_requires_unchanged s2.toBeDeleted fs
    refine ⟨heq, fun p hp => (hj p hp).imp (fun ⟨r, c, hmem, hnd, hl, hrc⟩ => ⟨c, hl, ?_⟩) id⟩
    have notDir : ¬ IsDirEntry (p, r) := fun hd => nomatch (isDirKey_of_dirEntry _ hd).symm.trans hnd
    rcases queued_only_outputs s s1 s2 h1 h2 (p, r) hmem with
      k1 | k2 | ⟨n, hn, r1, r2, r3, r4⟩ | ⟨n, hn, r1, r2, r3, r4, r5⟩
    · rw [hq] at k1; cases k1
    · exact absurd k2 notDir
    · refine ⟨n, r1, r2.symm, r3, ?_, Or.inl hn⟩
      by_cases hv : n.fstate = .volatile
      · exact Or.inl hv
      · rw [if_neg hv] at r4
        exact Or.inr (hrc.elim (fun h => Or.inr (r4.symm.trans h)) fun h => Or.inl (r4.symm.trans h))
    · exact ⟨n, r1, r2.symm, r3,
        hrc.elim (fun h => Or.inl (r4.1 h)) (fun h => Or.inr (Or.inl (r5 c h))), Or.inr ⟨s1, h1, hn⟩⟩

/-! ## `stepup clean` -/

theorem clean_select_table : ∀ e ∈ Finalize.cleanSelectTable, e.2 = true →
    (e.1.1 = .built ∨ e.1.1 = .outdated ∨ e.1.1 = .volatile) ∧ (e.1.2.2 = true → e.1.2.1 = true) := by
  decide

/-- The row filter of `SELECT_OUTPUTS`, regenerated by executing the tool's SQL: a selected row is
BUILT, OUTDATED or VOLATILE, and detached when only detached rows are asked for (no `--all`). -/
theorem clean_row_filter (st : FileState) (detached detachedOnly : Bool)
    (h : cleanRowSelected st detached detachedOnly = true) :
    (st = .built ∨ st = .outdated ∨ st = .volatile) ∧ (detachedOnly = true → detached = true) := by
  unfold cleanRowSelected at h
  cases hf : Finalize.cleanSelectTable.find? fun e => e.1 = (st, detached, detachedOnly) with
  | none => rw [hf] at h; cases h
  | some e =>
    rw [hf] at h
    have he : e.1 = (st, detached, detachedOnly) := of_decide_eq_true
      (List.find?_some (p := fun e : (FileState × Bool × Bool) × Bool => decide (e.1 = (st, detached, detachedOnly))) hf)
    have := clean_select_table e (List.mem_of_find?_eq_some hf) h
    rw [he] at this
    exact this

/-- The connection `stepup clean` works on rejects writes to the workflow database. -/
theorem clean_connection_read_only : Finalize.cleanConnectionRejectsWrites = true := by decide

/-- **`stepup clean` is safe.** The file system afterwards is the one before minus exactly the
reported paths.  A reported regular file is the label of a file row in state BUILT / OUTDATED /
VOLATILE, detached unless `--all` was given, and volatile or with a recorded hash equal to the
content on disk unless `--unsafe` was given.  A reported directory has nothing left below it. -/
theorem clean_tool_safe (s : KState) (paths : List String) (all unsafe_ commit : Bool) (fs : FS) :
    (cleanRun s paths all unsafe_ commit fs).1 = erasedBy fs (cleanRun s paths all unsafe_ commit fs).2.1 ∧
    ∀ p ∈ (cleanRun s paths all unsafe_ commit fs).2.1,
      (∃ n ∈ s.nodes, n.key.kind = .file ∧ n.key.label = p ∧
        (n.fstate = .built ∨ n.fstate = .outdated ∨ n.fstate = .volatile) ∧
        (all = false → n.detached = true) ∧
        ∃ c, fs.lookup p = some (.file c) ∧ (unsafe_ = true ∨ n.fstate = .volatile ∨ n.fhash = some c)) ∨
      (fs.lookup p = some .dir ∧ ∀ e ∈ (cleanRun s paths all unsafe_ commit fs).1, isUnder p e.1 = false) := by
  obtain ⟨spec, _⟩ := cleanRun_spec s paths all unsafe_ commit fs
  refine ⟨spec.cur_eq, fun p hp => ?_⟩
  rcases spec.just p hp with ⟨n, hn, hk, hl, hsel, c, hc, hu⟩ | hd
  · obtain ⟨f1, f2⟩ := clean_row_filter _ _ _ hsel
    exact Or.inl ⟨n, hn, hk, hl, f1, fun ha => f2 (by simp [ha]), c, hc, hu⟩
  · exact Or.inr hd

/-- Without `--commit` the tool removes nothing. -/
theorem clean_dry_run_removes_nothing (s : KState) (paths : List String) (all unsafe_ : Bool) (fs : FS) :
    (cleanRun s paths all unsafe_ false fs).1 = fs ∧ (cleanRun s paths all unsafe_ false fs).2.1 = [] :=
  (cleanRun_spec s paths all unsafe_ false fs).2 rfl

/-! ## Only paths that some step declared as its output are ever queued (history invariant) -/

open StepupModel.K.Ever in
/-- `EverOutput`, for every history: a file row is in a product state (PLANNED, BUILT, OUTDATED,
VOLATILE) only if an earlier ACCEPTED `define` or `amend` request of the history declared that path
as an output or a volatile output. -/
theorem product_rows_were_declared_by_a_step (h : List (KConfig × Req)) :
    ∀ n ∈ (KState.init.run h).nodes, n.key.kind = .file →
      (n.fstate.role? = some .output ∨ n.fstate.role? = some .volatile) → DeclaredAsProduct h n.key.label :=
  ever_output h

open StepupModel.K.Ever in
/-- "Cleaning never deletes ... a path that no step of this workflow ever declared as its output":
whatever the cleanup pass of a reachable database (revert of unneeded optional steps, then
`delete_detached`) adds to the deletion queue is a directory entry or a path that an accepted
`define`/`amend` of the history declared as a product. -/
theorem cleanup_queues_only_declared_outputs (h : List (KConfig × Req)) (s1 s2 : KState)
    (h1 : (KState.init.run h).revertOptional = .ok s1) (h2 : s1.deleteDetached = .ok s2) :
    ∀ e ∈ s2.toBeDeleted, e ∈ (KState.init.run h).toBeDeleted ∨ IsDirEntry e ∨ DeclaredAsProduct h e.1 := by
  intro e he
  rcases queued_only_outputs _ s1 s2 h1 h2 e he with k1 | k2 | ⟨n, hn, hre⟩ | ⟨m, hm, hfe⟩
  · exact .inl k1
  · exact .inr (.inl k2)
  · exact .inr (.inr (revertEntry_declared h n e hn hre))
  · exact .inr (.inr (fileEntry_declared h s1 h1 m e hm hfe))

example :
    removeFiles [("out/v.log", none), ("out/b.txt", some 2), ("out/a.txt", some 1)]
      [("out", .dir), ("out/a.txt", .file 1), ("out/b.txt", .file 9), ("out/v.log", .file 5), ("src.txt", .file 3)] []
    = ([("out", .dir), ("out/b.txt", .file 9), ("src.txt", .file 3)], ["out/v.log", "out/a.txt"]) := rfl

example : FS.lookup [("out/b.txt", Entry.file 9), ("src.txt", .file 3)] "out/b.txt" = some (.file 9) ∧
    (∀ r, ("out/b.txt", r) ∈ [("out/b.txt", some 2), ("out/", (none : Option Nat))] → ∃ h, r = some h ∧ h ≠ 9) ∧
    (∀ r, ("src.txt", r) ∉ [("out/b.txt", some 2), ("out/", (none : Option Nat))]) := by
  refine ⟨by simp [FS.lookup], ?_, ?_⟩
  · intro r hr
    simp at hr
    exact ⟨2, hr, by decide⟩
  · intro r hr
    simp at hr

example : FS.isEmptyDir [("out", .dir), ("out/b.txt", .file 9)] "out" = false ∧
    FS.isEmptyDir [("out", .dir), ("outer.txt", .file 9)] "out" = true := by
  simp [FS.isEmptyDir, FS.lookup, isUnder]

example : cleanupRuns 0 0 8 true = true ∧ cleanupRuns 0 0 4 true = false ∧ cleanupRuns 1 0 0 true = false ∧
    cleanupRuns 0 0 0 false = false := by decide

example : ∃ n', fileRowWrite { key := ⟨.file, "out/x"⟩, fstate := .built, fhash := some 4 } .unconfirmed none = .ok n' ∧
    n'.fhash = none := ⟨_, rfl, rfl⟩

example : OutputEntryOf { key := ⟨.file, "out/x"⟩, fstate := .built, fhash := some 4 } ("out/x", some 4) :=
  ⟨rfl, rfl, Or.inr (Or.inl rfl), by simp, by simp⟩

end StepupModel.Props.C06
