import StepupModel.Lemmas.Order
/-!
The `LIKE` pattern built from an escaped prefix matches what `prefixBy` accepts, a prefix test up to case
folding; and the half-open range from `p ++ [c]` to `p ++ [c + 1]` of the BINARY order holds exactly the
strings that begin with `p ++ [c]` (C18; the statements of the property are in `Props/C18.lean`).
-/
namespace StepupModel.P.Like

theorem like_pct_nil (cs : Bool) (esc : Nat) (s : Str) : like cs esc [pct] s = true := by
  induction s with
  | nil => simp [like]
  | cons c t ih => rw [like.eq_def]; simp [ih]

theorem like_literal (cs : Bool) (c : Nat) (rest s : Str)
    (h1 : c ≠ pct) (h2 : c ≠ under) (h3 : c ≠ bslash) :
    like cs bslash (c :: rest) s =
      (match s with
       | [] => false
       | x :: t => ceq cs c x && like cs bslash rest t) := by
  rw [like.eq_def]; cases s <;> simp [h1, h2, h3]

theorem like_escaped (cs : Bool) (c : Nat) (rest s : Str) :
    like cs bslash (bslash :: c :: rest) s =
      (match s with
       | [] => false
       | x :: t => ceq cs c x && like cs bslash rest t) := by
  rw [like.eq_def]; cases s <;> simp [bslash, pct, under]

theorem likePrefix_eq_prefixBy (cs : Bool) (d s : Str) : likePrefix cs d s = prefixBy cs d s := by
  unfold likePrefix prefixPattern
  induction d generalizing s with
  | nil => rw [prefixBy]; exact like_pct_nil cs bslash s
  | cons c d ih =>
    -- escaped or not, the first character is matched literally
    have step : (match s with | [] => false | x :: t => ceq cs c x && like cs bslash (escape d ++ [pct]) t) =
        prefixBy cs (c :: d) s := by
      cases s with
      | nil => rfl
      | cons x t => rw [prefixBy, ← ih]
    rw [escape]
    split
    · exact (like_escaped cs c _ s).trans step
    · next hc =>
      exact (like_literal cs c _ s (fun h => hc (.inr (.inl h))) (fun h => hc (.inr (.inr h)))
        (fun h => hc (.inl h))).trans step

/-- What `ceq cs` compares. -/
def ceqKey (cs : Bool) (c : Nat) : Nat := if cs then c else foldc c

theorem ceq_eq (cs : Bool) (a b : Nat) : ceq cs a b = (ceqKey cs a == ceqKey cs b) := by cases cs <;> rfl

theorem prefixBy_iff (cs : Bool) (d s : Str) :
    prefixBy cs d s = true ↔ d.map (ceqKey cs) <+: s.map (ceqKey cs) := by
  induction d generalizing s with
  | nil => simp [prefixBy]
  | cons a as ih =>
    cases s with
    | nil => simp [prefixBy]
    | cons b bs => simp [prefixBy, ceq_eq, ih, List.cons_prefix_cons]

theorem prefixBy_true_iff (d s : Str) : prefixBy true d s = true ↔ d <+: s := by
  have h := prefixBy_iff true d s
  rwa [show ceqKey true = id from rfl, List.map_id, List.map_id] at h

/-- With `case_sensitive_like` the clause of `prefix_clause` is the byte-exact prefix test. -/
theorem likePrefix_true_iff (d s : Str) : likePrefix true d s = true ↔ d <+: s := by
  rw [likePrefix_eq_prefixBy, prefixBy_true_iff]

/-- `relevant_paths_under` on a connection whose LIKE is case sensitive (`hcs`). -/
theorem mem_relevantUnder {cs : Bool} (hcs : cs = true) (dir : Str) (files globs : List Str) (l : Str) :
    l ∈ relevantUnder cs dir files globs ↔ (l ∈ files ∨ l ∈ globs) ∧ ensureSlash dir <+: l := by
  rw [hcs]
  simp only [relevantUnder, List.mem_append, List.mem_filter, likePrefix_true_iff,
    Bool.and_eq_true, Bool.not_eq_true', List.isPrefixOf_iff_prefix]
  constructor
  · rintro (⟨h1, h2⟩ | ⟨h1, h2, _⟩)
    · exact ⟨Or.inl h1, h2⟩
    · exact ⟨Or.inr h1, h2⟩
  · rintro ⟨h1 | h1, h2⟩
    · exact Or.inl ⟨h1, h2⟩
    · by_cases hf : l ∈ files
      · exact Or.inl ⟨hf, h2⟩
      · refine Or.inr ⟨h1, h2, ?_⟩
        simp [List.contains_eq_mem, List.mem_filter, hf]

theorem range_iff_prefix (p : Str) (c : Nat) (s : Str) :
    (leB (p ++ [c]) s && ltB s (p ++ [c + 1])) = true ↔ (p ++ [c]) <+: s := by
  rw [leB, Bool.and_eq_true, Bool.not_eq_true', Bool.eq_false_iff]
  induction p generalizing s with
  | nil =>
    cases s with
    | nil => exact iff_of_false (fun h => h.1 rfl) (fun h => nomatch List.eq_nil_of_prefix_nil h)
    | cons a as =>
      rw [List.nil_append, List.nil_append, Ne, ltB_cons, ltB_cons, ltB_nil_right, List.cons_prefix_cons]
      constructor
      · rintro ⟨h1, h2 | ⟨_, h2⟩⟩
        · exact ⟨Nat.le_antisymm (Nat.le_of_not_lt fun h => h1 (.inl h)) (Nat.le_of_lt_succ h2), List.nil_prefix⟩
        · cases h2
      · rintro ⟨rfl, _⟩
        exact ⟨fun h => h.elim (Nat.lt_irrefl _) (fun h => Bool.false_ne_true h.2), .inl (Nat.lt_succ_self _)⟩
  | cons x xs ih =>
    cases s with
    | nil => exact iff_of_false (fun h => h.1 rfl) (fun h => nomatch List.eq_nil_of_prefix_nil h)
    | cons a as =>
      rw [List.cons_append, List.cons_append, Ne, ltB_cons, ltB_cons, List.cons_prefix_cons, ← ih]
      constructor
      · rintro ⟨h1, h2 | ⟨rfl, h2⟩⟩
        · exact absurd (.inl h2) h1
        · exact ⟨rfl, fun h => h1 (.inr ⟨rfl, h⟩), h2⟩
      · rintro ⟨rfl, h1, h2⟩
        exact ⟨fun h => h.elim (Nat.lt_irrefl _) (fun h => h1 h.2), .inr ⟨rfl, h2⟩⟩

theorem dirRangeUpper_concat (p : Str) (c : Nat) :
    dirRangeUpper (p ++ [c]) = if c = slash then some (p ++ [slash + 1]) else none := by
  rw [dirRangeUpper, List.getLast?_concat, List.dropLast_concat]

theorem dirRangeUpper_append_slash (p : Str) : dirRangeUpper (p ++ [slash]) = some (p ++ [slash + 1]) :=
  (dirRangeUpper_concat p slash).trans (if_pos rfl)

theorem dirRangeUpper_some {d hi : Str} (h : dirRangeUpper d = some hi) :
    ∃ p, d = p ++ [slash] ∧ hi = p ++ [slash + 1] := by
  rcases List.eq_nil_or_concat d with rfl | ⟨p, c, rfl⟩
  · cases h
  · rw [List.concat_eq_append, dirRangeUpper_concat] at h
    split at h
    · next hc => exact ⟨p, by rw [List.concat_eq_append, hc], (Option.some.inj h).symm⟩
    · cases h

theorem substrEq_iff (label arg : Str) : substrEq label arg = true ↔ label <+: arg := by
  rw [substrEq, beq_iff_eq, List.prefix_iff_eq_take]

end StepupModel.P.Like
