import StepupModel.Lemmas.Norm
import StepupModel.Lemmas.StableW
/-!
# The declaring requests from the calls they make

`define`, `amend`, `static`, `tree` and `declare_static` are built from a dozen calls of `Trellis.create`,
`Node.reattach`, `_declare_file`, `add_source` and payload writes.  `CallL D R C P` lists these calls, each with what
the model has established where it makes the call, as what a state predicate `P` has to survive; the theorems
show, once, that `P` then survives the five requests.  Three parameters carry what a call site knows and the leaf
needs:

* `D c p st`, "`c` may declare the path `p` in the state `st`".  For a static file (UNCONFIRMED) it holds of an
  owning tree and a path it owns (`ofTree`) and of a new tree and the detached files below it (`ofUnder`); of
  the declarer named in a `static` or `declare_static` request, and of the step and the products of a `define`
  or an `amend`, it is a hypothesis of the theorem.
* `R s sk c`: what is asked of the state when `define` recycles the detached step `sk` below `c`
  (`try_recycle`); a hypothesis of `defineStep_preserves`, with everything `define_step` has checked.
* `C c i`: what is asked when `define` creates a step row with the columns `i` below `c`; a hypothesis of
  `defineStep_preserves`.

Outside these calls the requests rewrite the `env_var`/`nglob` rows of a step (`payload`), a row of `dynamic_dep`
(`setDynamic`) and, in `define` after the step row is created, `step_resource` (`stepExtras`, under `C`); a new
input edge is inserted after the cycle check of `_supply_files` (`insertDep`).  A predicate that survives the
writes of `Lemmas/StableW.lean` survives these calls (`StableW.toCall`, `Lemmas/StableReq.lean`).
-/
namespace StepupModel.K

theorem addEnvDeps_noEnv (cfg : KConfig) (names : List String) : Keeps Node.noEnv (addEnvDeps cfg · names) :=
  Keeps.foldl fun _ _ => rfl

structure CallL (D : Key → String → FileState → Prop) (R : KState → Key → Key → Prop) (C : Key → StepInit → Prop)
    (P : KState → Prop) : Prop where
  /-- the `env_var` and `nglob` rows of a step -/
  payload : ∀ (s : KState) (p : Node → Bool) (f : Node → Node), Keeps Node.noEnv f → P s → P (s.modifyWhere p f)
  setDynamic : ∀ (s : KState) (a b : Key) (d : Bool), P s → P (s.setDynamic a b d)
  /-- the new edges of `_supply_files`, out of a file, after the cycle check -/
  insertDep : ∀ (a b : Key), a.kind = .file → ∀ (s s' : KState), (s.sinkClosure b).contains a = false → P s →
    s.insertDep a b = .ok s' → P s'
  /-- `_declare_file` of a static file -/
  declareStatic : ∀ (cfg : KConfig) (c : Key) (p : String), D c p .unconfirmed →
    Preserves P (fun s => s.declareFile cfg c p .unconfirmed)
  /-- `_declare_file` + `add_source` of an output or a volatile output -/
  declareProduct : ∀ (cfg : KConfig) (step : Key) (p : String) (st : FileState), (st = .planned ∨ st = .volatile) →
    D step p st → Preserves P (fun s => s.declareProduct cfg step p st)
  /-- `_resolve_supply_file`: the owning tree adopts a missing input -/
  adopt : ∀ (s s' : KState) (p : String) (t : Key), s.owningTree p = .ok (some t) → P s →
    s.create (fileKey p) (some t) (.file .unconfirmed) = .ok s' → P s'
  /-- `_resolve_supply_file`: the placeholder of a missing input -/
  placeholder : ∀ (p : String), Preserves P (fun s => s.create (fileKey p) none (.file .undeclared))
  createStep : ∀ (label : String) (c : Key) (i : StepInit), C c i →
    Preserves P (fun s => s.create (stepKey label) (some c) (.step i))
  /-- `set_resources` on the row that `define_step` has created -/
  stepExtras : ∀ (c : Key) (i : StepInit), C c i → ∀ (s : KState) (sk : Key) (d : StepDecl), P s → P (s.setStepExtras sk d)
  /-- `try_recycle` of a step with `after_recycle` -/
  recycleStep : ∀ (label : String) (c : Key) (d : StepDecl) (n : Node) (s s' : KState), R s (stepKey label) c → P s →
    s.recycleStep (stepKey label) c d n = .ok s' → P s'
  /-- `register_static_tree`: the tree row and the hand-over, after the guards -/
  treeCreateHandOver : ∀ {s s1 : KState} {creator : Key} {path : String} {hs : List Key}, P s →
    s.treeGuard creator path = .ok (some hs) → s.create (treeKey path) (some creator) .tree = .ok s1 →
    P (s1.handOver (treeKey path) hs)
  ofTree : ∀ (s : KState) (p : String) (t : Key), s.owningTree p = .ok (some t) → D t p .unconfirmed
  ofUnder : ∀ (s : KState) (path p : String), p ∈ s.detachedFilesUnder path → D (treeKey path) p .unconfirmed

namespace CallL
variable {D : Key → String → FileState → Prop} {R : KState → Key → Key → Prop} {C : Key → StepInit → Prop}
  {P : KState → Prop}

theorem payloadAt (L : CallL D R C P) (s : KState) (k : Key) (f : Node → Node) (hf : Keeps Node.noEnv f) (hp : P s) :
    P (s.modify k f) := modify_of_where L.payload s k f hf hp

theorem amendEnv (L : CallL D R C P) (s : KState) (cfg : KConfig) (step : Key) (env : List String) (hp : P s) :
    P (s.amendEnv cfg step env) := by
  refine L.payloadAt s step _ (Keeps.foldl fun _ n => ?_) hp
  dsimp only
  split <;> rfl

theorem markDynamic (L : CallL D R C P) (s : KState) (edges : List (Key × Key)) (hp : P s) : P (s.markDynamic edges) :=
  foldl_ind P _ edges (fun s e _ hs => L.setDynamic s e.1 e.2 true hs) hp

/-- The declarer `declare_static_files` chooses is the creator or the owning tree of the path. -/
theorem staticDeclarer_ok (L : CallL D R C P) {s : KState} {creator : Key} {p : String} {k : Key}
    (hD : D creator p .unconfirmed) (h : s.staticDeclarer creator p = .ok (some k)) : D k p .unconfirmed := by
  unfold KState.staticDeclarer at h
  dsimp only at h
  have tail : ∀ dk, D dk p .unconfirmed → ((do
      let b ← s.checkDeclaration (some dk) p FileRole.static
      if b = true then pure (some dk) else pure none) : M (Option Key)) = .ok (some k) → D k p .unconfirmed := by
    intro dk hdk h
    obtain ⟨b, _, h⟩ := bind_ok_inv h
    rcases ite_ok h with ⟨_, h⟩ | ⟨_, h⟩
    · exact Option.some.inj (pure_ok_iff.1 h) ▸ hdk
    · cases pure_ok_iff.1 h
  rcases ite_ok h with ⟨_, h⟩ | ⟨_, h⟩
  · obtain ⟨dk, hdk, h⟩ := bind_ok_inv h
    refine tail dk ?_ h
    obtain ⟨ot, hot, hdk⟩ := bind_ok_inv hdk
    cases ot with
    | none => exact pure_ok_iff.1 hdk ▸ hD
    | some t => exact pure_ok_iff.1 (throwIf_ok hdk).2 ▸ L.ofTree s p t hot
  · obtain ⟨dk, hdk, h⟩ := bind_ok_inv h
    exact tail dk (pure_ok_iff.1 hdk ▸ hD) h

theorem staticTodo_ok (L : CallL D R C P) {s : KState} {creator : Key} {paths : List String} {todo : List (Key × String)}
    (hD : ∀ p ∈ paths, D creator p .unconfirmed) (h : s.staticTodo creator paths = .ok todo) :
    ∀ dp ∈ todo, D dp.1 dp.2 .unconfirmed := by
  unfold KState.staticTodo at h
  obtain ⟨ds, hds, h⟩ := bind_ok_inv h
  intro dp hdp
  rw [← pure_ok_iff.1 h] at hdp
  obtain ⟨⟨p, d⟩, hx, hfx⟩ := List.mem_filterMap.1 hdp
  obtain ⟨q, hq, hfq⟩ := mapM_ok_mem hds _ hx
  obtain ⟨d', hd', hfq⟩ := bind_ok_inv hfq
  obtain ⟨rfl, rfl⟩ := Prod.mk.inj (pure_ok_iff.1 hfq)
  cases d' with
  | none => cases hfx
  | some k => exact Option.some.inj hfx ▸ L.staticDeclarer_ok (hD q (mem_normPaths.1 hq)) hd'

theorem declareStaticFiles_preserves (L : CallL D R C P) (cfg : KConfig) (creator : Key) (paths : List String)
    (hD : ∀ p ∈ paths, D creator p .unconfirmed) (s : KState) (r : KState × List String) (hp : P s)
    (h : s.declareStaticFiles cfg creator paths = .ok r) : P r.1 := by
  obtain ⟨todo, htodo, hst, _⟩ := declareStaticFiles_ok h
  exact foldlM_keeps P (fun (acc : KState) (dp : Key × String) => acc.declareFile cfg dp.1 dp.2 .unconfirmed) todo
    (fun b dp b' hdp hb hw => L.declareStatic cfg dp.1 dp.2 (L.staticTodo_ok hD htodo dp hdp) b b' hb hw) s r.1 hp hst

theorem registerStaticTree_preserves (L : CallL D R C P) (cfg : KConfig) (creator : Key) (path : String) (s : KState)
    (r : KState × List String) (hp : P s) (h : s.registerStaticTree cfg creator path = .ok r) : P r.1 := by
  obtain ⟨_, rfl⟩ | ⟨hs, s1, hg, h1, h⟩ := registerStaticTree_ok h
  · exact hp
  · exact L.declareStaticFiles_preserves cfg _ _ (fun p hp => L.ofUnder _ _ p hp) _ r (L.treeCreateHandOver hp hg h1) h

theorem registerTrees_preserves (L : CallL D R C P) (cfg : KConfig) (creator : Key) (trees : List String) (s : KState)
    (r : KState × List String) (hp : P s) (h : s.registerTrees cfg creator trees = .ok r) : P r.1 := by
  refine foldlM_keeps (fun (a : KState × List String) => P a.1) _ trees (fun a x b _ ha hb => ?_) (s, []) r hp h
  obtain ⟨c, hc, hb⟩ := bind_ok_inv hb
  exact pure_ok_iff.1 hb ▸ L.registerStaticTree_preserves cfg creator x a.1 c ha hc

theorem registerNglobs_preserves (L : CallL D R C P) (creator : Key) (patterns : List (String × List String)) :
    Preserves P (fun s => s.registerNglobs creator patterns) := by
  refine foldlM_preserves P (fun (st : KState) (pm : String × List String) => st.registerNglob creator pm.1 pm.2)
    patterns (fun pm s s' hp h => ?_)
  obtain ⟨_, _, h2⟩ := bind_ok_inv h
  exact pure_ok_iff.1 h2 ▸ L.payloadAt _ _ _ (fun _ => rfl) hp

theorem declareStaticRequest_preserves (L : CallL D R C P) (cfg : KConfig) (creator : Key) (trees files : List String)
    (patterns : List (String × List String)) (hD : ∀ p ∈ files, D creator p .unconfirmed) (s : KState) (r : KState × List String)
    (hp : P s) (h : s.declareStaticRequest cfg creator trees files patterns = .ok r) : P r.1 := by
  obtain ⟨a1, a2, h1, h2, h3, _⟩ := declareStaticRequest_ok h
  exact L.registerNglobs_preserves creator patterns a2.1 r.1
    (L.declareStaticFiles_preserves cfg creator files hD a1.1 a2 (L.registerTrees_preserves cfg creator trees s a1 hp h1) h2) h3

theorem supplyFiles_preserves (L : CallL D R C P) (cfg : KConfig) (step : Key) (paths : List String) (rn : Bool) (s : KState)
    (r : KState × List Supply) (hp : P s) (h : s.supplyFiles cfg step paths rn = .ok r) : P r.1 :=
  supplyFiles_of L.placeholder L.adopt L.insertDep hp h

theorem declareProducts_preserves (L : CallL D R C P) (cfg : KConfig) (step : Key) (ps : List String) (st : FileState)
    (hst : st = .planned ∨ st = .volatile) (hD : ∀ p ∈ ps, D step p st) :
    Preserves P (fun s => s.declareProducts cfg step ps st) :=
  foldlM_keeps P (fun (acc : KState) (p : String) => acc.declareProduct cfg step p st) ps
    (fun b p b' hp hb hw => L.declareProduct cfg step p st hst (hD p hp) b b' hb hw)

/-- The creation branch of `define_step` after the step row and its resources have been written (`hc`). -/
theorem createStep_preserves (L : CallL D R C P) (cfg : KConfig) (sk creator : Key) (d : StepDecl) (s : KState)
    (r : KState × List String)
    (hc : ∀ s1, s.create sk (some creator) (.step { need := d.need, shell := d.shell, safe := d.safe }) = .ok s1 →
      P (s1.setStepExtras sk d))
    (hout : ∀ p ∈ d.out, D sk p .planned) (hvol : ∀ p ∈ d.vol, D sk p .volatile)
    (h : s.createStep cfg sk creator d = .ok r) : P r.1 := by
  obtain ⟨s1, s3, infos, s5, h1, h3, h5, h6⟩ := createStep_ok h
  have hp4 : P (s3.modify sk fun n => addEnvDeps cfg n d.env) :=
    L.payloadAt _ _ _ (addEnvDeps_noEnv cfg d.env)
      (L.supplyFiles_preserves cfg _ _ true _ (s3, infos) (hc s1 h1) h3)
  exact L.declareProducts_preserves cfg _ _ .volatile (.inr rfl) hvol s5 r.1
    (L.declareProducts_preserves cfg _ _ .planned (.inl rfl) hout _ s5 hp4 h5) h6

end CallL

namespace CallL
variable {D : Key → String → FileState → Prop} {R : KState → Key → Key → Prop} {C : Key → StepInit → Prop}
  {P : KState → Prop}

theorem defineStep_preserves (L : CallL D R C P) (cfg : KConfig) (creator : Key) (d : StepDecl) (s : KState)
    (hR : ∀ label n, stepLabel d.cmd d.workdir = some label → s.find? (stepKey label) = some n → n.detached = true →
      s.canRecycle (stepKey label) (normDecl d) = true → R s (stepKey label) creator)
    (hC : C creator { need := d.need, shell := d.shell, safe := d.safe })
    (hD : ∀ label, stepLabel d.cmd d.workdir = some label →
      (∀ p ∈ normPaths d.out, D (stepKey label) p .planned) ∧ ∀ p ∈ normPaths d.vol, D (stepKey label) p .volatile)
    (r : KState × List String) (hp : P s) (h : s.defineStep cfg creator d = .ok r) : P r.1 := by
  obtain ⟨label, hlabel, ⟨n, hf, hd, hc, h⟩ | ⟨_, h⟩⟩ := defineStep_ok h
  · exact L.recycleStep label creator _ n s r.1 (hR label n hlabel hf hd hc) hp h
  · exact L.createStep_preserves cfg _ creator (normDecl d) s r
      (fun s1 h1 => L.stepExtras creator _ hC s1 _ _ (L.createStep label creator _ hC s s1 hp h1))
      (hD label hlabel).1 (hD label hlabel).2 h

theorem amendStep_preserves (L : CallL D R C P) (cfg : KConfig) (step : Key) (inp env out vol : List String) (conc : List Key)
    (hout : ∀ p ∈ normPaths out, D step p .planned) (hvol : ∀ p ∈ normPaths vol, D step p .volatile)
    (s : KState) (r : KState × AmendResult) (hp : P s)
    (h : s.amendStep cfg step inp env out vol conc = .ok r) : P r.1 := by
  obtain ⟨s1, infos, out', vol', s3, s4, _, ha, ho, hv, _, _, h3, h4, rfl⟩ := amendStep_ok h
  exact L.markDynamic _ _ (L.declareProducts_preserves cfg step vol' .volatile (.inr rfl)
    (fun p hp => hvol p (newProducts_sub hv p hp)) s3 s4
    (L.declareProducts_preserves cfg step out' .planned (.inl rfl) (fun p hp => hout p (newProducts_sub ho p hp)) _ s3
      (L.amendEnv _ cfg step env (L.supplyFiles_preserves cfg step _ false s (s1, infos) hp ha)) h3) h4)

end CallL

/-- What the five declaring requests must be granted for a `CallL D R C P`: the hypotheses of their theorems. -/
def CallOK (D : Key → String → FileState → Prop) (R : KState → Key → Key → Prop) (C : Key → StepInit → Prop)
    (s : KState) : Req → Prop
  | .define c d =>
      (∀ label n, stepLabel d.cmd d.workdir = some label → s.find? (stepKey label) = some n → n.detached = true →
        s.canRecycle (stepKey label) (normDecl d) = true → R s (stepKey label) c) ∧
      C c { need := d.need, shell := d.shell, safe := d.safe } ∧
      ∀ label, stepLabel d.cmd d.workdir = some label →
        (∀ p ∈ normPaths d.out, D (stepKey label) p .planned) ∧ ∀ p ∈ normPaths d.vol, D (stepKey label) p .volatile
  | .amend k _ _ out vol _ => (∀ p ∈ normPaths out, D k p .planned) ∧ ∀ p ∈ normPaths vol, D k p .volatile
  | .static c ps => ∀ p ∈ ps, D c p .unconfirmed
  | .declStatic c _ fs _ => ∀ p ∈ fs, D c p .unconfirmed
  | _ => True

theorem callOK_true {R : KState → Key → Key → Prop} {C : Key → StepInit → Prop} (s : KState) (r : Req)
    (hd : ∀ c d, r = .define c d → CallOK (fun _ _ _ => True) R C s r) : CallOK (fun _ _ _ => True) R C s r := by
  cases r with
  | define c d => exact hd c d rfl
  | amend k inp env out vol conc => exact ⟨fun _ _ => trivial, fun _ _ => trivial⟩
  | static c ps => exact fun _ _ => trivial
  | declStatic c ts fs ps => exact fun _ _ => trivial
  | _ => trivial

theorem callOK_trivial (s : KState) (r : Req) :
    CallOK (fun _ _ _ => True) (fun _ _ _ => True) (fun _ _ => True) s r :=
  callOK_true s r fun _ _ e => e ▸ ⟨fun _ _ _ _ _ _ => trivial, trivial, fun _ _ => ⟨fun _ _ => trivial, fun _ _ => trivial⟩⟩

/-- The five requests that are made of the calls of `CallL`. -/
def Req.declares : Req → Bool
  | .define .. | .amend .. | .static .. | .tree .. | .declStatic .. => true
  | _ => false

/-- The declaring requests keep `P` from the calls they make; the other requests are the caller's (`hrest`). -/
theorem exec_of_call {D : Key → String → FileState → Prop} {R : KState → Key → Key → Prop} {C : Key → StepInit → Prop}
    {P : KState → Prop} (T : CallL D R C P) (cfg : KConfig) (r : Req) (s : KState) (res : KState × String)
    (hr : CallOK D R C s r) (hp : P s) (h : s.exec cfg r = .ok res) (hrest : r.declares = false → P res.1) : P res.1 := by
  cases r with
  | define c d =>
    obtain ⟨a, ha, e⟩ := pairOut_ok h; exact e ▸ T.defineStep_preserves cfg c d s hr.1 hr.2.1 hr.2.2 a hp ha
  | amend k inp env out vol conc =>
    obtain ⟨a, ha, e⟩ := pairOut_ok h; exact e ▸ T.amendStep_preserves cfg k inp env out vol conc hr.1 hr.2 s a hp ha
  | static c ps => obtain ⟨a, ha, e⟩ := pairOut_ok h; exact e ▸ T.declareStaticFiles_preserves cfg c ps hr s a hp ha
  | tree c p => obtain ⟨a, ha, e⟩ := pairOut_ok h; exact e ▸ T.registerStaticTree_preserves cfg c p s a hp ha
  | declStatic c ts fs ps =>
    obtain ⟨a, ha, e⟩ := pairOut_ok h; exact e ▸ T.declareStaticRequest_preserves cfg c ts fs ps hr s a hp ha
  | _ => exact hrest rfl

/-- The kinds of write of the requests that declare nothing, `detach` and the pass of `delete_detached` apart. -/
def frameReqW : List WClass :=
  [.payload, .deleteHash, .clearQueue, .flags] ++ ([.stepWrite, .stepSucceed, .stepRun] ++ (StableW.outdateW ++
    (StableW.popNextW ++ (StableW.resetForRerunW ++ (StableW.markCompletedW ++ ([.hold, .flags] ++
      ([.release, .flags] ++ StableW.revertW)))))))

/-- Every accepted request keeps `P`, for a predicate that survives the frame operations, the calls of the
declaring requests, `detach` and one pass of `delete_detached`, given the guards of the leaves: `R` for the step that
`pop_next_job` hands out to run, on the refreshed state (`hrun`), and for a `setState _ RUNNING` request (`hset`); `G`
for a `hold` request (`hg`). -/
theorem exec_of_frame_call {D : Key → String → FileState → Prop} {Rc : KState → Key → Key → Prop}
    {C : Key → StepInit → Prop} {P : KState → Prop} {A : WClass → Bool} {G R : KState → Key → Prop}
    (F : StableW A G R P) (hA : Sub frameReqW A)
    (T : CallL D Rc C P) (hdet : ∀ k, Preserves P (fun s => s.detach k))
    (hpass : ∀ s r, P s → s.deletePass = .ok r → P r.1)
    (cfg : KConfig) (r : Req) (s : KState) (res : KState × String) (hr : CallOK D Rc C s r)
    (hrun : ∀ k su n, r = .pop (some k) → s.updateMeta cfg = .ok su → P su → n ∈ su.nodes → n.key = k →
      su.eligible cfg n = true → n.hasHash = false → R su k)
    (hset : ∀ k, r = .setState k .running → R s k)
    (hg : ∀ k, r = .hold k → G s k) (hp : P s)
    (h : s.exec cfg r = .ok res) : P res.1 := by
  simp only [frameReqW, List.forall_mem_append] at hA
  obtain ⟨hL, hStep, hOut, hPop, hReset, hCompl, hHold, hRel, hRev⟩ := hA
  refine exec_of_call T cfg r s res hr hp h fun hnd => ?_
  cases r with
  | nglob k p ms => exact F.registerNglob_preserves (Sub.head hL) k p ms s _ hp (unitOut_ok h)
  | hashes u c => exact F.updateFileHashes_preserves hOut u c s _ hp (unitOut_ok h)
  | pop c =>
    obtain ⟨a, ha, e⟩ := pairOut_ok h
    exact e ▸ F.popNext_preserves hPop cfg c s a.1 a.2
      (fun su k n _ hu hpu hc hn hk hel hh _ => hrun k su n (hc ▸ rfl) hu hpu hn hk hel hh) hp ha
  | updateMeta => exact F.updateMeta_preserves (Sub.right hPop) cfg s _ hp (unitOut_ok h)
  | resetRerun k => exact F.resetForRerun_of_detach hReset hdet k s _ hp (unitOut_ok h)
  | completed k nh wd =>
    obtain ⟨a, ha, e⟩ := pairOut_ok h; exact e ▸ F.markCompleted_of_detach hCompl hdet cfg k nh wd s a.1 a.2 hp ha
  | setState k stt =>
    exact F.writeStepState_run k stt (some false) s _ (stepW_of hStep stt) (fun e => hset k (e ▸ rfl)) hp (unitOut_ok h)
  | deleteHash k => exact Except.ok.inj (unitOut_ok h) ▸ F.deleteHash (Sub.head (Sub.tail hL)) s k hp
  | markPending k => exact F.markStepPending'_preserves (Sub.tail hOut) k s _ hp (unitOut_ok h)
  | hold k => exact F.hold_preserves hHold k s _ (hg k rfl) hp (unitOut_ok h)
  | release k => exact F.release_preserves hRel k s _ hp (unitOut_ok h)
  | detach k => exact hdet k s _ hp (unitOut_ok h)
  | revertOptional => exact F.revertOptional_preserves hRev s _ hp (unitOut_ok h)
  | deleteDetached => exact F.deleteDetached_of_detach (Sub.head (Sub.tail hL)) hdet hpass s _ hp (unitOut_ok h)
  | clearQueue => exact Except.ok.inj (unitOut_ok h) ▸ F.clearQueue (Sub.head (Sub.tail (Sub.tail hL))) s hp
  | resetInterrupted => exact F.resetInterrupted_preserves (Sub.tail hOut) s _ hp (unitOut_ok h)
  | rescanEnv => exact F.rescanEnvVars_preserves (Sub.tail hOut) cfg s _ hp (unitOut_ok h)
  | reconcile => exact F.reconcileTargets_preserves (Sub.head (Sub.tail (Sub.tail (Sub.tail hL)))) cfg s _ hp (unitOut_ok h)
  | checkConsistency => exact F.checkConsistency_preserves (Sub.tail hOut) s _ hp (unitOut_ok h)
  | _ => cases hnd

/-- The row without its declaration payload (environment variables, resources, overrides, glob registrations)
and without `_check_ready`. -/
def Node.noPayload (n : Node) : Node :=
  { n with envs := [], resources := [], overrides := [], nglobs := [], checkReady := false }

/-- A row update that writes only the declaration payload and may raise `_check_ready`: all that the declaring
requests do to a row outside the calls listed in `CallL`. -/
def PayloadOnly (f : Node → Node) : Prop :=
  ∀ n, (f n).noPayload = n.noPayload ∧ (n.checkReady = true → (f n).checkReady = true)

theorem PayloadOnly.cacheOnly {f : Node → Node} (h : PayloadOnly f) : CacheOnly f :=
  fun n => show (f n).noPayload.hard = n.noPayload.hard from congrArg Node.hard (h n).1

theorem payloadOnly_foldl {α : Type} (g : Node → α → Node) (hg : ∀ a, PayloadOnly fun n => g n a) (l : List α) :
    PayloadOnly fun n => l.foldl g n := by
  induction l with
  | nil => exact fun n => ⟨rfl, id⟩
  | cons a l ih => exact fun n => ⟨(ih (g n a)).1.trans (hg a n).1, fun h => (ih _).2 ((hg a n).2 h)⟩

theorem Keeps.payloadOnly {f : Node → Node} (h : Keeps Node.noEnv f) : PayloadOnly f := fun n =>
  ⟨h.mono (.of_blind _ fun _ => rfl) n, fun a => (h.mono (.of_blind _ (w := Node.checkReady) fun _ => rfl) n).trans a⟩

/-- `INSERT INTO / DELETE FROM dynamic_dep` with its trigger, from the row of `dynamic_dep` and the flag. -/
theorem setDynamic_of_fine {P : KState → Prop}
    (cache : ∀ (s : KState) (p : Node → Bool) (f : Node → Node), PayloadOnly f → P s → P (s.modifyWhere p f))
    (markDyn : ∀ (s : KState) (src snk : Key) (dyn : Bool), P s →
      P { s with deps := s.deps.map fun (d : Dep) => if d.src = src ∧ d.snk = snk then { d with dyn := dyn } else d })
    (s : KState) (a b : Key) (d : Bool) (hp : P s) : P (s.setDynamic a b d) :=
  setDynamic_of cache (fun n => ite_both (fun m : Node => m.noPayload = n.noPayload ∧ (n.checkReady = true → m.checkReady = true))
    ⟨rfl, fun _ => rfl⟩ ⟨rfl, id⟩) markDyn s a b d hp

end StepupModel.K
