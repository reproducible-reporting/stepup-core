import StepupModel.Lemmas.OwnershipEdge
/-!
# C08 (O5), third part: the one side condition is needed (kernel-checked)

`creatorProduces_after_every_history` excludes one thing: a `reset_for_rerun` addressed to a key of kind *file*
whose row is a product with a *dynamic* edge from its creator (`ResetOK`).  The model's `reset_for_rerun k` starts
with `KState.dropDynamicInputs` ("Drop dynamic sources." in `Step.reset_for_rerun`):
`DELETE FROM dependency WHERE sink = k AND dynamic`; on a step these are the amended
inputs, on a file this is the edge `creator -> amended output`, and the file stays attached with its creator.

The witness state is a literal, compared with the model's own run of the history by the `#guard` line (an evaluation
check, not a theorem).  The guard refuses exactly the request that breaks (O5).

The request cannot be written in the kernel protocol (`kreplay.py` resolves the operand of `reset_rerun` as a
`Step`) and cannot be issued on the implementation at all: `reset_for_rerun` is a method of `Step`, a `File` object
has none (`harness/witness/ownership_edge_reset_file.py`: `AttributeError`).  The model is more permissive than
the code here; the clause `ResetOK` excludes a model artefact only.
-/
namespace StepupModel.K.OwnE
open StepupModel.K.Own StepupModel.K.Ever

def wCfg : KConfig := {}
def wPlan : Key := stepKey "./plan.py"

def wHist : List (KConfig × Req) := [
  (wCfg, .define rootKey { cmd := "./plan.py", need := .plan, safe := true }),
  (wCfg, .pop (some wPlan)),
  (wCfg, .amend wPlan [] [] ["o"] [] [])]

def wState : KState :=
  { nodes := [
      { key := rootKey, creator := some rootKey },
      { key := wPlan, creator := some rootKey, sstate := .running, need := .plan, impliedNeed := .plan,
        safe := true, checkSafe := true, safeNH := true, checkAfter := true, ready := true, checkReady := false },
      { key := fileKey "o", creator := some wPlan, fstate := .planned }],
    deps := [{ src := wPlan, snk := fileKey "o", dyn := true }] }

#guard reprStr wState == reprStr (KState.init.run wHist)

theorem reset_for_rerun_of_file_breaks_O5 : InvE wState ∧ CreatorProduces wState ∧ ProductsOwned wState ∧
    ∃ s', wState.exec wCfg (.resetRerun (fileKey "o")) = .ok s' ∧ ¬ CreatorProduces s'.1 ∧ ¬ ProductsOwned s'.1 ∧
      producers s'.1 (fileKey "o") = [] :=
  ⟨by decide +kernel, by decide +kernel, by decide +kernel, okAnd_dec (by decide +kernel)⟩

theorem guard_refuses_reset_file : ¬ ReqOKE wState (.resetRerun (fileKey "o")) := by
  show ¬ ResetOK wState (fileKey "o")
  decide +kernel

/-- The director's form of the request, on the step, needs no guard and is harmless: the amended output is detached
(replayed on the implementation: `harness/witness/ownership_edge_reset_step.txt`). -/
theorem guard_accepts_reset_step : ReqOKE wState (.resetRerun wPlan) ∧
    ∃ s', wState.exec wCfg (.resetRerun wPlan) = .ok s' ∧ CreatorProduces s'.1 ∧ ProductsOwned s'.1 :=
  ⟨resetOK_of_kind _ (by decide), okAnd_dec (by decide +kernel)⟩

#print axioms reset_for_rerun_of_file_breaks_O5
#print axioms guard_refuses_reset_file
#print axioms guard_accepts_reset_step

end StepupModel.K.OwnE
