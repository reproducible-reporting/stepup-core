import StepupModel.B.Cleanup
import StepupModel.Lemmas.Norm
import StepupModel.Lemmas.Do
/-!
# The file-system side of cleanup (`B/Cleanup.lean`)

A removal pass (`remove_deletable_files`, `stepup clean`) keeps the invariant `RmInv`: the file
system is the initial one minus exactly the reported paths, and every report is justified.
-/
namespace StepupModel.B
open StepupModel.K

def erasedBy (fs0 : FS) (ev : List String) : FS := fs0.filter (fun e => !ev.contains e.1)

theorem erasedBy_nil (fs0 : FS) : erasedBy fs0 [] = fs0 := by
  unfold erasedBy
  exact List.filter_eq_self.2 (fun _ _ => rfl)

theorem erase_erasedBy (fs0 : FS) (ev : List String) (p : String) :
    (erasedBy fs0 ev).erase p = erasedBy fs0 (ev ++ [p]) := by
  unfold erasedBy FS.erase
  rw [List.filter_filter]
  apply List.filter_congr
  intro e _
  by_cases h : e.1 = p <;> simp [h]

theorem lookup_erasedBy (fs0 : FS) (ev : List String) (p : String) :
    (erasedBy fs0 ev).lookup p = if ev.contains p then none else fs0.lookup p := by
  unfold erasedBy FS.lookup
  rw [List.find?_filter]
  cases h : ev.contains p with
  | true =>
    -- a row with path `p` does not pass the filter
    rw [if_pos rfl, List.find?_eq_none.2 fun e _ he => ?_]; rfl
    obtain ⟨h1, h2⟩ := of_decide_eq_true he
    rw [of_decide_eq_true h2, h] at h1
    cases h1
  | false =>
    rw [if_neg Bool.false_ne_true]
    refine congrArg (fun q => (List.find? q fs0).map (·.2)) (funext fun e => ?_)
    by_cases he : e.1 = p
    · rw [he, h]; exact (decide_eq_true ⟨rfl, decide_eq_true rfl⟩).trans (decide_eq_true rfl).symm
    · exact (decide_eq_false fun g => he (of_decide_eq_true g.2)).trans (decide_eq_false he).symm

theorem mem_erasedBy_of_append (fs0 : FS) (ev ev' : List String) (e : String × Entry)
    (h : e ∈ erasedBy fs0 (ev ++ ev')) : e ∈ erasedBy fs0 ev := by
  unfold erasedBy at h ⊢
  rw [List.mem_filter] at h ⊢
  refine ⟨h.1, ?_⟩
  have := h.2
  simp only [Bool.not_eq_true', List.contains_eq_mem, List.mem_append, decide_eq_false_iff_not, not_or] at this ⊢
  exact this.1

/-- Why `remove_deletable_files` removed the regular file `p`: it was queued without a hash (volatile output) or
with the hash of its content on disk. -/
def FileJust (queue : List (String × Option Nat)) (fs0 : FS) (p : String) : Prop :=
  ∃ r c, (p, r) ∈ queue ∧ isDirKey p = false ∧ fs0.lookup p = some (.file c) ∧ (r = none ∨ r = some c)

def DirJust (fs0 cur : FS) (d : String) : Prop :=
  fs0.lookup d = some .dir ∧ ∀ e ∈ cur, isUnder d e.1 = false

/-- Invariant of a removal pass that started on `fs0`: `cur` is the file system and `ev` the paths reported so far;
`J` is what justifies the removal of a regular file. -/
structure RmInv (J : String → Prop) (fs0 cur : FS) (ev : List String) : Prop where
  cur_eq : cur = erasedBy fs0 ev
  just : ∀ p ∈ ev, J p ∨ DirJust fs0 cur p

theorem RmInv.init (J : String → Prop) (fs : FS) : RmInv J fs fs [] :=
  ⟨(erasedBy_nil fs).symm, fun _ hp => nomatch hp⟩

theorem RmInv.lookup_start {J : String → Prop} {fs0 cur : FS} {ev : List String} (h : RmInv J fs0 cur ev)
    {p : String} {e : Entry} (hl : cur.lookup p = some e) : fs0.lookup p = some e := by
  rw [h.cur_eq, lookup_erasedBy] at hl
  split at hl
  · cases hl
  · exact hl

theorem RmInv.erase {J : String → Prop} {fs0 cur : FS} {ev : List String} (h : RmInv J fs0 cur ev) (p : String)
    (hj : J p ∨ DirJust fs0 (cur.erase p) p) : RmInv J fs0 (cur.erase p) (ev ++ [p]) where
  cur_eq := by rw [h.cur_eq, erase_erasedBy]
  just := fun q hq => by
    rcases List.mem_append.1 hq with hq | hq
    · exact (h.just q hq).imp id fun h2 => ⟨h2.1, fun e he => h2.2 e (List.mem_filter.1 he).1⟩
    · exact List.mem_singleton.1 hq ▸ hj

theorem removeOne_rmInv (queue : List (String × Option Nat)) (fs0 cur : FS) (ev : List String) (p : String)
    (r : Option Nat) (hq : (p, r) ∈ queue) (hnd : isDirKey p = false) (h : RmInv (FileJust queue fs0) fs0 cur ev) :
    RmInv (FileJust queue fs0) fs0 (removeOne cur p r).1 (if (removeOne cur p r).2 then ev ++ [p] else ev) := by
  unfold removeOne
  split
  · rename_i hd
    unfold FS.unlink
    cases hl : cur.lookup p with
    | none => exact h
    | some e =>
      cases e with
      | dir => exact h
      | file c =>
        refine h.erase p (Or.inl ⟨r, c, hq, hnd, h.lookup_start hl, ?_⟩)
        cases r with
        | none => exact Or.inl rfl
        | some v =>
          -- the decision compared the content on disk with the record
          unfold removeDecision FS.refreshed at hd
          rw [hl] at hd
          exact Or.inr (congrArg some (of_decide_eq_true hd).symm)
  · exact h

theorem removeFiles_rmInv (queue : List (String × Option Nat)) (fs0 : FS) (files : List (String × Option Nat))
    (hsub : ∀ e ∈ files, e ∈ queue ∧ isDirKey e.1 = false) (cur : FS) (ev : List String) (h : RmInv (FileJust queue fs0) fs0 cur ev) :
    RmInv (FileJust queue fs0) fs0 (removeFiles files cur ev).1 (removeFiles files cur ev).2 := by
  induction files generalizing cur ev with
  | nil => exact h
  | cons a rest ih =>
    obtain ⟨p, r⟩ := a
    unfold removeFiles
    simp only
    have h1 := removeOne_rmInv queue fs0 cur ev p r (hsub (p, r) (by simp)).1 (hsub (p, r) (by simp)).2 h
    exact ih (fun e he => hsub e (by simp [he])) _ _ h1

theorem RmInv.eraseDir (J : String → Prop) (fs0 cur : FS) (ev : List String) (d : String)
    (h : RmInv J fs0 cur ev) (he : cur.isEmptyDir d = true) : RmInv J fs0 (cur.erase d) (ev ++ [d]) := by
  unfold FS.isEmptyDir at he
  obtain ⟨he1, he2⟩ := Bool.and_eq_true_iff.1 he
  refine h.erase d (Or.inr ⟨h.lookup_start (of_decide_eq_true he1), fun e hmem => ?_⟩)
  exact List.any_eq_false.1 ((Bool.not_eq_true' _).mp he2) e (List.mem_filter.1 hmem).1 |> Bool.eq_false_iff.2

theorem pruneDirs_rmInv (J : String → Prop) (fs0 : FS) (fuel : Nat) (stack : List String)
    (cur : FS) (ev : List String) (h : RmInv J fs0 cur ev) :
    RmInv J fs0 (pruneDirs fuel stack cur ev).1 (pruneDirs fuel stack cur ev).2 := by
  induction fuel generalizing stack cur ev with
  | zero => unfold pruneDirs; exact h
  | succ fuel ih =>
    cases stack with
    | nil => unfold pruneDirs; exact h
    | cons d rest =>
      unfold pruneDirs
      by_cases he : cur.isEmptyDir d = true
      · simp only [he, if_true]
        apply ih
        exact RmInv.eraseDir J fs0 cur ev d h he
      · have he' : cur.isEmptyDir d = false := by simpa using he
        simp only [he', Bool.false_eq_true, if_false]
        exact ih rest cur ev h

/-- `remove_deletable_files` removes exactly the paths it reports: queued regular files whose content is as
recorded (or that have no record: volatile), and directories with nothing left below them. -/
theorem removeDeletable_spec (queue : List (String × Option Nat)) (fs : FS) :
    RmInv (FileJust queue fs) fs (removeDeletable queue fs).1 (removeDeletable queue fs).2 := by
  unfold removeDeletable
  simp only
  have hsub : ∀ e ∈ (queue.filter fun e => !isDirKey e.1).mergeSort (fun a b => decide (b.1 ≤ a.1)),
      e ∈ queue ∧ isDirKey e.1 = false := by
    intro e he
    rw [List.mem_mergeSort] at he
    exact ⟨(List.mem_filter.1 he).1, by simpa using (List.mem_filter.1 he).2⟩
  have h0 := RmInv.init (FileJust queue fs) fs
  have h1 := removeFiles_rmInv queue fs _ hsub fs [] h0
  exact pruneDirs_rmInv _ fs _ _ _ _ h1

/-! ## `stepup clean` -/

/-- Why `stepup clean` removed the regular file `p`; `all` and `unsafe_` are the options `--all` and `--unsafe`. -/
def CleanJust (s : KState) (all unsafe_ : Bool) (fs0 : FS) (p : String) : Prop :=
  ∃ n ∈ s.nodes, n.key.kind = .file ∧ n.key.label = p ∧ cleanRowSelected n.fstate n.detached (!all) = true ∧
    ∃ c, fs0.lookup p = some (.file c) ∧ (unsafe_ = true ∨ n.fstate = .volatile ∨ n.fhash = some c)

def RowOf (s : KState) (detachedOnly : Bool) (r : CleanRow) : Prop :=
  ∃ n ∈ s.nodes, n.key.kind = .file ∧ cleanRowSelected n.fstate n.detached detachedOnly = true ∧
    r.label = n.key.label ∧ r.state = n.fstate ∧ r.hash = n.fhash

theorem cleanSelect_rows (s : KState) (paths : List String) (only : Bool) (r : CleanRow)
    (h : r ∈ cleanSelect s paths only) : RowOf s only r := by
  unfold cleanSelect at h
  simp only at h
  rw [List.mem_mergeSort, List.mem_map] at h
  obtain ⟨n, hn, rfl⟩ := h
  rw [List.mem_filter, decide_eq_true_eq] at hn
  exact ⟨n, hn.1, hn.2.1, hn.2.2.2, rfl, rfl, rfl⟩

theorem cleanDecide_remove {state : FileState} {recorded : Option Nat} {disk : Option Entry} {safe commit : Bool}
    (h : cleanDecide state recorded disk safe commit = .remove) :
    commit = true ∧ ∃ c, disk = some (.file c) ∧ ¬ (safe = true ∧ state ≠ .volatile ∧ recorded ≠ some c) := by
  unfold cleanDecide at h
  split at h
  · cases h
  · split at h
    · split at h <;> cases h
    · cases h
  · rename_i c
    dsimp only at h
    split at h
    · cases h
    · rename_i hs
      cases commit
      · cases h
      · exact ⟨rfl, c, rfl, hs⟩

theorem cleanLoop_rmInv (s : KState) (all unsafe_ commit : Bool) (fs0 : FS) (rows : List CleanRow)
    (hrows : ∀ r ∈ rows, RowOf s (!all) r) (cur : FS) (ev parents : List String)
    (h : RmInv (CleanJust s all unsafe_ fs0) fs0 cur ev) :
    RmInv (CleanJust s all unsafe_ fs0) fs0 (cleanLoop rows cur ev parents (!unsafe_) commit).1
        (cleanLoop rows cur ev parents (!unsafe_) commit).2.1 ∧
      (commit = false → (cleanLoop rows cur ev parents (!unsafe_) commit).2.1 = ev ∧
        (cleanLoop rows cur ev parents (!unsafe_) commit).1 = cur ∧
        (cleanLoop rows cur ev parents (!unsafe_) commit).2.2.1 = parents) := by
  induction rows generalizing cur ev parents with
  | nil => exact ⟨h, fun _ => ⟨rfl, rfl, rfl⟩⟩
  | cons r rest ih =>
    unfold cleanLoop
    have hrest : ∀ r' ∈ rest, RowOf s (!all) r' := fun r' hr' => hrows r' (List.mem_cons_of_mem r hr')
    cases hdec : cleanDecide r.state r.hash (cur.lookup r.label) (!unsafe_) commit with
    | crash => exact ⟨h, fun _ => ⟨rfl, rfl, rfl⟩⟩
    | gone => exact ih hrest cur ev parents h
    | skip => exact ih hrest cur ev parents h
    | dry => exact ih hrest cur ev parents h
    | remove =>
      obtain ⟨hcommit, c, hl, hsafe⟩ := cleanDecide_remove hdec
      obtain ⟨n, hn, hk, hsel, hlab, hst, hh⟩ := hrows r List.mem_cons_self
      have hj : CleanJust s all unsafe_ fs0 r.label := by
        refine ⟨n, hn, hk, hlab.symm, hsel, c, h.lookup_start hl, ?_⟩
        cases unsafe_ with
        | true => exact Or.inl rfl
        | false =>
          refine Or.inr (Classical.byContradiction fun hno => hsafe ⟨rfl, fun hv => hno (Or.inl (hst ▸ hv)),
            fun hc => hno (Or.inr (hh ▸ hc))⟩)
      exact ⟨(ih hrest _ _ _ (h.erase r.label (Or.inl hj))).1, fun hc => nomatch hcommit.symm.trans hc⟩

theorem climb_rmInv (J : String → Prop) (fs0 : FS) (fuel : Nat) (d : String) (cur : FS) (ev : List String)
    (h : RmInv J fs0 cur ev) : RmInv J fs0 (climb fuel d cur ev).1 (climb fuel d cur ev).2 := by
  induction fuel generalizing d cur ev with
  | zero => unfold climb; exact h
  | succ fuel ih =>
    unfold climb
    by_cases hc : d ≠ "." ∧ d ≠ "/" ∧ cur.isEmptyDir d = true
    · rw [if_pos hc]
      exact ih _ _ _ (RmInv.eraseDir J fs0 cur ev d h hc.2.2)
    · rw [if_neg hc]
      exact h

theorem climbAll_rmInv (J : String → Prop) (fs0 : FS) (dirs : List String) (cur : FS) (ev : List String)
    (h : RmInv J fs0 cur ev) : RmInv J fs0 (climbAll dirs cur ev).1 (climbAll dirs cur ev).2 := by
  induction dirs generalizing cur ev with
  | nil => unfold climbAll; exact h
  | cons d rest ih =>
    unfold climbAll
    simp only
    exact ih _ _ (climb_rmInv J fs0 _ d cur ev h)

theorem climbAll_nil (cur : FS) (ev : List String) : climbAll [] cur ev = (cur, ev) := by
  unfold climbAll; rfl

/-- `clean.clean` removes exactly the paths in its result: regular files justified by `CleanJust`, and empty
directories; without `--commit`, nothing. -/
theorem cleanRun_spec (s : KState) (paths : List String) (all unsafe_ commit : Bool) (fs : FS) :
    RmInv (CleanJust s all unsafe_ fs) fs (cleanRun s paths all unsafe_ commit fs).1
        (cleanRun s paths all unsafe_ commit fs).2.1 ∧
      (commit = false → (cleanRun s paths all unsafe_ commit fs).1 = fs ∧
        (cleanRun s paths all unsafe_ commit fs).2.1 = []) := by
  have h0 := RmInv.init (CleanJust s all unsafe_ fs) fs
  have hl := cleanLoop_rmInv s all unsafe_ commit fs (cleanSelect s paths (!all))
    (fun r hr => cleanSelect_rows s paths (!all) r hr) fs [] [] h0
  unfold cleanRun
  simp only
  generalize cleanLoop (cleanSelect s paths (!all)) fs [] [] (!unsafe_) commit = res at hl
  obtain ⟨fs1, ev1, parents, crashed⟩ := res
  simp only at hl ⊢
  cases crashed with
  | true =>
    simp only [if_true]
    exact ⟨hl.1, fun hc => ⟨(hl.2 hc).2.1, (hl.2 hc).1⟩⟩
  | false =>
    simp only [Bool.false_eq_true, if_false]
    refine ⟨climbAll_rmInv _ fs _ fs1 ev1 hl.1, fun hc => ?_⟩
    obtain ⟨e1, e2, e3⟩ := hl.2 hc
    subst e1 e2 e3
    rw [normPaths_nil, climbAll_nil]
    exact ⟨rfl, rfl⟩

theorem finalizeCleanup_guarded {nT nD rc : Nat} {clean : Bool} (hr : cleanupRuns nT nD rc clean = false) (s : KState)
    (fs : FS) : finalizeCleanup s fs nT nD rc clean = .ok (s, fs, []) := by
  unfold finalizeCleanup
  rw [hr]
  rfl

theorem finalizeCleanup_ok {s s' : KState} {fs fs' : FS} {ev : List String} {nT nD rc : Nat} {clean : Bool}
    (h : finalizeCleanup s fs nT nD rc clean = .ok (s', fs', ev)) :
    (cleanupRuns nT nD rc clean = false ∧ s' = s ∧ fs' = fs ∧ ev = []) ∨
    (cleanupRuns nT nD rc clean = true ∧ ∃ s1 s2, s.revertOptional = .ok s1 ∧ s1.deleteDetached = .ok s2 ∧
      s' = { s2 with toBeDeleted := [] } ∧ fs' = (removeDeletable s2.toBeDeleted fs).1 ∧
      ev = (removeDeletable s2.toBeDeleted fs).2) := by
  rcases ite_ok h with ⟨hc, h⟩ | ⟨hc, h⟩
  · obtain ⟨s1, h1, h⟩ := bind_ok_inv h
    obtain ⟨s2, h2, h⟩ := bind_ok_inv h
    cases h
    exact .inr ⟨hc, s1, s2, h1, h2, rfl, rfl, rfl⟩
  · cases h
    exact .inl ⟨Bool.eq_false_iff.2 hc, rfl, rfl, rfl⟩

end StepupModel.B
