import StepupModel.P.Session
/-!
`DBSession` against its specification (C15): the relation `Rel` between the session machine and the specification
state is kept by every operation, whoever issues it.
-/
namespace StepupModel.P.Session

def Rel {σ : Type} (s : State σ) (p : Spec σ) : Prop :=
  s.committed = p.result ∧ s.holder = p.holder ∧
    (s.holder.isSome → s.working = p.pending.foldl (fun x f => f x) p.result) ∧
    (s.holder = none → p.pending = [])

theorem rel_step {σ : Type} (s : State σ) (p : Spec σ) (o : Op σ) (h : Rel s p) :
    Rel (step s o).1 (specStep p o) := by
  obtain ⟨c, w, ho⟩ := s
  obtain ⟨r, ho', pe⟩ := p
  obtain ⟨hc, hh, hw, hn⟩ := h
  cases hc
  cases hh
  cases o with
  | enter t =>
    cases ho with
    | none => exact ⟨rfl, rfl, fun _ => rfl, fun h => nomatch h⟩
    | some u => exact ⟨rfl, rfl, hw, hn⟩
  | exec t f =>
    simp only [step, specStep]
    split
    · subst ‹ho = some t›
      exact ⟨rfl, rfl, fun _ => by rw [List.foldl_append]; exact congrArg f (hw rfl), nofun⟩
    · exact ⟨rfl, rfl, hw, hn⟩
  | exitOk t =>
    simp only [step, specStep]
    split
    · subst ‹ho = some t›
      exact ⟨hw rfl, rfl, nofun, fun _ => rfl⟩
    · exact ⟨rfl, rfl, hw, hn⟩
  | exitErr t =>
    simp only [step, specStep]
    split
    · exact ⟨rfl, rfl, nofun, fun _ => rfl⟩
    · exact ⟨rfl, rfl, hw, hn⟩

end StepupModel.P.Session
