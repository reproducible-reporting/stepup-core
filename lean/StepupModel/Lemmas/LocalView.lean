import StepupModel.K.Scheduler
import StepupModel.Lemmas.SinkClosure
import StepupModel.Lemmas.K
/-!
# What `UPDATE_CHECK_AFTER` reads of the graph, as relations

`KState.regularOutputs` and `KState.consumerSteps` are lists, but `afterValues` asks `any` of the first and folds
a maximum over the second: only membership matters.  `Out s k c` and `Cons s k m` say who is a member, in terms of
`Edge` and `find?`; `afterValues_congr_mem` is the local equation as a function of these sets.  On the way:
`afterCore`, the computation on the two lists, with `targetTerm` for what the target sets contribute, and the folds
of a maximum that it is made of.
-/
namespace StepupModel.K

/-- `c` is a regular output of `k`: an attached, non-volatile file at the end of an edge from `k`
(`REGULAR_OUTPUT_WHERE`). -/
def Out (s : KState) (k c : Key) : Prop :=
  Edge s.deps k c ∧ ∃ n, s.find? c = some n ∧ n.key.kind = .file ∧ lookupRegularOutput n.fstate n.detached = true

theorem mem_regularOutputs {s : KState} {k : Key} {o : String} :
    o ∈ s.regularOutputs k ↔ ∃ c, Out s k c ∧ c.label = o := by
  unfold KState.regularOutputs Out
  rw [List.mem_filterMap]
  constructor
  · rintro ⟨c, hc, h⟩
    cases hf : s.find? c with
    | none => rw [hf] at h; cases h
    | some n =>
      rw [hf] at h
      dsimp only at h
      split at h
      · rename_i hh
        exact ⟨c, ⟨KState.mem_sinksOf.1 hc, n, hf, hh.1, hh.2⟩, Option.some.inj h⟩
      · cases h
  · rintro ⟨c, ⟨he, n, hf, h1, h2⟩, rfl⟩
    refine ⟨c, KState.mem_sinksOf.2 he, ?_⟩
    rw [hf]
    exact if_pos ⟨h1, h2⟩

/-- `m` counts as a consumer of `k`: the row of an attached step two edges downstream. -/
def Cons (s : KState) (k : Key) (m : Node) : Prop :=
  ∃ f c, Edge s.deps k f ∧ Edge s.deps f c ∧ s.find? c = some m ∧ m.key.kind = .step ∧ m.detached = false

theorem mem_consumerSteps_iff {s : KState} {k : Key} {m : Node} : m ∈ s.consumerSteps k ↔ Cons s k m := by
  unfold KState.consumerSteps Cons
  rw [List.mem_filterMap]
  constructor
  · rintro ⟨c, hc, h⟩
    obtain ⟨f, hf, hc⟩ := List.mem_flatMap.1 hc
    cases hm : s.find? c with
    | none => rw [hm] at h; cases h
    | some m' =>
      rw [hm] at h
      dsimp only at h
      split at h
      · rename_i hh
        cases h
        exact ⟨f, c, KState.mem_sinksOf.1 hf, KState.mem_sinksOf.1 hc, hm, hh.1, by simpa using hh.2⟩
      · cases h
  · rintro ⟨f, c, hf, hc, hm, h1, h2⟩
    refine ⟨c, List.mem_flatMap.2 ⟨f, KState.mem_sinksOf.2 hf, KState.mem_sinksOf.2 hc⟩, ?_⟩
    rw [hm]
    exact if_pos ⟨h1, by rw [h2]; rfl⟩

namespace MetaAfter

/-- What the target sets add to the need of a step: `TARGET` when a regular output is an exact target, or the step is
`DEFAULT` and an output lies under a target directory (`targetTerm_target`; as a proposition about a row this is
`TargetHit` of `Lemmas/MetaAfter.lean`), `OPTIONAL`, the least need, otherwise. -/
def targetTerm (cfg : KConfig) (need : Need) (outs : List String) : Need :=
  if outs.any cfg.targets.contains then .target
  else if need = .default ∧ outs.any (fun o => cfg.targetDirs.any fun d => underDir d o) then .target
  else .optional

theorem targetTerm_cases (cfg : KConfig) (need : Need) (outs : List String) :
    targetTerm cfg need outs = .target ∨ targetTerm cfg need outs = .optional := by
  unfold targetTerm
  split
  · exact .inl rfl
  · split
    · exact .inl rfl
    · exact .inr rfl

theorem targetTerm_target {cfg : KConfig} {need : Need} {outs : List String} :
    targetTerm cfg need outs = .target ↔ outs.any cfg.targets.contains = true ∨
      (need = .default ∧ outs.any (fun o => cfg.targetDirs.any fun d => underDir d o) = true) := by
  unfold targetTerm
  by_cases h1 : outs.any cfg.targets.contains = true
  · rw [if_pos h1]; exact ⟨fun _ => .inl h1, fun _ => rfl⟩
  · rw [if_neg h1]
    by_cases h2 : need = .default ∧ outs.any (fun o => cfg.targetDirs.any fun d => underDir d o) = true
    · rw [if_pos h2]; exact ⟨fun _ => .inr h2, fun _ => rfl⟩
    · rw [if_neg h2]; exact ⟨fun h => Need.noConfusion h, fun h => h.elim (absurd · h1) (absurd · h2)⟩

/-- `UPDATE_CHECK_AFTER` for one step as a function of its declared need, its regular outputs and
the cached pairs of its consumers. -/
def afterCore (cfg : KConfig) (need : Need) (outs : List String) (cons : List (Need × Nat)) : Need × Nat :=
  (cons.foldl (fun acc m => acc.max m.1) (need.max (targetTerm cfg need outs)), 1 + cons.foldl (fun acc m => Nat.max acc m.2) 0)

theorem afterCore_fst (cfg : KConfig) (need : Need) (outs : List String) (cons : List (Need × Nat)) :
    (afterCore cfg need outs cons).1 = cons.foldl (fun acc m => acc.max m.1) (need.max (targetTerm cfg need outs)) := rfl

theorem afterCore_snd (cfg : KConfig) (need : Need) (outs : List String) (cons : List (Need × Nat)) :
    (afterCore cfg need outs cons).2 = 1 + cons.foldl (fun acc m => Nat.max acc m.2) 0 := rfl

def consumerPairs (s : KState) (k : Key) : List (Need × Nat) :=
  (s.consumerSteps k).map fun m => (m.impliedNeed, m.tail)

theorem afterValues_eq_core (s : KState) (cfg : KConfig) (n : Node) :
    s.afterValues cfg n = afterCore cfg n.need (s.regularOutputs n.key) (consumerPairs s n.key) := by
  unfold KState.afterValues afterCore targetTerm consumerPairs
  simp only [List.foldl_map]

/-! ### Folds of a maximum that an injective rank measures

`afterCore` folds `Need.max` (by `Need.rank`) and `Nat.max` over the consumers: such a fold dominates its start
value and every member, is attained, and so depends on the list only as a set. -/

theorem max_rank_left (a b : Need) : a.rank ≤ (a.max b).rank := by
  unfold Need.max; split <;> omega

theorem max_rank_right (a b : Need) : b.rank ≤ (a.max b).rank := by
  unfold Need.max; split <;> omega

theorem max_eq_or (a b : Need) : a.max b = a ∨ a.max b = b := by
  unfold Need.max; split
  · exact .inr rfl
  · exact .inl rfl

theorem max_optional (a : Need) : a.max .optional = a := by
  unfold Need.max
  have : ¬ a.rank < Need.optional.rank := by simp [Need.rank]
  rw [if_neg this]

theorem rank_inj (a b : Need) (h : a.rank = b.rank) : a = b := by
  cases a <;> cases b <;> first | rfl | cases h

section sup
variable {α β : Type} (sup : β → β → β) (rk : β → Nat) (hl : ∀ a b, rk a ≤ rk (sup a b))
  (hr : ∀ a b, rk b ≤ rk (sup a b)) (hs : ∀ a b, sup a b = a ∨ sup a b = b) (hinj : ∀ a b, rk a = rk b → a = b)
  (f : α → β)
include hl hr in
theorem foldl_sup_ge (l : List α) (init : β) :
    rk init ≤ rk (l.foldl (fun acc m => sup acc (f m)) init) ∧
      ∀ m ∈ l, rk (f m) ≤ rk (l.foldl (fun acc m => sup acc (f m)) init) := by
  induction l generalizing init with
  | nil => exact ⟨Nat.le_refl _, nofun⟩
  | cons x xs ih =>
    obtain ⟨h1, h2⟩ := ih (sup init (f x))
    refine ⟨Nat.le_trans (hl _ _) h1, fun m hm => ?_⟩
    rcases List.mem_cons.1 hm with rfl | hm
    · exact Nat.le_trans (hr _ _) h1
    · exact h2 m hm

include hs in
theorem foldl_sup_eq_or (l : List α) (init : β) :
    l.foldl (fun acc m => sup acc (f m)) init = init ∨ ∃ m ∈ l, l.foldl (fun acc m => sup acc (f m)) init = f m := by
  induction l generalizing init with
  | nil => exact .inl rfl
  | cons x xs ih =>
    rw [List.foldl_cons]
    rcases ih (sup init (f x)) with h | ⟨m, hm, h⟩
    · exact (hs init (f x)).elim (fun h' => .inl (h.trans h')) fun h' => .inr ⟨x, List.mem_cons_self, h.trans h'⟩
    · exact .inr ⟨m, List.mem_cons_of_mem _ hm, h⟩

include hl hr hs hinj in
theorem foldl_sup_congr {l l' : List α} (init : β) (h : ∀ p, p ∈ l' ↔ p ∈ l) :
    l'.foldl (fun acc m => sup acc (f m)) init = l.foldl (fun acc m => sup acc (f m)) init := by
  have key : ∀ {a b : List α}, (∀ p ∈ a, p ∈ b) →
      rk (a.foldl (fun acc m => sup acc (f m)) init) ≤ rk (b.foldl (fun acc m => sup acc (f m)) init) := by
    intro a b hab
    rcases foldl_sup_eq_or sup hs f a init with he | ⟨m, hm, he⟩
    · rw [he]; exact (foldl_sup_ge sup rk hl hr f b init).1
    · rw [he]; exact (foldl_sup_ge sup rk hl hr f b init).2 m (hab m hm)
  exact hinj _ _ (Nat.le_antisymm (key fun p hp => (h p).1 hp) (key fun p hp => (h p).2 hp))

include hl hr hs in
theorem rk_sup (a b : β) : rk (sup a b) = max (rk a) (rk b) := by
  rcases hs a b with h | h
  · rw [h]; exact (Nat.max_eq_left (by have := hr a b; rwa [h] at this)).symm
  · rw [h]; exact (Nat.max_eq_right (by have := hl a b; rwa [h] at this)).symm

include hl hr hs hinj in
theorem foldl_sup_init (l : List α) (a b : β) :
    l.foldl (fun acc m => sup acc (f m)) (sup a b) = sup (l.foldl (fun acc m => sup acc (f m)) a) b := by
  induction l generalizing a with
  | nil => rfl
  | cons x xs ih =>
    rw [List.foldl_cons, List.foldl_cons, ← ih]
    congr 1
    apply hinj
    have e := rk_sup sup rk hl hr hs
    rw [e, e, e, e, Nat.max_assoc, Nat.max_comm (rk b), ← Nat.max_assoc]

end sup

theorem foldl_need_ge_init (l : List (Need × Nat)) (init : Need) :
    init.rank ≤ (l.foldl (fun acc m => acc.max m.1) init).rank :=
  (foldl_sup_ge Need.max Need.rank max_rank_left max_rank_right (fun m : Need × Nat => m.1) l init).1

theorem foldl_need_ge_mem (l : List (Need × Nat)) (init : Need) (m : Need × Nat) (hm : m ∈ l) :
    m.1.rank ≤ (l.foldl (fun acc m => acc.max m.1) init).rank :=
  (foldl_sup_ge Need.max Need.rank max_rank_left max_rank_right (fun m : Need × Nat => m.1) l init).2 m hm

theorem foldl_tail_ge (l : List (Need × Nat)) (init : Nat) :
    init ≤ l.foldl (fun acc m => Nat.max acc m.2) init ∧ ∀ m ∈ l, m.2 ≤ l.foldl (fun acc m => Nat.max acc m.2) init :=
  foldl_sup_ge Nat.max id Nat.le_max_left Nat.le_max_right (fun m : Need × Nat => m.2) l init

theorem foldl_need_eq_or (l : List (Need × Nat)) (init : Need) :
    l.foldl (fun acc m => acc.max m.1) init = init ∨ ∃ m ∈ l, l.foldl (fun acc m => acc.max m.1) init = m.1 :=
  foldl_sup_eq_or Need.max max_eq_or (fun m : Need × Nat => m.1) l init

theorem foldl_need_init (l : List (Need × Nat)) (a b : Need) :
    l.foldl (fun acc m => acc.max m.1) (a.max b) = (l.foldl (fun acc m => acc.max m.1) a).max b :=
  foldl_sup_init Need.max Need.rank max_rank_left max_rank_right max_eq_or rank_inj (fun m : Need × Nat => m.1) l a b

theorem any_congr_mem {α : Type} {l l' : List α} (p : α → Bool) (h : ∀ x, x ∈ l' ↔ x ∈ l) : l'.any p = l.any p := by
  rw [Bool.eq_iff_iff, List.any_eq_true, List.any_eq_true]
  exact ⟨fun ⟨x, hx, hp⟩ => ⟨x, (h x).1 hx, hp⟩, fun ⟨x, hx, hp⟩ => ⟨x, (h x).2 hx, hp⟩⟩

theorem afterCore_congr_mem (cfg : KConfig) (need : Need) {outs outs' : List String} {cons cons' : List (Need × Nat)}
    (ho : ∀ o, o ∈ outs' ↔ o ∈ outs) (hc : ∀ p, p ∈ cons' ↔ p ∈ cons) :
    afterCore cfg need outs' cons' = afterCore cfg need outs cons := by
  have e1 : ∀ init : Need, cons'.foldl (fun acc m => acc.max m.1) init = cons.foldl (fun acc m => acc.max m.1) init :=
    fun init => foldl_sup_congr Need.max Need.rank max_rank_left max_rank_right max_eq_or rank_inj (fun m : Need × Nat => m.1) init hc
  have e2 : cons'.foldl (fun acc m => Nat.max acc m.2) 0 = cons.foldl (fun acc m => Nat.max acc m.2) 0 :=
    foldl_sup_congr Nat.max id Nat.le_max_left Nat.le_max_right Std.MaxEqOr.max_eq_or (fun _ _ h => h) (fun m : Need × Nat => m.2) 0 hc
  unfold afterCore targetTerm
  simp only [any_congr_mem _ ho, e1, e2]

theorem afterValues_congr_mem {s s' : KState} (cfg : KConfig) {n n' : Node} (hk : n'.key = n.key) (hneed : n'.need = n.need)
    (ho : ∀ c, Out s' n.key c ↔ Out s n.key c)
    (hc : ∀ p, (∃ m', Cons s' n.key m' ∧ (m'.impliedNeed, m'.tail) = p) ↔ ∃ m, Cons s n.key m ∧ (m.impliedNeed, m.tail) = p) :
    s'.afterValues cfg n' = s.afterValues cfg n := by
  rw [afterValues_eq_core, afterValues_eq_core, hneed, hk]
  refine afterCore_congr_mem cfg n.need (fun o => ?_) fun p => ?_
  · simp only [mem_regularOutputs, ho]
  · unfold consumerPairs
    simp only [List.mem_map, mem_consumerSteps_iff]
    exact hc p

end MetaAfter

end StepupModel.K
