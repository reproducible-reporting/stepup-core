import StepupModel.Lemmas.Stable
import StepupModel.Lemmas.SinkClosure
import StepupModel.Lemmas.CleanupLoop
import StepupModel.Lemmas.OpCases
import StepupModel.Lemmas.Dispatch
import StepupModel.Lemmas.Guards
import StepupModel.Lemmas.KProp
import StepupModel.Lemmas.AfterLoop
import StepupModel.Lemmas.MetaRowMap
/-!
# One walk through the kernel model

`StableW A G R P` lists what a state predicate `P` has to survive, at the level of `K/Prim.lean`: the primitive writes
together with the triggers they fire, each under everything the code has checked when it performs the write (the cycle
check before an edge is inserted, the guards of a fresh file row, `G` for `hold`, `R` for `set_state(RUNNING)`), and
three kinds of rewrite of columns that are neither hard, nor resources, nor the `_ready` cache.  The write of
`step_resource` in `define_step` (`setStepExtras`) is no leaf: the operations that perform it take what it does to `P`
as a hypothesis.  The walk ends with the operations that the requests call; the requests are in
`Lemmas/StableReq.lean`.

Every leaf belongs to a kind of write (`WClass`) and is asked of `P` only if `A` holds of that kind: `A` is the set of
kinds `P` survives.  An operation that performs one kind takes `A` of that kind, as a leaf does.  Any other has the
list of the kinds it performs, built from the kinds of the leaves it uses itself, first, and the lists of the
operations it calls (`outdateW := .keepRole :: pendW`).  Its theorem takes `hA : Sub outdateW A` and hands each callee
its part (`hA.head` to the leaf, `hA.tail` to `markConsumersPending_preserves`): the inclusion holds because the list
was built that way, and nothing is evaluated.  A kind that depends on a value (`creatorW k.kind c`, `stepW st`,
`depW a.kind`, `delW k.kind`) is in no list: it is a hypothesis of its own, which a caller with a concrete key or
state closes by `rfl` (or from its own list) and the others pass on; `initW init` is the one list of that sort.  A
client with a concrete `A` closes `hA` by `by decide`.

`StableG`/`StableCG`, `StableR` survive every kind (`toW`, with `A := fun _ => true`), `StableRes` every kind with
`set_state(RUNNING)` ruled out (`R := False`; under a guard of its own through `StableRes.toWR`); `FrameL`
(`Lemmas/ReachFrame.lean`) survives the kinds that write neither the `(key, creator, detached)` triple of a row nor
the set of rows, `SuccOut.Leaf` and `OwnE.ELeaf` those named by `succA` and `edgeA`, a `SoftLeaves` predicate
(`Lemmas/SoftChain.lean`: the flag disciplines) those named by `softA`, among them the file writes that keep the role
of the file (`keepRole`), which is what the operations that write no fresh or recycled file row do.
-/
namespace StepupModel.K

def Node.inert (n : Node) := (n.hard, n.resources, n.ready, n.checkReady)

/-- `_check_safe` and `_check_after` are raised on a row (or left alone), nothing else is written. -/
def RaisesFlags (f : Node → Node) : Prop :=
  ∀ n, ∃ sf a : Bool, f n = { n with checkSafe := sf || n.checkSafe, checkAfter := a || n.checkAfter }

/-- The row without the `env_var` and `nglob` rows of a step. -/
def Node.noEnv (n : Node) : Node := { n with envs := [], nglobs := [] }

/-- `CacheOnly` that keeps the `step_resource` rows too: `Keeps` of the view `(Node.hard, Node.resources)`. -/
def CacheOnlyRes (f : Node → Node) : Prop := ∀ n, (f n).hard = n.hard ∧ (f n).resources = n.resources

theorem RaisesFlags.keeps {β : Type} {v : Node → β} {f : Node → Node} (h : RaisesFlags f)
    (hv : ∀ (n : Node) (sf a : Bool), v { n with checkSafe := sf, checkAfter := a } = v n) : Keeps v f := fun n => by
  obtain ⟨sf, a, e⟩ := h n
  rw [e]; exact hv n _ _

theorem RaisesFlags.inert {f : Node → Node} (h : RaisesFlags f) : Keeps Node.inert f := h.keeps fun _ _ _ => rfl

theorem noEnv_inert : Finer Node.noEnv Node.inert := .of_blind _ fun _ => rfl

theorem Keeps.cacheOnlyRes {f : Node → Node} (h : Keeps Node.inert f) : CacheOnlyRes f :=
  fun n => ⟨congrArg (·.1) (h n), congrArg (·.2.1) (h n)⟩

/-- The kinds of primitive write of the kernel model (`K/Prim.lean`, with the triggers they fire); a guard on
a value makes a kind of its own. -/
inductive WClass
  | flags | payload | cache | writeFile | keepRole | outdate | stepWrite | stepSucceed | stepRun | stepInit | setHash
  | deleteHash | bumpDefer | hold | release | recycled | depIn | depOut | delDeps | delStepDeps | setDynamic
  | queueDelete | clearQueue | metaReady | detached | cut | adopt | adoptFile | handOver | freshFile | appendNode
  | removeNode

/-- `creator := c` on a row of kind `kd`: the link is cut, a file is adopted, another row is adopted. -/
def creatorW (kd : Kind) : Option Key → WClass
  | none => .cut
  | some _ => if kd = .file then .adoptFile else .adopt

theorem creatorW_const {A : WClass → Bool} {b : Bool} (h1 : A .cut = b) (h2 : A .adoptFile = b) (h3 : A .adopt = b)
    (kd : Kind) (c : Option Key) : A (creatorW kd c) = b := by
  cases c with
  | none => exact h1
  | some _ => exact ite_ind (fun w => A w = b) (fun _ => h2) (fun _ => h3)

def stepW : StepState → WClass
  | .succeeded => .stepSucceed
  | .running => .stepRun
  | _ => .stepWrite

/-- A new edge out of a row of kind `src`: into a step (out of a file) or into a file. -/
def depW (src : Kind) : WClass := if src = .file then .depIn else .depOut

/-- The deletion of edges that end in a row of kind `snk`. -/
def delW (snk : Kind) : WClass := if snk = .file then .delDeps else .delStepDeps

structure StableW (A : WClass → Bool) (G R : KState → Key → Prop) (P : KState → Prop) : Prop where
  flags : A .flags → ∀ (s : KState) (p : Node → Bool) (f : Node → Node), RaisesFlags f → P s → P (s.modifyWhere p f)
  payload : A .payload → ∀ (s : KState) (p : Node → Bool) (f : Node → Node), Keeps Node.noEnv f → P s →
    P (s.modifyWhere p f)
  /-- the scheduler's rewrites of its cached columns -/
  cache : A .cache → ∀ (s : KState) (p : Node → Bool) (f : Node → Node), Keeps Node.inert f → P s → P (s.modifyWhere p f)
  /-- `UPDATE file SET state = ?[, hash = ?]` with `step_file_check_ready_upd` -/
  writeFile : A .writeFile → ∀ (k : Key) (st : FileState) (nh : Option (Option Nat)),
    Preserves P (fun s => s.writeFile k st nh)
  /-- the same where the file stays within its role -/
  keepRole : A .keepRole → ∀ (k : Key) (st : FileState) (nh : Option (Option Nat)) (s s' : KState), P s →
    RoleKept s k st → s.writeFile k st nh = .ok s' → P s'
  /-- the same for OUTDATED inside `mark_step_pending`, told its caller -/
  outdate : A .outdate → OutdateStable P
  /-- `UPDATE step SET state = ?[, deferred = ?]`; `Step.set_state(RUNNING)` under `R` -/
  stepWrite : ∀ (s : KState) (k : Key) (n n' : Node) (st : StepState) (d : Option Bool), A (stepW st) →
    (st = .running → R s k) → s.find? k = some n → stepRowWrite n st d = .ok n' → P s → P (s.modify k fun _ => n')
  /-- `Step.initialize_row` -/
  stepInit : A .stepInit → ∀ (s : KState) (k : Key) (i : StepInit), P s → P (s.initStepRow k i)
  setHash : A .setHash → ∀ (s : KState) (k : Key) (h : Nat), P s → P (s.setHash k h)
  deleteHash : A .deleteHash → ∀ (s : KState) (k : Key), P s → P (s.deleteHash k)
  bumpDefer : A .bumpDefer → ∀ (s : KState) (k : Key), P s →
    P (s.modify k fun n => { n with deferCount := n.deferCount + 1 })
  /-- `Step.hold`, under `G` -/
  hold : A .hold → ∀ (s : KState) (k : Key), G s k → P s → P (s.modify k fun n => { n with holding := n.holding + 1 })
  release : A .release → ∀ (s : KState) (k : Key) (n : Node), s.find? k = some n → n.holding ≠ 0 → P s →
    P (s.modify k fun n => { n with holding := n.holding - 1 })
  /-- `Step.after_recycle` -/
  recycled : A .recycled → ∀ (s : KState) (k : Key) (need : Need) (shell : Bool), P s →
    P (s.modify k fun n => { n with need := need, shell := shell })
  /-- `INSERT INTO dependency` with `step_dependency_check_*_ins`, after the cycle check of
  `_supply_files` / `check_sources_acyclic` (the source is not a recursive sink of the sink) -/
  insertDep : ∀ (a b : Key) (s s' : KState), A (depW a.kind) → (s.sinkClosure b).contains a = false → P s →
    s.insertDep a b = .ok s' → P s'
  /-- `DELETE FROM dependency WHERE ...` with `step_dependency_check_*_del` -/
  deleteDeps : A .delDeps → ∀ (s : KState) (p : Dep → Bool), P s → P (s.deleteDeps p)
  /-- the same where no deleted row ends in a file key -/
  delStepDeps : A .delStepDeps → ∀ (s : KState) (p : Dep → Bool), (∀ d ∈ s.deps, p d = true → d.snk.kind ≠ .file) →
    P s → P (s.deleteDeps p)
  /-- `INSERT INTO / DELETE FROM dynamic_dep` with `dynamic_dep_check_ready_*` -/
  setDynamic : A .setDynamic → ∀ (s : KState) (a b : Key) (d : Bool), P s → P (s.setDynamic a b d)
  queueDelete : A .queueDelete → ∀ (s : KState) (path : String) (h : Option Nat), P s → P (s.queueDelete path h)
  clearQueue : A .clearQueue → ∀ (s : KState), P s → P { s with toBeDeleted := [] }
  /-- `_update_meta_ready` -/
  updateMetaReady : A .metaReady → ∀ (s : KState), P s → P s.updateMetaReady
  /-- `UPDATE node SET detached = ?` with `step_node_check_ready_detached` -/
  setDetachedRow : A .detached → ∀ (s : KState) (k : Key) (d : Bool), P s → P (s.setDetachedRow k d)
  /-- `UPDATE node SET creator = ?` once the creator triggers and CHECKs have accepted it -/
  creator : ∀ (s : KState) (k : Key) (c : Option Key) (d : Bool), A (creatorW k.kind c) →
    s.creatorAllowed k c d = true → P s → P (s.modify k fun n => { n with creator := c })
  /-- the plain `UPDATE node SET creator = ?` of `register_static_tree` -/
  handOverRow : A .handOver → ∀ (s : KState) (k tk : Key), P s → P (s.modify k fun n => { n with creator := some tk })
  /-- `INSERT INTO node` + `INSERT INTO file` of a fresh label (a declarable state, no hash) with
  `step_file_check_ready_ins` -/
  freshFile : A .freshFile → ∀ (s : KState) (k : Key) (c : Option Key) (st : FileState), s.find? k = none →
    s.insertAllowed k c = true → NoHashState st → (st = .undeclared → (s.appendNode k c).isDetached k = true) → P s →
    P (((s.appendNode k c).modify k fun n => { n with fstate := st, fhash := none }).flagReadySinks k)
  /-- `INSERT INTO node` of a fresh label that is not a file -/
  appendNode : A .appendNode → ∀ (s : KState) (k : Key) (c : Option Key), k.kind ≠ .file → s.find? k = none →
    s.insertAllowed k c = true → P s → P (s.appendNode k c)
  /-- `DELETE FROM node` of a row that is neither source nor sink of an edge any more -/
  removeNode : A .removeNode → ∀ (s : KState) (k : Key), (∀ d ∈ s.deps, d.snk ≠ k) → (∀ d ∈ s.deps, d.src ≠ k) →
    P s → P { s with nodes := s.nodes.filter (·.key ≠ k) }

abbrev Sub (l : List WClass) (A : WClass → Bool) : Prop := ∀ c ∈ l, A c = true

/-- A leaf of a kind that is not in `A`. -/
theorem absent {C : Prop} (h : false = true) : C := absurd h Bool.false_ne_true

theorem Sub.top {l : List WClass} : Sub l fun _ => true := fun _ _ => rfl

theorem Sub.head {c : WClass} {l : List WClass} {A : WClass → Bool} (h : Sub (c :: l) A) : A c = true :=
  h c List.mem_cons_self

theorem Sub.tail {c : WClass} {l : List WClass} {A : WClass → Bool} (h : Sub (c :: l) A) : Sub l A :=
  fun x hx => h x (List.mem_cons_of_mem _ hx)

theorem Sub.one {c : WClass} {A : WClass → Bool} (h : A c = true) : Sub [c] A :=
  fun _ hx => List.mem_singleton.1 hx ▸ h

theorem Sub.left {l r : List WClass} {A : WClass → Bool} (h : Sub (l ++ r) A) : Sub l A :=
  fun c hc => h c (List.mem_append_left _ hc)

theorem Sub.right {l r : List WClass} {A : WClass → Bool} (h : Sub (l ++ r) A) : Sub r A :=
  fun c hc => h c (List.mem_append_right _ hc)

theorem stepW_of {A : WClass → Bool} (hA : Sub [.stepWrite, .stepSucceed, .stepRun] A) (st : StepState) :
    A (stepW st) = true := by
  cases st with
  | succeeded => exact hA.tail.head
  | running => exact hA.tail.tail.head
  | _ => exact hA.head

theorem creatorW_ne {kd : Kind} {c : Key} (h : kd ≠ .file) : creatorW kd (some c) = .adopt := if_neg h

theorem depW_file {kd : Kind} (h : kd = .file) : depW kd = .depIn := if_pos h

theorem depW_ne {kd : Kind} (h : kd ≠ .file) : depW kd = .depOut := if_neg h

theorem delW_file {kd : Kind} (h : kd = .file) : delW kd = .delDeps := if_pos h

theorem delW_ne {kd : Kind} (h : kd ≠ .file) : delW kd = .delStepDeps := if_neg h

theorem creatorW_cases {A : WClass → Bool} (hf : A .adoptFile = false) {kd : Kind} {c : Option Key}
    (h : A (creatorW kd c)) : c = none ∨ kd ≠ .file := by
  cases c with
  | none => exact .inl rfl
  | some c => exact .inr fun hk => Bool.false_ne_true (hf.symm.trans (congrArg A (if_pos hk).symm |>.trans h))

theorem stepW_cases {A : WClass → Bool} (hf : A .stepSucceed = false) {st : StepState} (h : A (stepW st)) :
    st ≠ .succeeded :=
  fun e => Bool.false_ne_true (hf.symm.trans (show A (stepW .succeeded) = true from e ▸ h))

theorem depW_cases {A : WClass → Bool} (hf : A .depOut = false) {kd : Kind} (h : A (depW kd)) : kd = .file :=
  Decidable.byContradiction fun hk => Bool.false_ne_true (hf.symm.trans (depW_ne hk ▸ h))

theorem depW_of {A : WClass → Bool} (hA : Sub [.depIn, .depOut] A) (kd : Kind) : A (depW kd) = true :=
  ite_ind (fun c => A c = true) (fun _ => hA.head) (fun _ => hA.tail.head)

theorem delW_of {A : WClass → Bool} (hA : Sub [.delDeps, .delStepDeps] A) (kd : Kind) : A (delW kd) = true :=
  ite_ind (fun c => A c = true) (fun _ => hA.head) (fun _ => hA.tail.head)

theorem detachAll_of {P : KState → Prop} (hdet : ∀ k, Preserves P (fun s => s.detach k)) (l : List Node) :
    Preserves P (fun s => l.foldlM (fun s p => s.detach p.key) s) :=
  foldlM_preserves P _ l fun p => hdet p.key

/-- `mark_completed(None, wants_defer)` -/
theorem completeFailure_of {P : KState → Prop} {cfg : KConfig} {k : Key} {wd : Bool}
    (hout : Preserves P (fun s => s.outdateBuiltProducts k))
    (hbump : ∀ s, P s → P (s.modify k fun n => { n with deferCount := n.deferCount + 1 }))
    (hset : ∀ st d, st = .pending ∨ st = .failed → Preserves P (fun s => s.setStepState k st d))
    (hdet : Preserves P (fun s => s.detachCreatedSteps k))
    (hhash : ∀ s, P s → P (s.deleteHash k)) : Preserves P (fun s => s.completeFailure cfg k wd) := by
  intro s s' hp h
  obtain ⟨s1, s2, s3, st, d, h1, hst, h2, h3, rfl⟩ := completeFailure_ok h
  have hp1 := hout s s1 hp h1
  have hp2 := hset st d hst _ s2 (bumpDeferCount_ind s1 k wd hp1 (hbump s1 hp1)) h2
  obtain rfl | h3 := h3
  · exact hhash _ hp2
  · exact hhash _ (hdet s2 s3 hp2 h3)

theorem resetForRerun_of {P : KState → Prop} {k : Key} {s s' : KState} (hp : P (s.dropDynamicInputs k))
    (hsink : ∀ t, Preserves P (fun s => s.dropDynamicSink k t))
    (hdet : ∀ l : List Node, Preserves P (fun s => l.foldlM (fun s p => s.detach p.key) s))
    (hout : Preserves P (fun s => s.outdateBuilt k)) (h : s.resetForRerun k = .ok s') : P s' := by
  obtain ⟨s2, s3, s4, s5, h2, h3, h4, h5, h⟩ := resetForRerun_ok h
  exact hout s5 s' (hdet _ s4 s5 (hdet _ s3 s4 (hdet _ s2 s3 (foldlM_preserves P _ _ hsink _ s2 hp h2) h3) h4) h5) h

/-- The batch of `_supply_files`: all the new edges end in `step`, and the check was made for all
of them on the state before the first insertion. -/
theorem insertEdges_of {P : KState → Prop} (step : Key) (l : List Supply)
    (hins : ∀ i ∈ l, ∀ s s', (s.sinkClosure step).contains i.file = false → P s → s.insertDep i.file step = .ok s' → P s')
    (s s' : KState) (hc : ∀ i ∈ l, NotDownstream s.deps step i.file) (hp : P s)
    (h : l.foldlM (fun (st : KState) (i : Supply) => st.insertDep i.file step) s = .ok s') : P s' :=
  (foldlM_suffix (fun rest st => (∀ j ∈ rest, j ∈ l ∧ NotDownstream st.deps step j.file) ∧ P st) _
    (fun i rest s s1 hp h1 => by
      have hi := (hp.1 i List.mem_cons_self).2
      refine ⟨fun j hj => ⟨(hp.1 j (List.mem_cons_of_mem _ hj)).1, ?_⟩,
        hins i (hp.1 i List.mem_cons_self).1 s s1 ((notDownstream_iff _ _ _).1 hi) hp.2 h1⟩
      rw [insertDep_deps _ _ _ _ h1]
      exact notDownstream_append s.deps step i.file j.file false hi (hp.1 j (List.mem_cons_of_mem _ hj)).2)
    l s s' ⟨fun j hj => ⟨hj, hc j hj⟩, hp⟩ h).2

theorem resolveNode_of {P : KState → Prop}
    (hplace : ∀ p, Preserves P (fun s => s.create (fileKey p) none (.file .undeclared)))
    (hadopt : ∀ (s s' : KState) (p : String) (t : Key), s.owningTree p = .ok (some t) → P s →
      s.create (fileKey p) (some t) (.file .unconfirmed) = .ok s' → P s')
    {cfg : KConfig} {path : String} {s : KState} {r : KState × FileState × Bool} (hp : P s)
    (h : s.resolveNode cfg path = .ok r) : P r.1 := by
  obtain ⟨t, hown, _, _, hc, _⟩ | ⟨_, hc, _⟩ | ⟨_, _, _, _, e⟩ := resolveNode_ok h
  · exact hadopt s r.1 path t hown hp hc
  · exact hplace path s r.1 hp hc
  · exact (Prod.mk.inj e).1 ▸ hp

theorem supplyFiles_of {P : KState → Prop}
    (hplace : ∀ p, Preserves P (fun s => s.create (fileKey p) none (.file .undeclared)))
    (hadopt : ∀ (s s' : KState) (p : String) (t : Key), s.owningTree p = .ok (some t) → P s →
      s.create (fileKey p) (some t) (.file .unconfirmed) = .ok s' → P s')
    (hins : ∀ (a b : Key), a.kind = .file → ∀ (s s' : KState), (s.sinkClosure b).contains a = false → P s →
      s.insertDep a b = .ok s' → P s')
    {cfg : KConfig} {step : Key} {paths : List String} {rn : Bool} {s : KState} {r : KState × List Supply} (hp : P s)
    (h : s.supplyFiles cfg step paths rn = .ok r) : P r.1 := by
  obtain ⟨s1, h1, hcheck, h2⟩ := supplyFiles_ok h
  have hp1 : P s1 := foldlM_keeps (fun a : KState × List Supply => P a.1) _ paths (fun a x b _ ha hb => by
    obtain ⟨c, hc, hb⟩ := bind_ok_inv hb
    obtain ⟨st, det, hc1, _, _⟩ := resolveSupply_ok hc
    exact pure_ok_iff.1 hb ▸ resolveNode_of hplace hadopt ha hc1) (s, []) (s1, r.2) hp h1
  -- every supplied input is resolved to a file key, and the cycle check has looked at every new one
  exact insertEdges_of step _
    (fun i hi => hins i.file step (resolveAll_files h1 i (List.mem_filter.1 hi).1)) s1 r.1
    (fun i hi => (notDownstream_iff _ _ _).2 (hcheck i (List.mem_filter.1 hi).1 (List.mem_filter.1 hi).2)) hp1 h2

namespace StableW
variable {A : WClass → Bool} {G R : KState → Key → Prop} {P : KState → Prop}

/-- `mark_step_pending` with the `mark_file_outdated` / `mark_consuming_steps_pending` recursion. -/
def pendW : List WClass := [.outdate, .stepWrite]

/-- `mark_file_outdated`, and any other file write within the role of the file, followed by the propagation. -/
def outdateW : List WClass := .keepRole :: pendW

def detachW : List WClass := [.flags, .cut, .detached]

/-- The recycle branch of `Trellis.create` without the row initialiser. -/
def recycleW : List WClass := [.detached, .deleteHash] ++ detachW

/-- The row initialiser of `Trellis.create` on a recycled row. -/
def reinitW : Init → List WClass
  | .file _ => .writeFile :: outdateW
  | .step _ => [.stepInit]
  | _ => []

/-- The same on a fresh row, with its `INSERT INTO node` first. -/
def initW : Init → List WClass
  | .file st => .freshFile :: reinitW (.file st)
  | init => .appendNode :: reinitW init

/-- From the fine-grained leaves (trigger effects as rewrites of cache columns, as `StableG` and its
variants list them) to the leaves with their triggers. -/
theorem ofFine
    (cache : ∀ (s : KState) (p : Node → Bool) (f : Node → Node), CacheOnlyRes f → P s → P (s.modifyWhere p f))
    (fileWrite : A .writeFile → ∀ (s : KState) (k : Key) (n n' : Node) (st : FileState) (nh : Option (Option Nat)),
      s.find? k = some n → fileRowWrite n st nh = .ok n' → P s → P (s.modify k fun _ => n'))
    (keepRole : A .keepRole → A .writeFile = false → ∀ (k : Key) (st : FileState) (nh : Option (Option Nat))
      (s s' : KState), P s → RoleKept s k st → s.writeFile k st nh = .ok s' → P s')
    (outdate : A .outdate → A .writeFile = false → OutdateStable P)
    (stepWrite : ∀ (s : KState) (k : Key) (n n' : Node) (st : StepState) (d : Option Bool), A (stepW st) →
      (st = .running → R s k) → s.find? k = some n → stepRowWrite n st d = .ok n' → P s → P (s.modify k fun _ => n'))
    (stepInit : A .stepInit → ∀ (s : KState) (k : Key) (i : StepInit), P s → P (s.initStepRow k i))
    (setHash : A .setHash → ∀ (s : KState) (k : Key) (h : Nat), P s → P (s.setHash k h))
    (deleteHash : A .deleteHash → ∀ (s : KState) (k : Key), P s → P (s.deleteHash k))
    (bumpDefer : A .bumpDefer → ∀ (s : KState) (k : Key), P s →
      P (s.modify k fun n => { n with deferCount := n.deferCount + 1 }))
    (hold : A .hold → ∀ (s : KState) (k : Key), G s k → P s → P (s.modify k fun n => { n with holding := n.holding + 1 }))
    (release : A .release → ∀ (s : KState) (k : Key) (n : Node), s.find? k = some n → n.holding ≠ 0 → P s →
      P (s.modify k fun n => { n with holding := n.holding - 1 }))
    (recycled : A .recycled → ∀ (s : KState) (k : Key) (need : Need) (shell : Bool), P s →
      P (s.modify k fun n => { n with need := need, shell := shell }))
    (addDep : ∀ (s : KState) (src snk : Key), A (depW src.kind) → (s.sinkClosure snk).contains src = false →
      s.hasDep src snk = false → depKindOk src.kind snk.kind = true → P s →
      P { s with deps := s.deps ++ [({ src := src, snk := snk } : Dep)] })
    (filterDeps : A .delDeps → ∀ (s : KState) (p : Dep → Bool), P s → P { s with deps := s.deps.filter fun d => !p d })
    (filterStepDeps : A .delStepDeps → ∀ (s : KState) (p : Dep → Bool),
      (∀ d ∈ s.deps, p d = true → d.snk.kind ≠ .file) → P s → P { s with deps := s.deps.filter fun d => !p d })
    (markDyn : A .setDynamic → ∀ (s : KState) (src snk : Key) (dyn : Bool), P s →
      P { s with deps := s.deps.map fun (d : Dep) => if d.src = src ∧ d.snk = snk then { d with dyn := dyn } else d })
    (queueDelete : A .queueDelete → ∀ (s : KState) (path : String) (h : Option Nat), P s → P (s.queueDelete path h))
    (clearQueue : A .clearQueue → ∀ (s : KState), P s → P { s with toBeDeleted := [] })
    (detached : A .detached → ∀ (s : KState) (k : Key) (d : Bool), P s →
      P (s.modify k fun n => { n with detached := d }))
    (creator : ∀ (s : KState) (k : Key) (c : Option Key) (d : Bool), A (creatorW k.kind c) →
      s.creatorAllowed k c d = true → P s → P (s.modify k fun n => { n with creator := c }))
    (handOverRow : A .handOver → ∀ (s : KState) (k tk : Key), P s → P (s.modify k fun n => { n with creator := some tk }))
    (freshFile : A .freshFile → ∀ (s : KState) (k : Key) (c : Option Key) (st : FileState), s.find? k = none →
      s.insertAllowed k c = true → NoHashState st → (st = .undeclared → (s.appendNode k c).isDetached k = true) → P s →
      P ((s.appendNode k c).modify k fun n => { n with fstate := st, fhash := none }))
    (appendNode : A .appendNode → ∀ (s : KState) (k : Key) (c : Option Key), k.kind ≠ .file → s.find? k = none →
      s.insertAllowed k c = true → P s → P (s.appendNode k c))
    (removeNode : A .removeNode → ∀ (s : KState) (k : Key), (∀ d ∈ s.deps, d.snk ≠ k) → P s →
      P { s with nodes := s.nodes.filter (·.key ≠ k) }) : StableW A G R P := by
  have flagReady : ∀ s k, P s → P (s.flagReadySinks k) := fun s k hp => cache s _ _ (fun _ => ⟨rfl, rfl⟩) hp
  have flagEnds : ∀ s a b, P s → P (s.flagDepEndpoints a b) := fun s a b hp => cache s _ _ (fun _ => ⟨rfl, rfl⟩) hp
  have delEnds : ∀ (s : KState) (p : Dep → Bool), P { s with deps := s.deps.filter fun d => !p d } → P (s.deleteDeps p) :=
    fun s p hp => deleteDeps_ind s p hp flagEnds
  have writeFile : A .writeFile → ∀ k st nh, Preserves P (fun s => s.writeFile k st nh) := fun ha k st nh s s' hp h => by
    obtain ⟨_, rfl⟩ | ⟨n, n', hf, hw, rfl⟩ := writeFile_ok h
    · exact hp
    · have hw := fileWrite ha s k n n' st nh hf hw hp
      exact ite_both P (flagReady _ k hw) hw
  exact {
    writeFile, stepWrite, stepInit, setHash, deleteHash, bumpDefer, hold, release, recycled, queueDelete, clearQueue, creator
    handOverRow, appendNode
    flags := fun _ s p f hf hp => cache s p f hf.inert.cacheOnlyRes hp
    payload := fun _ s p f hf hp => cache s p f (hf.mono noEnv_inert).cacheOnlyRes hp
    cache := fun _ s p f hf hp => cache s p f hf.cacheOnlyRes hp
    keepRole := fun hk k st nh s s' hp hr h => by
      cases hw : A .writeFile with
      | true => exact writeFile hw k st nh s s' hp h
      | false => exact keepRole hk hw k st nh s s' hp hr h
    outdate := fun ho s s' t f h1 h2 h3 h4 hp h => by
      cases hw : A .writeFile with
      | true => exact writeFile hw f .outdated none s s' hp h
      | false => exact outdate ho hw s s' t f h1 h2 h3 h4 hp h
    insertDep := fun a b s s' ha hc hp h => by
      obtain ⟨hdup, hkind, rfl⟩ := insertDep_ok h
      exact flagEnds _ a b (addDep s a b ha hc hdup hkind hp)
    deleteDeps := fun ha s p hp => delEnds s p (filterDeps ha s p hp)
    delStepDeps := fun ha s p hq hp => delEnds s p (filterStepDeps ha s p hq hp)
    setDynamic := fun ha => setDynamic_of cache
      (fun n => ite_both (fun m : Node => m.hard = n.hard ∧ m.resources = n.resources) ⟨rfl, rfl⟩ ⟨rfl, rfl⟩) (markDyn ha)
    updateMetaReady := fun _ s hp => cache s _ _ (fun _ => ⟨rfl, rfl⟩) hp
    setDetachedRow := fun ha s k d hp => setDetachedRow_ind s k d hp (detached ha s k d hp) fun t => flagReady t k
    freshFile := fun ha s k c st hf hins hst hund hp => flagReady _ k (freshFile ha s k c st hf hins hst hund hp)
    removeNode := fun ha s k hsnk _ hp => removeNode ha s k hsnk hp }

theorem flagsAt (L : StableW A G R P) (ha : A .flags) (s : KState) (k : Key) (f : Node → Node) (hf : RaisesFlags f)
    (hp : P s) : P (s.modify k f) := modify_of_where (L.flags ha) s k f hf hp

theorem payloadAt (L : StableW A G R P) (ha : A .payload) (s : KState) (k : Key) (f : Node → Node)
    (hf : Keeps Node.noEnv f) (hp : P s) : P (s.modify k f) := modify_of_where (L.payload ha) s k f hf hp

theorem deleteDepsInto (L : StableW A G R P) (k : Key) (hd : A (delW k.kind)) (s : KState) (p : Dep → Bool)
    (hq : ∀ d ∈ s.deps, p d = true → d.snk = k) (hp : P s) : P (s.deleteDeps p) := by
  by_cases hk : k.kind = .file
  · exact L.deleteDeps (delW_file hk ▸ hd) s p hp
  · exact L.delStepDeps (delW_ne hk ▸ hd) s p (fun d hd' hpd => hq d hd' hpd ▸ hk) hp

theorem setFileState_preserves (L : StableW A G R P) (ha : A .writeFile) (k : Key) (st : FileState) :
    Preserves P (fun s => s.setFileState k st) := L.writeFile ha k st none

/-- `Step.set_state` -/
theorem writeStepState_run (L : StableW A G R P) (k : Key) (st : StepState) (d : Option Bool) (s s' : KState)
    (hs : A (stepW st)) (hr : st = .running → R s k) (hp : P s) (h : s.writeStepState k st d = .ok s') : P s' := by
  obtain ⟨_, rfl⟩ | ⟨n, n', hf, hw, rfl⟩ := writeStepState_ok h
  · exact hp
  · exact L.stepWrite s k n n' st d hs hr hf hw hp

theorem writeStepState_preserves (L : StableW A G R P) (k : Key) (st : StepState) (d : Option Bool) (hs : A (stepW st))
    (hst : st ≠ .running) : Preserves P (fun s => s.writeStepState k st d) :=
  fun s s' hp h => L.writeStepState_run k st d s s' hs (fun e => absurd e hst) hp h

theorem setStepState_preserves (L : StableW A G R P) (k : Key) (st : StepState) (d : Bool) (hs : A (stepW st))
    (hst : st ≠ .running) : Preserves P (fun s => s.setStepState k st d) := L.writeStepState_preserves k st (some d) hs hst

theorem propInvC (L : StableW A G R P) (hA : Sub pendW A) : PropInvC P where
  file := L.outdate hA.head
  step := fun s s' t _ hp _ _ _ h => L.setStepState_preserves t .pending false hA.tail.head nofun s s' hp h

theorem markStepPending_preserves (L : StableW A G R P) (hA : Sub pendW A) (fuel : Nat) (k : Key) :
    Preserves P (fun s => StepupModel.K.markStepPending fuel s k) :=
  fun s s' hp h => markStepPending_invC (L.propInvC hA) fuel s s' k hp h

theorem markStepPending'_preserves (L : StableW A G R P) (hA : Sub pendW A) (k : Key) :
    Preserves P (fun s => s.markStepPending k) :=
  fun s s' hp h => L.markStepPending_preserves hA s.fuel k s s' hp h

theorem markConsumersPending_preserves (L : StableW A G R P) (hA : Sub pendW A) (f : Key) :
    Preserves P (fun s => s.markConsumersPending f) := markConsumersPending_of (L.markStepPending'_preserves hA) f

theorem markFileOutdated_preserves (L : StableW A G R P) (hA : Sub outdateW A) (f : Key) :
    Preserves P (fun s => s.markFileOutdated f) := by
  intro s s' hp h
  obtain ⟨_, rfl⟩ | ⟨s1, hb, hw, h⟩ := markFileOutdated_ok h
  · exact hp
  · exact L.markConsumersPending_preserves hA.tail f s1 s'
      (L.keepRole hA.head f .outdated none s s1 hp (roleKept_of_fstate hb rfl) hw) h

theorem handleUpdated_preserves (L : StableW A G R P) (hA : Sub pendW A) (f : Key) :
    Preserves P (fun s => s.handleUpdated f) := handleUpdated_of (L.markStepPending'_preserves hA) f

theorem handleDeleted_preserves (L : StableW A G R P) (hA : Sub pendW A) (f : Key) :
    Preserves P (fun s => s.handleDeleted f) := handleDeleted_of (L.markStepPending'_preserves hA) f

/-- A batch of file writes whose rows and new states are chosen on the state before the first write: every
write keeps the role of its row, so the choice stays good along the batch. -/
theorem writeFiles_keep (L : StableW A G R P) (ha : A .keepRole) {α : Type} (key : α → Key) (st : α → FileState)
    (nh : α → Option (Option Nat)) (l : List α) (s s' : KState) (hp : P s)
    (hv : ∀ a ∈ l, RoleKept s (key a) (st a))
    (h : l.foldlM (fun t a => t.writeFile (key a) (st a) (nh a)) s = .ok s') : P s' :=
  (foldlM_keeps (fun t => P t ∧ ∀ a ∈ l, RoleKept t (key a) (st a)) _ l
    (fun t a t' ha' ht hw => ⟨L.keepRole ha _ _ _ t t' ht.1 (ht.2 a ha') hw,
      fun b hb => (ht.2 a ha').writeFile hw (ht.2 b hb)⟩) s s' ⟨hp, hv⟩ h).1

theorem updateFileHashes_preserves (L : StableW A G R P) (hA : Sub outdateW A) (updates : List (String × Option Nat))
    (cause : Cause) : Preserves P (fun s => s.updateFileHashes updates cause) := by
  intro s s' hp h
  obtain rfl | ⟨recs, s1, s2, s3, hrecs, h1, h2, h3, h⟩ := updateFileHashes_ok h
  · exact hp
  · have hP : Sub pendW A := hA.tail
    have hp1 := L.writeFiles_keep hA.head (·.key) (·.newState) (fun r : HashRec => some r.newHash) recs s s1 hp
      (fun r hr n hn => by
        obtain ⟨_, hu⟩ := hrecs r hr
        obtain ⟨m, hm, hrole⟩ := hashRec_role hu
        exact Option.some.inj (hm.symm.trans hn) ▸ hrole) h1
    have hp2 := foldlM_preserves P _ _ (fun r : HashRec => L.handleUpdated_preserves hP r.key) s1 s2 hp1 h2
    have hp3 := foldlM_preserves P _ _ (fun r : HashRec => L.handleDeleted_preserves hP r.key) s2 s3 hp2 h3
    exact foldlM_preserves P _ _ (fun r : HashRec => L.markConsumersPending_preserves hP r.key) s3 s' hp3 h

theorem flagChecksWithProducts_preserves (L : StableW A G R P) (ha : A .flags) (k : Key) :
    Preserves P (fun s => s.flagChecksWithProducts k) := by
  intro s s' hp h
  obtain ⟨ks, _, rfl⟩ := flagChecksWithProducts_ok h
  exact L.flags ha _ _ _ (fun _ => ⟨true, true, rfl⟩) hp

theorem flagCheckAfterSources_preserves (L : StableW A G R P) (ha : A .flags) (k : Key) :
    Preserves P (fun s => s.flagCheckAfterSources k) := by
  intro s s' hp h
  obtain ⟨ks, _, rfl⟩ := flagCheckAfterSources_ok h
  exact L.flags ha _ _ _ (fun _ => ⟨false, true, rfl⟩) hp

theorem detachFlags_preserves (L : StableW A G R P) (ha : A .flags) (k : Key) :
    Preserves P (fun s => s.detachFlags k) := by
  intro s s' hp h
  obtain ⟨_, rfl⟩ | ⟨_, s2, h2, h⟩ := detachFlags_ok h
  · exact hp
  · exact L.flagCheckAfterSources_preserves ha k s2 s' (L.flagChecksWithProducts_preserves ha k s s2 hp h2) h

theorem dropDynamicInputs (L : StableW A G R P) (hA : Sub [.flags, .payload] A) (s : KState) (k : Key)
    (hd : A (delW k.kind)) (hp : P s) : P (s.dropDynamicInputs k) :=
  L.payloadAt hA.tail.head _ _ _ (fun _ => rfl)
    (L.deleteDepsInto k hd _ _ (fun _ _ h => (of_decide_eq_true h).1)
      (L.flags hA.head _ _ _ (fun _ => ⟨false, true, rfl⟩) hp))

theorem outdateBuilt_preserves (L : StableW A G R P) (hA : Sub outdateW A) (k : Key) :
    Preserves P (fun s => s.outdateBuilt k) :=
  fun s s' hp h => foldlM_preserves P _ _ (fun n : Node => L.markFileOutdated_preserves hA n.key) s s' hp h

theorem outdateBuiltProducts_preserves (L : StableW A G R P) (ha : A .writeFile) (k : Key) :
    Preserves P (fun s => s.outdateBuiltProducts k) :=
  fun s s' hp h => foldlM_preserves P _ _ (fun f : Node => L.setFileState_preserves ha f.key .outdated) s s' hp h

/-- The same with one row per key: the BUILT products were selected on the state of the call. -/
theorem outdateBuiltProducts_keep (L : StableW A G R P) (ha : A .keepRole)
    (hfound : ∀ s n, P s → n ∈ s.nodes → s.find? n.key = some n) (k : Key) :
    Preserves P (fun s => s.outdateBuiltProducts k) := by
  intro s s' hp h
  refine L.writeFiles_keep ha (fun f : Node => f.key) (fun _ => .outdated) (fun _ => none) _ s s' hp (fun f hf n hn => ?_) h
  obtain ⟨hfp, hb⟩ := List.mem_filter.1 hf
  rw [hfound s f hp (mem_fileProducts_iff.1 hfp).1] at hn
  exact Option.some.inj hn ▸ (of_decide_eq_true hb).symm ▸ rfl

theorem rebuildOutdatedProducts_preserves (L : StableW A G R P) (hA : Sub outdateW A) (k : Key) :
    Preserves P (fun s => s.rebuildOutdatedProducts k) := by
  intro s s' hp h
  refine foldlM_preserves P _ _ (fun (f : Node) st st' hst hh => ?_) s s' hp h
  rcases ite_ok hh with ⟨ho, hh⟩ | ⟨_, hh⟩
  · obtain ⟨st1, h1, h2⟩ := bind_ok_inv hh
    exact L.markConsumersPending_preserves hA.tail f.key st1 st'
      (L.keepRole hA.head f.key .built none st st1 hst (roleKept_of_fstate ho rfl) h1) h2
  · exact pure_ok_iff.1 hh ▸ hst

def completeSuccessW : List WClass := [.stepSucceed, .setHash, .payload] ++ outdateW

theorem completeSuccess_preserves (L : StableW A G R P) (hA : Sub completeSuccessW A) (cfg : KConfig) (k : Key)
    (hh : Nat) : Preserves P (fun s => s.completeSuccess cfg k hh) := by
  intro s s' hp h
  obtain ⟨s1, s2, h1, h2, rfl⟩ := completeSuccess_ok h
  have hp2 := L.rebuildOutdatedProducts_preserves hA.right k s1 s2
    (L.setStepState_preserves k .succeeded false hA.left.head nofun s s1 hp h1) h2
  exact L.payloadAt hA.left.tail.tail.head _ _ _ (fun _ => rfl) (L.setHash hA.left.tail.head s2 k hh hp2)

theorem markDir (L : StableW A G R P) (ha : A .queueDelete) (s : KState) (d : String) (hp : P s) :
    P (s.markDirToBeDeleted d) :=
  markDir_ind s d hp (L.queueDelete ha s _ none hp)

def revertW : List WClass := [.queueDelete, .keepRole, .stepWrite]

theorem revertOutput_preserves (L : StableW A G R P) (hA : Sub revertW A) (f : Key) :
    Preserves P (fun s => s.revertOutput f) := by
  intro s s' hp h
  have hq : ∀ x, P ((s.queueDelete f.label x).markDirToBeDeleted (parentDir f.label)) := fun x =>
    L.markDir hA.head _ _ (L.queueDelete hA.head s _ x hp)
  obtain rfl | ⟨fn, hf, _, hst, ⟨_, rfl⟩ | ⟨hnv, h⟩⟩ := revertOutput_ok h
  · exact hp
  · exact hq _
  · refine L.keepRole hA.tail.head f .planned (some none) _ s' (hq _) (fun m hm => ?_) h
    rw [find?_markDir] at hm
    obtain rfl : fn = m := Option.some.inj (hf.symm.trans hm)
    rcases hst.resolve_left hnv with hx | hx <;> rw [hx] <;> rfl

theorem revertStep_preserves (L : StableW A G R P) (hA : Sub revertW A) (n : Node) :
    Preserves P (fun s => s.revertStep n) := by
  intro s s' hp h
  refine bind_ok_elim h fun a ha h => ?_
  refine foldlM_preserves P _ _ (L.revertOutput_preserves hA) a s' ?_ h
  rcases ite_ok ha with ⟨_, ha⟩ | ⟨_, ha⟩
  · exact L.writeStepState_preserves n.key .pending none hA.tail.tail.head nofun s a hp ha
  · exact pure_ok_iff.1 ha ▸ hp

/-- `finalize.revert_optional_steps` -/
theorem revertOptional_preserves (L : StableW A G R P) (hA : Sub revertW A) : Preserves P (fun s => s.revertOptional) :=
  fun s s' hp h => foldlM_preserves P _ _ (L.revertStep_preserves hA) s s' hp h

/-- `startup.reset_interrupted_steps` -/
theorem resetInterrupted_preserves (L : StableW A G R P) (hA : Sub pendW A) : Preserves P (fun s => s.resetInterrupted) := by
  intro s s' hp h
  obtain ⟨s1, s2, h1, h2, h⟩ := resetInterrupted_ok h
  have hp1 := foldlM_preserves P _ _
    (fun n : Node => L.writeStepState_preserves n.key .failed none hA.tail.head nofun) s s1 hp h1
  have hp2 := foldlM_preserves P _ _
    (fun n : Node => L.writeStepState_preserves n.key .pending none hA.tail.head nofun) s1 s2 hp1 h2
  exact foldlM_preserves P _ _ (fun n : Node => L.markStepPending'_preserves hA n.key) s2 s' hp2 h

theorem rescanEnvVars_preserves (L : StableW A G R P) (hA : Sub pendW A) (cfg : KConfig) :
    Preserves P (fun s => s.rescanEnvVars cfg) := rescanEnvVars_of (L.markStepPending'_preserves hA) cfg

theorem checkConsistency_preserves (L : StableW A G R P) (hA : Sub pendW A) : Preserves P (fun s => s.checkConsistency) :=
  checkConsistency_of (L.markStepPending'_preserves hA)

theorem hold_preserves (L : StableW A G R P) (hA : Sub [.hold, .flags] A) (k : Key) (s s' : KState) (hg : G s k)
    (hp : P s) (h : s.hold k = .ok s') : P s' := by
  obtain h | ⟨_, rfl⟩ := hold_ok h
  · exact L.flagChecksWithProducts_preserves hA.tail.head k _ s' (L.hold hA.head s k hg hp) h
  · exact L.hold hA.head s k hg hp

theorem release_preserves (L : StableW A G R P) (hA : Sub [.release, .flags] A) (k : Key) :
    Preserves P (fun s => s.release k) := by
  intro s s' hp h
  obtain ⟨n, hf, hne, h | ⟨_, rfl⟩⟩ := release_ok h
  · exact L.flagChecksWithProducts_preserves hA.tail.head k _ s' (L.release hA.head s k n hf hne hp) h
  · exact L.release hA.head s k n hf hne hp

theorem rowMap (L : StableW A G R P) (ha : A .cache) {β : Type} {e : Node → β} {s s' : KState} (h : RowMap e s s')
    (he : Finer e Node.inert) (hp : P s) : P s' := by
  obtain ⟨g, hg, rfl⟩ := h
  exact L.cache ha s (fun _ => true) g (hg.mono he) hp

theorem updateMetaSafe_preserves (L : StableW A G R P) (ha : A .cache) : Preserves P (fun s => s.updateMetaSafe) :=
  fun _ _ hp h => L.rowMap ha (updateMetaSafe_rowMap h) (.of_blind _ fun _ => rfl) hp

theorem updateMetaAfter_preserves (L : StableW A G R P) (ha : A .cache) (cfg : KConfig) :
    Preserves P (fun s => s.updateMetaAfter cfg) :=
  fun _ _ hp h => L.rowMap ha (updateMetaAfter_rowMap h) (.of_blind _ fun _ => rfl) hp

def updateMetaW : List WClass := [.cache, .metaReady]

theorem updateMeta_preserves (L : StableW A G R P) (hA : Sub updateMetaW A) (cfg : KConfig) :
    Preserves P (fun s => s.updateMeta cfg) := by
  intro s s' hp h
  obtain ⟨s2, h12, rfl⟩ := updateMeta_rowMap' h
  exact L.updateMetaReady hA.tail.head s2 (L.rowMap hA.head h12 (.of_blind _ fun _ => rfl) hp)

def popNextW : List WClass := [.stepWrite, .stepRun] ++ updateMetaW

/-- `pop_next_job`: the refresh, then at most one `Step.set_state`, to RUNNING when the step has no
recorded hash; the caller establishes `R` for that step on the refreshed state, of which it knows `P`. -/
theorem popNext_preserves (L : StableW A G R P) (hA : Sub popNextW A) (cfg : KConfig) (choice : Option Key)
    (s s' : KState) (d : Dispatch)
    (hr : ∀ su k n run, s.updateMeta cfg = .ok su → P su → choice = some k → n ∈ su.nodes → n.key = k →
      su.eligible cfg n = true → n.hasHash = false → d = .job k false run → R su k)
    (hp : P s) (h : s.popNext cfg choice = .ok (s', d)) : P s' := by
  obtain ⟨su, hu, ⟨_, rfl, _⟩ | ⟨k, n, run, hc, hn, hk, he, _, hs, hd⟩⟩ := popNext_ok h
  · exact L.updateMeta_preserves hA.right cfg s _ hp hu
  · have hpu := L.updateMeta_preserves hA.right cfg s su hp hu
    cases hh : n.hasHash with
    | true => rw [hh] at hs; exact L.writeStepState_run k .checking _ su s' hA.left.head nofun hpu hs
    | false =>
      rw [hh] at hs hd
      exact L.writeStepState_run k .running _ su s' hA.left.tail.head
        (fun _ => hr su k n run hu hpu hc hn hk he hh hd) hpu hs

theorem reconcileTarget_preserves (L : StableW A G R P) (ha : A .flags) (t : String) :
    Preserves P (fun s => s.reconcileTarget t) := by
  intro s s' hp h
  obtain rfl | ⟨c, rfl⟩ := reconcileTarget_ok h
  · exact hp
  · exact L.flagsAt ha _ _ _ (fun _ => ⟨false, true, rfl⟩) hp

theorem reconcileTargets_preserves (L : StableW A G R P) (ha : A .flags) (cfg : KConfig) :
    Preserves P (fun s => s.reconcileTargets cfg) := by
  intro s s' hp h
  have hf := fun s p hs => L.flags ha s p _ (fun _ => ⟨false, true, rfl⟩) hs
  refine bind_ok_elim h fun s1 h1 h => ?_
  exact pure_ok_iff.1 h ▸ hf _ _ (foldlM_preserves P _ _ (L.reconcileTarget_preserves ha) _ s1 (hf _ _ hp) h1)

theorem afterLostProduct_preserves (L : StableW A G R P) (ha : A .deleteHash) (k : Key) :
    Preserves P (fun s => s.afterLostProduct k) := by
  intro s s' hp h
  obtain ⟨_, rfl⟩ | ⟨_, rfl⟩ := afterLostProduct_ok h
  · exact L.deleteHash ha s k hp
  · exact hp

theorem lostProduct_preserves (L : StableW A G R P) (ha : A .deleteHash) (old : Option Key) :
    Preserves P (fun s => s.lostProduct old) := by
  intro s s' hp h
  obtain ⟨_, rfl⟩ | ⟨oc, _, _, h⟩ := lostProduct_ok h
  · exact hp
  · exact L.afterLostProduct_preserves ha oc s s' hp h

theorem flagIfStep_preserves (L : StableW A G R P) (ha : A .flags) (k : Key) : Preserves P (fun s => s.flagIfStep k) := by
  intro s s' hp h
  obtain ⟨_, rfl⟩ | ⟨_, h⟩ := flagIfStep_ok h
  · exact hp
  · exact L.flagChecksWithProducts_preserves ha k s s' hp h

theorem initFileRow_recycle_preserves (L : StableW A G R P) (hA : Sub (.writeFile :: outdateW) A) (k : Key)
    (st : FileState) :
    Preserves P (fun s => s.initFileRow k st true) := by
  intro s s' hp h
  obtain ⟨s1, h1, hm⟩ := initFileRow_ok h
  have hp1 : P s1 := by
    obtain ⟨_, h⟩ | ⟨he, _⟩ := writeInitialFile_ok h1
    · exact L.setFileState_preserves hA.head k _ s s1 hp h
    · cases he
  obtain ⟨_, h⟩ | ⟨_, rfl⟩ := hm
  · exact L.markFileOutdated_preserves hA.tail k s1 s' hp1 h
  · exact hp1

theorem sub_reinit {init : Init} (h : Sub (initW init) A) : Sub (reinitW init) A := by
  cases init <;> exact h.tail

theorem initRow_recycle_preserves (L : StableW A G R P) (k : Key) (init : Init) (hi : Sub (reinitW init) A) :
    Preserves P (fun s => s.initRow k init true) := by
  intro s s' hp (h : s.initRow k init true = .ok s')
  cases init with
  | root => exact pure_ok_iff.1 h ▸ hp
  | tree => exact pure_ok_iff.1 h ▸ hp
  | file st =>
    exact L.initFileRow_recycle_preserves (show Sub (.writeFile :: outdateW) A from hi) k st s s' hp h
  | step i =>
    exact pure_ok_iff.1 h ▸ L.stepInit (show Sub [.stepInit] A from hi).head s k i hp

theorem insertEdges_preserves (L : StableW A G R P) (step : Key) (l : List Supply) (s s' : KState)
    (hd : ∀ i ∈ l, A (depW i.file.kind)) (hc : ∀ i ∈ l, NotDownstream s.deps step i.file) (hp : P s)
    (h : l.foldlM (fun (st : KState) (i : Supply) => st.insertDep i.file step) s = .ok s') : P s' :=
  insertEdges_of step l (fun i hi b b' => L.insertDep i.file step b b' (hd i hi)) s s' hc hp h

theorem insertNewEdges_preserves (L : StableW A G R P) (step : Key) (infos : List Supply) (s s' : KState)
    (hd : ∀ i ∈ infos, A (depW i.file.kind))
    (hc : ∀ i ∈ infos.filter (·.newRel), (s.sinkClosure step).contains i.file = false) (hp : P s)
    (h : s.insertNewEdges step infos = .ok s') : P s' :=
  L.insertEdges_preserves step _ s s' (fun i hi => hd i (List.mem_filter.1 hi).1)
    (fun i hi => (notDownstream_iff _ _ _).2 (hc i hi)) hp h

theorem addSourceChecked_preserves (L : StableW A G R P) (a b : Key) (hd : A (depW b.kind)) :
    Preserves P (fun s => s.addSourceChecked a b) := by
  intro s s' hp h
  obtain ⟨hc, h⟩ := addSourceChecked_ok h
  exact L.insertDep b a s s' hd hc hp h

theorem afterRecycle_of (L : StableW A G R P) (hm : ∀ k, Preserves P (fun s => s.markStepPending k))
    (hr : A .recycled) (sk : Key) (d : StepDecl) (n : Node) : Preserves P (fun s => s.afterRecycle sk d n) := by
  intro s s' hp h
  have hp2 := L.recycled hr s sk d.need d.shell hp
  obtain ⟨_, h⟩ | ⟨_, rfl⟩ := afterRecycle_ok h
  · exact hm sk _ s' hp2 h
  · exact hp2

theorem afterRecycle_preserves (L : StableW A G R P) (hA : Sub (.recycled :: pendW) A) (sk : Key) (d : StepDecl)
    (n : Node) : Preserves P (fun s => s.afterRecycle sk d n) :=
  L.afterRecycle_of (L.markStepPending'_preserves hA.tail) hA.head sk d n

theorem registerNglob_preserves (L : StableW A G R P) (ha : A .payload) (step : Key) (pattern : String)
    (found : List String) : Preserves P (fun s => s.registerNglob step pattern found) := by
  intro s s' hp h
  refine bind_ok_elim h fun _ _ h => ?_
  exact pure_ok_iff.1 h ▸ L.payloadAt ha _ _ _ (fun _ => rfl) hp

def resetForRerunW : List WClass := [.flags, .payload] ++ ([.delDeps, .delStepDeps] ++ outdateW)

theorem resetForRerun_of_detach (L : StableW A G R P) (hA : Sub resetForRerunW A)
    (hdet : ∀ k, Preserves P (fun s => s.detach k)) (k : Key) : Preserves P (fun s => s.resetForRerun k) :=
  fun s _ hp h => resetForRerun_of (L.dropDynamicInputs hA.left s k (delW_of hA.right.left _) hp)
    (fun t b b' hb hw => hdet t _ b' (L.deleteDeps hA.right.left.head b _ hb) hw) (detachAll_of hdet)
    (L.outdateBuilt_preserves hA.right.right k) h

def markCompletedW : List WClass := [.writeFile, .stepWrite, .bumpDefer, .deleteHash] ++ completeSuccessW

theorem markCompleted_of_detach (L : StableW A G R P) (hA : Sub markCompletedW A)
    (hdet : ∀ k, Preserves P (fun s => s.detach k)) (cfg : KConfig)
    (k : Key) (nh : Option Nat) (wd : Bool) (s s' : KState) (b : Bool) (hp : P s)
    (h : s.markCompleted cfg k nh wd = .ok (s', b)) : P s' := by
  obtain ⟨_, h⟩ | ⟨hh, _, h⟩ := markCompleted_ok h
  · exact completeFailure_of (L.outdateBuiltProducts_preserves hA.left.head k) (L.bumpDefer hA.left.tail.tail.head · k)
      (fun st d hst => by
        rcases hst with rfl | rfl <;> exact L.setStepState_preserves k _ d hA.left.tail.head nofun)
      (fun s => detachAll_of hdet _ s) (L.deleteHash hA.left.tail.tail.tail.head · k) s s' hp h
  · exact L.completeSuccess_preserves hA.right cfg k hh s s' hp h

/-- `Workflow.delete_detached`, given one pass of `Trellis.delete_detached` as well -/
theorem deleteDetached_of_detach (L : StableW A G R P) (ha : A .deleteHash)
    (hdet : ∀ k, Preserves P (fun s => s.detach k))
    (hpass : ∀ s r, P s → s.deletePass = .ok r → P r.1) : Preserves P (fun s => s.deleteDetached) :=
  deleteDetached_of_pass hpass (L.deleteHash ha) fun s k s' => hdet k s s'

theorem setDetachedRec (L : StableW A G R P) (ha : A .detached) (s : KState) (k : Key) (d : Bool) (hp : P s) :
    P (s.setDetachedRec k d) :=
  setDetachedRec_ind s k d hp fun t x _ => L.setDetachedRow ha t x d

theorem setCreator_preserves (L : StableW A G R P) (ha : A .detached) (k : Key) (c : Option Key) (d : Bool)
    (hc : A (creatorW k.kind c)) : Preserves P (fun s => s.setCreator k c d) := by
  intro s s' hp h
  obtain ⟨hall, rfl⟩ := setCreator_ok h
  exact L.setDetachedRow ha _ k d (L.creator s k c d hc hall hp)

theorem detach_preserves (L : StableW A G R P) (hA : Sub detachW A) (k : Key) : Preserves P (fun s => s.detach k) :=
  detach_of (L.setCreator_preserves hA.tail.tail.head k none true hA.tail.head)
    (fun s => L.setDetachedRec hA.tail.tail.head s k true) (L.detachFlags_preserves hA.head k)

theorem detachCreatedSteps_preserves (L : StableW A G R P) (hA : Sub detachW A) (k : Key) :
    Preserves P (fun s => s.detachCreatedSteps k) :=
  fun s s' hp h => foldlM_preserves P _ _ (fun p : Node => L.detach_preserves hA p.key) s s' hp h

theorem detachProducts_preserves (L : StableW A G R P) (hA : Sub detachW A) (k : Key) :
    Preserves P (fun s => s.detachProducts k) :=
  fun s s' hp h => foldlM_preserves P _ _ (fun p : Node => L.detach_preserves hA p.key) s s' hp h

theorem resetForRerun_preserves (L : StableW A G R P) (hA : Sub (resetForRerunW ++ detachW) A) (k : Key) :
    Preserves P (fun s => s.resetForRerun k) :=
  L.resetForRerun_of_detach hA.left (L.detach_preserves hA.right) k

def reattachW : List WClass := [.detached, .deleteHash, .flags]

theorem reattachCore_preserves (L : StableW A G R P) (hA : Sub reattachW A) (k c : Key) (n : Node)
    (hc : A (creatorW k.kind (some c))) : Preserves P (fun s => s.reattachCore k c n) := by
  intro s s' hp h
  obtain ⟨s1, s2, h1, h2, h3⟩ := reattachCore_ok h
  have hp2 := L.lostProduct_preserves hA.tail.head n.creator s1 s2
    (L.setCreator_preserves hA.head k (some c) _ hc s s1 hp h1) h2
  exact L.flagIfStep_preserves hA.tail.tail.head k _ s' (L.setDetachedRec hA.head s2 k _ hp2) h3

theorem reattach_preserves (L : StableW A G R P) (hA : Sub reattachW A) (k c : Key) (hc : A (creatorW k.kind (some c))) :
    Preserves P (fun s => s.reattach k c) := by
  intro s s' hp h
  obtain ⟨n, _, _, _, h⟩ := reattach_ok h
  exact L.reattachCore_preserves hA k c n hc s s' hp h

theorem recycleCore_preserves (L : StableW A G R P) (hA : Sub recycleW A) (k : Key) (n : Node) (creator : Option Key)
    (init : Init) (hc : A (creatorW k.kind creator)) (hd : A (delW k.kind)) (hi : Sub (reinitW init) A) :
    Preserves P (fun s => s.recycleCore k n creator init) := by
  intro s s' hp h
  obtain ⟨s1, s2, s3, h1, h2, h3, h4⟩ := recycleCore_ok h
  have hp2 := L.lostProduct_preserves hA.left.tail.head n.creator s1 s2
    (L.setCreator_preserves hA.left.head k creator _ hc s s1 hp h1) h2
  have hp3 := L.detachProducts_preserves hA.right k _ s3
    (L.deleteDepsInto k hd s2 _ (fun _ _ h => of_decide_eq_true h) hp2) h3
  exact L.initRow_recycle_preserves k init hi s3 s' hp3 h4

/-- The fresh branch: the new row and (for a file) its `INSERT INTO file` with the trigger that flags
the steps already depending on the label. -/
theorem initRow_fresh (L : StableW A G R P) (s s' : KState) (k : Key) (c : Option Key) (init : Init)
    (hA : Sub (initW init) A) (hi : InitOK init) (hk : KindOK k init) (hf : s.find? k = none)
    (hins : s.insertAllowed k c = true) (hp : P s) (h : (s.appendNode k c).initRow k init false = .ok s') : P s' := by
  cases init with
  | root => exact pure_ok_iff.1 h ▸ L.appendNode (Sub.head (l := []) hA) s k c hk hf hins hp
  | tree => exact pure_ok_iff.1 h ▸ L.appendNode (Sub.head (l := []) hA) s k c hk hf hins hp
  | step i =>
    replace hA : Sub [.appendNode, .stepInit] A := hA
    exact pure_ok_iff.1 h ▸ L.stepInit hA.tail.head _ k i (L.appendNode hA.head s k c hk hf hins hp)
  | file st =>
    replace hA : Sub (.freshFile :: .writeFile :: outdateW) A := hA
    obtain ⟨s1, h1, hm⟩ := initFileRow_ok (show (s.appendNode k c).initFileRow k st false = .ok s' from h)
    rw [keptState_fresh] at h1 hm
    obtain ⟨he, _⟩ | ⟨_, hund, rfl⟩ := writeInitialFile_ok h1
    · cases he
    · have hp1 := L.freshFile hA.head s k c st hf hins hi hund hp
      obtain ⟨_, h⟩ | ⟨_, rfl⟩ := hm
      · exact L.markFileOutdated_preserves hA.tail.tail k _ s' hp1 h
      · exact hp1

/-- `Trellis.create` (fresh node, or partial recycle of a detached one). -/
theorem create_preserves (L : StableW A G R P) (hA : Sub recycleW A) (k : Key) (creator : Option Key) (init : Init)
    (hc : A (creatorW k.kind creator)) (hd : A (delW k.kind)) (hw : Sub (initW init) A) (hi : InitOK init)
    (hk : KindOK k init) : Preserves P (fun s => s.create k creator init) := by
  intro s s' hp h
  obtain ⟨n, _, _, _, h⟩ | ⟨hf, hins, h⟩ := create_ok h
  · exact L.recycleCore_preserves hA k n creator init hc hd (sub_reinit hw) s s' hp h
  · exact L.initRow_fresh s s' k creator init hw hi hk hf hins hp h

/-- `Trellis.create` of a row that is no file. -/
def createRowW : List WClass := [.cut, .adopt, .delStepDeps] ++ ([.appendNode, .stepInit] ++ recycleW)

theorem createRow_preserves (L : StableW A G R P) (hA : Sub createRowW A) (k : Key) (c : Option Key) (init : Init)
    (hk : k.kind ≠ .file) (hi : ∀ st, init ≠ .file st) : Preserves P (fun s => s.create k c init) := by
  have hc : A (creatorW k.kind c) = true := by
    cases c with
    | none => exact hA.left.head
    | some _ => exact (creatorW_ne hk).symm ▸ hA.left.tail.head
  have hd : A (delW k.kind) = true := (delW_ne hk).symm ▸ hA.left.tail.tail.head
  have hR : Sub recycleW A := hA.right.right
  cases init with
  | file st => exact absurd rfl (hi st)
  | root => exact L.create_preserves hR k c .root hc hd (.one hA.right.left.head) trivial hk
  | tree => exact L.create_preserves hR k c .tree hc hd (.one hA.right.left.head) trivial hk
  | step i => exact L.create_preserves hR k c (.step i) hc hd hA.right.left trivial hk

/-! ### The calls of the declaring requests (`StableW.toCall`, `Lemmas/StableReq.lean`) -/

/-- `Trellis.create` of a file row below a creator (`_declare_file`, `_resolve_supply_file`), or of a
placeholder without one. -/
def createFileW : List WClass := [.cut, .adoptFile, .delDeps] ++ ((.freshFile :: .writeFile :: outdateW) ++ recycleW)

theorem createFile_preserves (L : StableW A G R P) (hA : Sub createFileW A) (p : String) (c : Option Key) (st : FileState)
    (hst : NoHashState st) : Preserves P (fun s => s.create (fileKey p) c (.file st)) :=
  L.create_preserves hA.right.right _ c (.file st)
    (by cases c with
      | none => exact hA.left.head
      | some _ => exact hA.left.tail.head)
    hA.left.tail.tail.head hA.right.left hst trivial

theorem declareFile_preserves (L : StableW A G R P) (hA : Sub createFileW A) (cfg : KConfig) (creator : Key) (p : String)
    (st : FileState) : Preserves P (fun s => s.declareFile cfg creator p st) := by
  intro s s' hp h
  obtain ⟨s1, hg, hc, hv⟩ := declareFile_ok h
  have hst := declarable_noHash (declareFileGuard_ok hg).1
  exact volatileSinkCheck_preserves P p st s1 s' (L.createFile_preserves hA p _ st hst s s1 hp hc) hv

theorem handOver (L : StableW A G R P) (ha : A .handOver) (s : KState) (tk : Key) (hs : List Key) (hp : P s) :
    P (s.handOver tk hs) :=
  foldl_ind P _ hs (fun s k _ hs => L.handOverRow ha s k tk hs) hp

theorem declareProduct_preserves (L : StableW A G R P) (hA : Sub createFileW A) (cfg : KConfig) (step : Key) (p : String)
    (st : FileState) (hd : A (depW step.kind)) : Preserves P (fun s => s.declareProduct cfg step p st) :=
  preserves_bind (L.declareFile_preserves hA cfg step p st) (L.addSourceChecked_preserves (fileKey p) step hd)

def recycleStepW : List WClass := reattachW ++ (.recycled :: pendW)

/-- `try_recycle` + `after_recycle` + `set_resources`: the last write is a hypothesis. -/
theorem recycleStep_preserves (L : StableW A G R P) (hA : Sub recycleStepW A) (sk creator : Key) (d : StepDecl) (n : Node)
    (s s' : KState) (hc : A (creatorW sk.kind (some creator)))
    (hx : ∀ s1 s3, s.reattach sk creator = .ok s1 → s1.afterRecycle sk d n = .ok s3 → P s3 → P (s3.setStepExtras sk d))
    (hp : P s) (h : s.recycleStep sk creator d n = .ok s') : P s' := by
  obtain ⟨s1, s3, h1, h3, rfl⟩ := recycleStep_ok h
  have hp1 := L.reattach_preserves hA.left sk creator hc s s1 hp h1
  exact hx s1 s3 h1 h3 (L.afterRecycle_preserves hA.right sk d n s1 s3 hp1 h3)

def deletePassW : List WClass := [.delDeps, .queueDelete, .removeNode]

theorem deletePass_preserves (L : StableW A G R P) (hA : Sub deletePassW A) (s : KState) (r : KState × List Key × Bool)
    (hp : P s) (h : s.deletePass = .ok r) : P r.1 :=
  deletePass_ind (fun _ _ b _ _ _ _ hb => L.deleteDeps hA.head b _ hb) (L.queueDelete hA.tail.head)
    (fun s k h _ => L.removeNode hA.tail.tail.head s k (fun d hd => (h d hd).1) (fun d hd => (h d hd).2)) s r hp h

theorem deleteDetachedBase_preserves (L : StableW A G R P) (hA : Sub (.deleteHash :: deletePassW) A) :
    Preserves P (fun s => s.deleteDetachedBase) :=
  deleteDetachedBase_of_pass (L.deletePass_preserves hA.tail) (L.deleteHash hA.head)

theorem deleteDetached_preserves (L : StableW A G R P) (hA : Sub (.deleteHash :: deletePassW ++ detachW) A) :
    Preserves P (fun s => s.deleteDetached) :=
  L.deleteDetached_of_detach hA.left.head (L.detach_preserves hA.right) (L.deletePass_preserves hA.left.tail)

/-- With a predicate that survives every kind of write (one row per key, say) the kinds stay those of `P`. -/
theorem andTop {Q : KState → Prop} (hP : StableW A G R P) (hQ : StableW (fun _ => true) G R Q) :
    StableW A G R (fun s => P s ∧ Q s) where
  flags := fun ha s p f hf h => ⟨hP.flags ha s p f hf h.1, hQ.flags rfl s p f hf h.2⟩
  payload := fun ha s p f hf h => ⟨hP.payload ha s p f hf h.1, hQ.payload rfl s p f hf h.2⟩
  cache := fun ha s p f hf h => ⟨hP.cache ha s p f hf h.1, hQ.cache rfl s p f hf h.2⟩
  writeFile := fun ha k st nh s s' h e => ⟨hP.writeFile ha k st nh s s' h.1 e, hQ.writeFile rfl k st nh s s' h.2 e⟩
  keepRole := fun ha k st nh s s' h hr e => ⟨hP.keepRole ha k st nh s s' h.1 hr e, hQ.keepRole rfl k st nh s s' h.2 hr e⟩
  outdate := fun ha s s' t f h1 h2 h3 h4 h e =>
    ⟨hP.outdate ha s s' t f h1 h2 h3 h4 h.1 e, hQ.outdate rfl s s' t f h1 h2 h3 h4 h.2 e⟩
  stepWrite := fun s k n n' st d ha hr hf hw h =>
    ⟨hP.stepWrite s k n n' st d ha hr hf hw h.1, hQ.stepWrite s k n n' st d rfl hr hf hw h.2⟩
  stepInit := fun ha s k i h => ⟨hP.stepInit ha s k i h.1, hQ.stepInit rfl s k i h.2⟩
  setHash := fun ha s k x h => ⟨hP.setHash ha s k x h.1, hQ.setHash rfl s k x h.2⟩
  deleteHash := fun ha s k h => ⟨hP.deleteHash ha s k h.1, hQ.deleteHash rfl s k h.2⟩
  bumpDefer := fun ha s k h => ⟨hP.bumpDefer ha s k h.1, hQ.bumpDefer rfl s k h.2⟩
  hold := fun ha s k hg h => ⟨hP.hold ha s k hg h.1, hQ.hold rfl s k hg h.2⟩
  release := fun ha s k n hf hn h => ⟨hP.release ha s k n hf hn h.1, hQ.release rfl s k n hf hn h.2⟩
  recycled := fun ha s k a b h => ⟨hP.recycled ha s k a b h.1, hQ.recycled rfl s k a b h.2⟩
  insertDep := fun a b s s' ha hc h e => ⟨hP.insertDep a b s s' ha hc h.1 e, hQ.insertDep a b s s' rfl hc h.2 e⟩
  deleteDeps := fun ha s p h => ⟨hP.deleteDeps ha s p h.1, hQ.deleteDeps rfl s p h.2⟩
  delStepDeps := fun ha s p hq h => ⟨hP.delStepDeps ha s p hq h.1, hQ.delStepDeps rfl s p hq h.2⟩
  setDynamic := fun ha s a b d h => ⟨hP.setDynamic ha s a b d h.1, hQ.setDynamic rfl s a b d h.2⟩
  queueDelete := fun ha s p x h => ⟨hP.queueDelete ha s p x h.1, hQ.queueDelete rfl s p x h.2⟩
  clearQueue := fun ha s h => ⟨hP.clearQueue ha s h.1, hQ.clearQueue rfl s h.2⟩
  updateMetaReady := fun ha s h => ⟨hP.updateMetaReady ha s h.1, hQ.updateMetaReady rfl s h.2⟩
  setDetachedRow := fun ha s k d h => ⟨hP.setDetachedRow ha s k d h.1, hQ.setDetachedRow rfl s k d h.2⟩
  creator := fun s k c d ha hc h => ⟨hP.creator s k c d ha hc h.1, hQ.creator s k c d rfl hc h.2⟩
  handOverRow := fun ha s k tk h => ⟨hP.handOverRow ha s k tk h.1, hQ.handOverRow rfl s k tk h.2⟩
  freshFile := fun ha s k c st hf hi hs hu h =>
    ⟨hP.freshFile ha s k c st hf hi hs hu h.1, hQ.freshFile rfl s k c st hf hi hs hu h.2⟩
  appendNode := fun ha s k c hk hf hi h => ⟨hP.appendNode ha s k c hk hf hi h.1, hQ.appendNode rfl s k c hk hf hi h.2⟩
  removeNode := fun ha s k h1 h2 h => ⟨hP.removeNode ha s k h1 h2 h.1, hQ.removeNode rfl s k h1 h2 h.2⟩

end StableW

end StepupModel.K
