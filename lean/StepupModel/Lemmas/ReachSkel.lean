import StepupModel.K.Types
import StepupModel.Lemmas.Cond
/-!
# The creator forest on bare `(key, creator, detached)` triples

Everything `Trellis._check_consistency` says about creator links and the `detached` flag is a
statement about the list of `(key, creator, detached)` triples of the node table.  This file is
the list-level mathematics: the local invariant (`Sk.OK`), the set of recursive products
(`Sk.Desc`), the six list operations (one row, a set of rows, cutting the products of a row,
appending a row, handing rows over, removing rows) of which the seven rewrites of the kernel
(`Lemmas/ReachLift.lean`) are composed, and the fact that each composition keeps the local invariant
under the guards the code provides.  No `KState` here: the list of a state, `KState.skel`, and the row rewrites that
leave it alone are in `Lemmas/ReachFrame.lean`, what the writes of the model do to it in `Lemmas/ReachDesc.lean`.
-/
namespace StepupModel.K

/-- `(key, creator, detached)` of one row of the `node` table. -/
abbrev Tri := Key × Option Key × Bool

namespace Sk

def Nodup (l : List Tri) : Prop := (l.map (·.1)).Nodup

def Has (l : List Tri) (k : Key) : Prop := ∃ t ∈ l, t.1 = k

def Att (l : List Tri) (k : Key) : Prop := ∃ t ∈ l, t.1 = k ∧ t.2.2 = false

def RootOK (l : List Tri) : Prop := (rootKey, some rootKey, false) ∈ l

def LocalAt (l : List Tri) (t : Tri) : Prop := t.2.2 = false ↔ ∃ c, t.2.1 = some c ∧ Att l c

def Local (l : List Tri) : Prop := ∀ t ∈ l, t.1 ≠ rootKey → LocalAt l t

def Exist (l : List Tri) : Prop := ∀ t ∈ l, ∀ c, t.2.1 = some c → Has l c

structure OK (l : List Tri) : Prop where
  nodup : Nodup l
  root : RootOK l
  loc : Local l
  exist : Exist l

/-- Recursive products of `k` (self-created rows are not products of themselves). -/
inductive Desc (l : List Tri) (k : Key) : Key → Prop
  | direct (x : Key) (d : Bool) : (x, some k, d) ∈ l → x ≠ k → Desc l k x
  | trans (x c : Key) (d : Bool) : (x, some c, d) ∈ l → Desc l k c → x ≠ c → Desc l k x

theorem uniq {l : List Tri} (hn : Nodup l) {t u : Tri} (ht : t ∈ l) (hu : u ∈ l) (h : t.1 = u.1) : t = u :=
  eq_of_nodup_map hn ht hu h

theorem att_iff_of_mem {l : List Tri} (hn : Nodup l) {t : Tri} (ht : t ∈ l) : Att l t.1 ↔ t.2.2 = false := by
  constructor
  · rintro ⟨u, hu, hk, hd⟩
    have := uniq hn hu ht hk
    subst this; exact hd
  · intro hd; exact ⟨t, ht, rfl, hd⟩

theorem Att.has {l : List Tri} {k : Key} (h : Att l k) : Has l k := by
  obtain ⟨t, ht, hk, _⟩ := h; exact ⟨t, ht, hk⟩

theorem Desc.has {l : List Tri} {k x : Key} (h : Desc l k x) : Has l x := by
  cases h with
  | direct x d hm _ => exact ⟨_, hm, rfl⟩
  | trans x c d hm _ _ => exact ⟨_, hm, rfl⟩

theorem Desc.row {l : List Tri} {k x : Key} (h : Desc l k x) :
    ∃ c d, (x, some c, d) ∈ l ∧ x ≠ c ∧ (c = k ∨ Desc l k c) := by
  cases h with
  | direct x d hm hne => exact ⟨k, d, hm, hne, Or.inl rfl⟩
  | trans x c d hm hc hne => exact ⟨c, d, hm, hne, Or.inr hc⟩

theorem Desc.of_row {l : List Tri} {k x c : Key} {d : Bool} (hm : (x, some c, d) ∈ l) (hne : x ≠ c)
    (hc : c = k ∨ Desc l k c) : Desc l k x := by
  rcases hc with rfl | hc
  · exact Desc.direct x d hm hne
  · exact Desc.trans x c d hm hc hne

theorem Desc.induct_row {l : List Tri} {k : Key} {C : Key → Prop}
    (step : ∀ x c d, (x, some c, d) ∈ l → x ≠ c → Desc l k x → c = k ∨ Desc l k c ∧ C c → C x) {x : Key}
    (h : Desc l k x) : C x := by
  induction h with
  | direct x d hm hne => exact step x k d hm hne (.direct x d hm hne) (.inl rfl)
  | trans x c d hm hc hne ih => exact step x c d hm hne (.trans x c d hm hc hne) (.inr ⟨hc, ih⟩)

theorem root_not_desc {l : List Tri} (hn : Nodup l) (hr : RootOK l) (k : Key) : ¬ Desc l k rootKey := by
  intro h
  obtain ⟨c, d, hm, hne, _⟩ := h.row
  have := uniq hn hm hr rfl
  simp only [Prod.mk.injEq, Option.some.injEq] at this
  exact hne this.2.1.symm

theorem att_creator {l : List Tri} (hn : Nodup l) (hl : Local l) {x c : Key} {d : Bool} (hm : (x, some c, d) ∈ l)
    (hx : x ≠ rootKey) (ha : Att l x) : Att l c := by
  obtain ⟨c', hc', hac⟩ := (hl _ hm hx).1 ((att_iff_of_mem hn hm).1 ha)
  exact Option.some.inj hc' ▸ hac

theorem desc_not_att {l : List Tri} (hn : Nodup l) (hr : RootOK l) (hl : Local l) {k : Key} (hk : ¬ Att l k)
    {x : Key} (h : Desc l k x) : ¬ Att l x :=
  h.induct_row (C := fun x => ¬ Att l x) fun _ _ _ hm _ hx hc ha =>
    have hac := att_creator hn hl hm (fun e => root_not_desc hn hr k (e ▸ hx)) ha
    hc.elim (fun e => hk (e ▸ hac)) fun ih => ih.2 hac

/-- `UPDATE node SET creator = ?, detached = ? WHERE key = k` -/
def setRow (k : Key) (c : Option Key) (d : Bool) (l : List Tri) : List Tri :=
  l.map fun t => if t.1 = k then (k, c, d) else t

/-- `UPDATE node SET detached = ?` on the rows selected by `D`. -/
def setD (D : Key → Bool) (d : Bool) (l : List Tri) : List Tri :=
  l.map fun t => if D t.1 then (t.1, t.2.1, d) else t

/-- What `Trellis.create` does to the products of a detached row it recycles. -/
def cut (k : Key) (l : List Tri) : List Tri :=
  l.map fun t => if t.2.1 = some k ∧ t.1 ≠ k then (t.1, none, true) else t

def hand (tk : Key) (hs : List Key) (l : List Tri) : List Tri :=
  l.map fun t => if hs.contains t.1 then (t.1, some tk, t.2.2) else t

theorem map_id_of {l : List Tri} (g : Tri → Tri) (hg : ∀ t ∈ l, g t = t) : l.map g = l := by
  conv => rhs; rw [← List.map_id l]
  exact List.map_congr_left hg

theorem foldl_map_rows (G : Tri → Tri) (hk : ∀ t, (G t).1 = t.1) (hi : ∀ t, G (G t) = G t) (xs : List Key)
    (l : List Tri) :
    xs.foldl (fun l x => l.map fun t => if t.1 = x then G t else t) l =
      l.map fun t => if xs.contains t.1 then G t else t := by
  rw [foldl_map_keys (·.1) G hk hi]; simp only [List.contains_iff_mem]

theorem keys_map (g : Tri → Tri) (hg : ∀ t, (g t).1 = t.1) (l : List Tri) : (l.map g).map (·.1) = l.map (·.1) := by
  rw [List.map_map]
  exact List.map_congr_left fun t _ => hg t

theorem nodup_map (g : Tri → Tri) (hg : ∀ t, (g t).1 = t.1) {l : List Tri} (hn : Nodup l) : Nodup (l.map g) := by
  unfold Nodup; rw [keys_map g hg]; exact hn

theorem has_map (g : Tri → Tri) (hg : ∀ t, (g t).1 = t.1) (l : List Tri) (k : Key) : Has (l.map g) k ↔ Has l k := by
  unfold Has
  constructor
  · rintro ⟨t, ht, hk⟩
    obtain ⟨u, hu, rfl⟩ := List.mem_map.1 ht
    exact ⟨u, hu, (hg u).symm.trans hk⟩
  · rintro ⟨t, ht, hk⟩
    exact ⟨g t, List.mem_map_of_mem ht, (hg t).trans hk⟩

theorem att_map {g : Tri → Tri} (hg : ∀ t, (g t).1 = t.1) {l : List Tri} {x : Key} :
    Att (l.map g) x ↔ ∃ t ∈ l, t.1 = x ∧ (g t).2.2 = false := by
  unfold Att
  constructor
  · rintro ⟨t', ht', hk, hd⟩
    obtain ⟨t, ht, rfl⟩ := List.mem_map.1 ht'
    exact ⟨t, ht, (hg t).symm.trans hk, hd⟩
  · rintro ⟨t, ht, hk, hd⟩
    exact ⟨g t, List.mem_map_of_mem ht, (hg t).trans hk, hd⟩

theorem att_map_same {g : Tri → Tri} (hg : ∀ t, (g t).1 = t.1) {l : List Tri} {x : Key}
    (hd : ∀ t ∈ l, t.1 = x → (g t).2.2 = t.2.2) : Att (l.map g) x ↔ Att l x := by
  rw [att_map hg]
  exact ⟨fun ⟨t, ht, hk, h⟩ => ⟨t, ht, hk, (hd t ht hk) ▸ h⟩, fun ⟨t, ht, hk, h⟩ => ⟨t, ht, hk, (hd t ht hk).trans h⟩⟩

theorem localAt_congr {l l' : List Tri} {t : Tri} (h : ∀ c, t.2.1 = some c → (Att l' c ↔ Att l c)) :
    LocalAt l' t ↔ LocalAt l t := by
  have : (∃ c, t.2.1 = some c ∧ Att l' c) ↔ ∃ c, t.2.1 = some c ∧ Att l c :=
    ⟨fun ⟨c, hc, ha⟩ => ⟨c, hc, (h c hc).1 ha⟩, fun ⟨c, hc, ha⟩ => ⟨c, hc, (h c hc).2 ha⟩⟩
  unfold LocalAt
  rw [this]

theorem ok_map {l : List Tri} (hn : Nodup l) (hr : RootOK l) {g : Tri → Tri} (hg : ∀ t, (g t).1 = t.1)
    (hroot : g (rootKey, some rootKey, false) = (rootKey, some rootKey, false))
    (hloc : ∀ t ∈ l, t.1 ≠ rootKey → LocalAt (l.map g) (g t))
    (hex : ∀ t ∈ l, ∀ c, (g t).2.1 = some c → Has l c) : OK (l.map g) := by
  refine ⟨nodup_map g hg hn, ?_, ?_, ?_⟩
  · exact List.mem_map.2 ⟨_, hr, hroot⟩
  · intro t' ht' hr
    obtain ⟨t, ht, rfl⟩ := List.mem_map.1 ht'
    exact hloc t ht (hg t ▸ hr)
  · intro t' ht' c hc
    obtain ⟨t, ht, rfl⟩ := List.mem_map.1 ht'
    exact (has_map g hg l c).2 (hex t ht c hc)

theorem setRow_key (k : Key) (c : Option Key) (d : Bool) (t : Tri) : (if t.1 = k then (k, c, d) else t).1 = t.1 := by
  split
  · rename_i h; exact h.symm
  · rfl

theorem setD_key (D : Key → Bool) (d : Bool) (t : Tri) : (if D t.1 then (t.1, t.2.1, d) else t).1 = t.1 := by
  split <;> rfl

theorem cut_key (k : Key) (t : Tri) : (if t.2.1 = some k ∧ t.1 ≠ k then ((t.1, none, true) : Tri) else t).1 = t.1 := by
  split <;> rfl

theorem hand_key (tk : Key) (hs : List Key) (t : Tri) :
    (if hs.contains t.1 then ((t.1, some tk, t.2.2) : Tri) else t).1 = t.1 := by
  split <;> rfl

theorem setRow_eq_map (k : Key) (c : Option Key) (d : Bool) (l : List Tri) :
    setRow k c d l = l.map fun t => if t.1 = k then (t.1, c, d) else t :=
  List.map_congr_left fun t _ => by by_cases h : t.1 = k <;> simp [h]

theorem nodup_setRow (k : Key) (c : Option Key) (d : Bool) {l : List Tri} (hn : Nodup l) : Nodup (setRow k c d l) :=
  nodup_map _ (setRow_key k c d) hn

theorem att_setRow_ne {l : List Tri} {k x : Key} (c : Option Key) (d : Bool) (hx : x ≠ k) :
    Att (setRow k c d l) x ↔ Att l x :=
  att_map_same (setRow_key k c d) fun t _ hk => by rw [if_neg (fun h => hx (hk ▸ h))]

theorem att_setRow_self {l : List Tri} {k : Key} (c : Option Key) (d : Bool) (hk : Has l k) :
    Att (setRow k c d l) k ↔ d = false := by
  unfold setRow
  rw [att_map (setRow_key k c d)]
  constructor
  · rintro ⟨t, _, htk, hd⟩
    rw [if_pos htk] at hd; exact hd
  · intro hd
    obtain ⟨u, hu, huk⟩ := hk
    exact ⟨u, hu, huk, by rw [if_pos huk]; exact hd⟩

theorem mem_setRow {l : List Tri} {k : Key} {c : Option Key} {d : Bool} {t : Tri} (ht : t ∈ setRow k c d l) :
    (t = (k, c, d) ∧ Has l k) ∨ (t ∈ l ∧ t.1 ≠ k) := by
  obtain ⟨u, hu, rfl⟩ := List.mem_map.1 ht
  by_cases huk : u.1 = k
  · rw [if_pos huk]; exact Or.inl ⟨rfl, u, hu, huk⟩
  · rw [if_neg huk]; exact Or.inr ⟨hu, huk⟩

theorem mem_hand {tk : Key} {hs : List Key} {l : List Tri} {t : Tri} (ht : t ∈ hand tk hs l) :
    (t.1 ∈ hs ∧ t.2.1 = some tk) ∨ (t.1 ∉ hs ∧ t ∈ l) := by
  obtain ⟨u, hu, rfl⟩ := List.mem_map.1 ht
  by_cases hc : hs.contains u.1 = true
  · rw [if_pos hc]; exact .inl ⟨List.contains_iff_mem.1 hc, rfl⟩
  · rw [if_neg hc]; exact .inr ⟨fun h => hc (List.contains_iff_mem.2 h), hu⟩

theorem hand_nil (tk : Key) (l : List Tri) : hand tk [] l = l :=
  map_id_of _ fun _ _ => rfl

theorem mem_setRow_of_ne {l : List Tri} {k : Key} (c : Option Key) (d : Bool) {t : Tri} (ht : t ∈ l) (hk : t.1 ≠ k) :
    t ∈ setRow k c d l :=
  List.mem_map.2 ⟨t, ht, if_neg hk⟩

theorem mem_setRow_self {l : List Tri} {k : Key} (c : Option Key) (d : Bool) (hk : Has l k) :
    (k, c, d) ∈ setRow k c d l := by
  obtain ⟨u, hu, huk⟩ := hk
  exact List.mem_map.2 ⟨u, hu, if_pos huk⟩

theorem mem_setD_of_mem {l : List Tri} (D : Key → Bool) (d : Bool) {x : Key} {c : Option Key} {d' : Bool}
    (h : (x, c, d') ∈ l) : (x, c, if D x = true then d else d') ∈ setD D d l := by
  unfold setD
  refine List.mem_map.2 ⟨_, h, ?_⟩
  by_cases hD : D x = true
  · simp [hD]
  · simp [hD]

theorem mem_setD_inv {l : List Tri} {D : Key → Bool} {d : Bool} {t : Tri} (ht : t ∈ setD D d l) :
    (D t.1 = false ∧ t ∈ l) ∨ (D t.1 = true ∧ t.2.2 = d ∧ ∃ d', (t.1, t.2.1, d') ∈ l) := by
  obtain ⟨u, hu, rfl⟩ := List.mem_map.1 ht
  by_cases hD : D u.1 = true
  · rw [if_pos hD]; exact .inr ⟨hD, rfl, u.2.2, hu⟩
  · rw [if_neg hD]; exact .inl ⟨Bool.eq_false_iff.2 hD, hu⟩

theorem mem_cut_setRow {l : List Tri} {k : Key} {c : Option Key} {d : Bool} {t : Tri}
    (h : t ∈ cut k (setRow k c d l)) :
    (t.1 = k → t.2.1 = c) ∧ (t.2.1 = some k → c = some k) := by
  unfold cut at h
  obtain ⟨u, hu, rfl⟩ := List.mem_map.1 h
  by_cases hc : u.2.1 = some k ∧ u.1 ≠ k
  · rw [if_pos hc]
    exact ⟨fun h1 => absurd h1 hc.2, fun h2 => by cases h2⟩
  · rw [if_neg hc]
    rcases mem_setRow hu with ⟨rfl, _⟩ | ⟨_, hne⟩
    · exact ⟨fun _ => rfl, fun h2 => h2⟩
    · refine ⟨fun h1 => absurd h1 hne, fun h2 => ?_⟩
      exact absurd ⟨h2, hne⟩ hc

theorem desc_setRow_sub {l : List Tri} {k : Key} {newc : Option Key} {d : Bool} {y : Key}
    (h : Desc (setRow k newc d l) k y) : y = k ∨ Desc l k y :=
  h.induct_row (C := fun y => y = k ∨ Desc l k y) fun _ _ _ hm hne _ ih =>
    (mem_setRow hm).elim (fun ⟨he, _⟩ => .inl (Prod.mk.inj he).1)
      fun ⟨hm', _⟩ => .inr (Desc.of_row hm' hne (ih.elim .inl (·.2)))

theorem att_setD {l : List Tri} (D : Key → Bool) (d : Bool) (x : Key) :
    Att (setD D d l) x ↔ (D x = true ∧ Has l x ∧ d = false) ∨ (D x = false ∧ Att l x) := by
  unfold setD
  rw [att_map (setD_key D d)]
  constructor
  · rintro ⟨t, ht, rfl, hd⟩
    cases hD : D t.1 with
    | true => rw [hD, if_pos rfl] at hd; exact Or.inl ⟨rfl, ⟨t, ht, rfl⟩, hd⟩
    | false => rw [hD, if_neg Bool.false_ne_true] at hd; exact Or.inr ⟨rfl, t, ht, rfl, hd⟩
  · rintro (⟨hD, ⟨t, ht, rfl⟩, hd⟩ | ⟨hD, t, ht, rfl, hd⟩)
    · exact ⟨t, ht, rfl, by rw [hD, if_pos rfl]; exact hd⟩
    · exact ⟨t, ht, rfl, by rw [hD, if_neg Bool.false_ne_true]; exact hd⟩

/-- `hw`: every row agrees with its creator except, possibly, the rows created by `k` or by a
recursive product of `k`, and those are exactly the rows that `setD D d` overwrites. -/
theorem ok_setD_desc {l : List Tri} (hn : Nodup l) (hr : RootOK l) (he : Exist l) {k : Key} {ck : Option Key}
    {d : Bool} (hrow : (k, ck, d) ∈ l) (D : Key → Bool) (hD : ∀ x, D x = true ↔ Desc l k x)
    (hw : ∀ t ∈ l, t.1 ≠ rootKey →
      LocalAt l t ∨ ∃ c, t.2.1 = some c ∧ t.1 ≠ c ∧ (c = k ∨ Desc l k c)) :
    OK (setD D d l) := by
  have hDroot : D rootKey = false := Bool.eq_false_iff.2 fun h => root_not_desc hn hr k ((hD _).1 h)
  have h1 : ∀ x, D x = true → Has l x → (Att (setD D d l) x ↔ d = false) := fun x hx hh => by
    rw [att_setD, hx]; simp [hh]
  have h2 : ∀ x, D x = false → (Att (setD D d l) x ↔ Att l x) := fun x hx => by rw [att_setD, hx]; simp
  have hattk : Att (setD D d l) k ↔ d = false := by
    cases hDk : D k with
    | true => exact h1 k hDk ⟨_, hrow, rfl⟩
    | false => exact (h2 k hDk).trans (att_iff_of_mem hn hrow)
  refine ok_map hn hr (setD_key D d) (by simp [hDroot]) (fun t ht hroot => ?_) (fun t ht c hc => he t ht c ?_)
  · by_cases hA : ∃ c, t.2.1 = some c ∧ t.1 ≠ c ∧ (c = k ∨ Desc l k c)
    · obtain ⟨c, hc, hne, hck⟩ := hA
      have hDt : D t.1 = true := (hD _).2 (Desc.of_row (d := t.2.2) (by rw [← hc]; exact ht) hne hck)
      rw [hDt, if_pos rfl]
      unfold LocalAt
      simp only [hc, Option.some.injEq, exists_eq_left']
      rcases hck with rfl | hck
      · exact hattk.symm
      · exact (h1 c ((hD _).2 hck) hck.has).symm
    · have hDt : D t.1 = false := Bool.eq_false_iff.2 fun h => by
        obtain ⟨c, d', hm, hne, hck⟩ := ((hD _).1 h).row
        exact hA ⟨c, congrArg (·.2.1) (uniq hn ht hm rfl), hne, hck⟩
      rw [hDt, if_neg Bool.false_ne_true]
      refine (localAt_congr fun c hc => h2 c (Bool.eq_false_iff.2 fun h => ?_)).2 ((hw t ht hroot).resolve_right hA)
      by_cases hself : t.1 = c
      · rw [← hself, hDt] at h; cases h
      · exact hA ⟨c, hc, hself, Or.inr ((hD _).1 h)⟩
  · split at hc <;> exact hc

def FitsRow (l : List Tri) (k : Key) (newc : Option Key) (d : Bool) : Prop :=
  (∀ c, newc = some c → c ≠ k ∧ Has l c) ∧ (d = false ↔ ∃ c, newc = some c ∧ Att l c)

theorem fitsRow_none (l : List Tri) (k : Key) : FitsRow l k none true :=
  ⟨fun _ hc => (nomatch hc), nofun, fun ⟨_, hc, _⟩ => nomatch hc⟩

theorem fitsRow_some {l : List Tri} {k c : Key} {d : Bool} (hck : c ≠ k) (hhas : Has l c) (hd : d = false ↔ Att l c) :
    FitsRow l k (some c) d := by
  refine ⟨fun c' hc' => ?_, ?_⟩
  · simp only [Option.some.injEq] at hc'
    subst hc'; exact ⟨hck, hhas⟩
  · simp only [Option.some.injEq, exists_eq_left']
    exact hd

theorem localAt_setRow_self {l : List Tri} {k : Key} {newc : Option Key} {d : Bool} (hf : FitsRow l k newc d) :
    LocalAt (setRow k newc d l) (k, newc, d) :=
  (localAt_congr fun c hc => att_setRow_ne newc d (hf.1 c hc).1).2 hf.2

theorem localAt_setRow_other {l : List Tri} {k : Key} (newc : Option Key) (d : Bool) {t : Tri}
    (hloc : LocalAt l t) (hck : t.2.1 ≠ some k) : LocalAt (setRow k newc d l) t :=
  (localAt_congr fun c hc => att_setRow_ne newc d fun h => hck (by rw [← h]; exact hc)).2 hloc

theorem rootOK_setRow {l : List Tri} (hr : RootOK l) {k : Key} (hk : k ≠ rootKey) (newc : Option Key) (d : Bool) :
    RootOK (setRow k newc d l) :=
  mem_setRow_of_ne newc d hr (fun h => hk h.symm)

theorem exist_setRow {l : List Tri} (he : Exist l) {k : Key} {newc : Option Key} {d : Bool}
    (hf : ∀ c, newc = some c → Has l c) : Exist (setRow k newc d l) := by
  intro t ht c hc
  refine (has_map _ (setRow_key k newc d) l c).2 ?_
  rcases mem_setRow ht with ⟨rfl, _⟩ | ⟨hm, _⟩
  · exact hf c hc
  · exact he t hm c hc

theorem ok_setRow_desc {l : List Tri} (h : OK l) {k : Key} (hk : k ≠ rootKey) (hhas : Has l k)
    {newc : Option Key} {d : Bool} (hf : FitsRow l k newc d) (D : Key → Bool)
    (hD : ∀ x, D x = true ↔ Desc (setRow k newc d l) k x) : OK (setD D d (setRow k newc d l)) := by
  refine ok_setD_desc (nodup_setRow k newc d h.nodup) (rootOK_setRow h.root hk newc d)
    (exist_setRow h.exist (fun c hc => (hf.1 c hc).2)) (mem_setRow_self newc d hhas) D hD ?_
  intro t ht hroot
  rcases mem_setRow ht with ⟨rfl, _⟩ | ⟨hm, hne⟩
  · exact Or.inl (localAt_setRow_self hf)
  · by_cases hck : t.2.1 = some k
    · exact Or.inr ⟨k, hck, hne, Or.inl rfl⟩
    · exact Or.inl (localAt_setRow_other newc d (h.loc t hm hroot) hck)

theorem ok_setRow {l : List Tri} (h : OK l) {k : Key} (hk : k ≠ rootKey) (hhas : Has l k)
    {newc : Option Key} {d : Bool} (hf : FitsRow l k newc d) (hd : Att l k ↔ d = false) :
    OK (setRow k newc d l) := by
  refine ⟨nodup_setRow k newc d h.nodup, rootOK_setRow h.root hk newc d, ?_,
    exist_setRow h.exist (fun c hc => (hf.1 c hc).2)⟩
  intro t ht hroot
  rcases mem_setRow ht with ⟨rfl, _⟩ | ⟨hm, hne⟩
  · exact localAt_setRow_self hf
  · refine (localAt_congr fun c hc => ?_).2 (h.loc t hm hroot)
    by_cases hck : c = k
    · rw [hck, att_setRow_self newc d hhas, hd]
    · exact att_setRow_ne newc d hck

theorem ne_root_of_detached {l : List Tri} (h : OK l) {k : Key} {ck : Option Key} (hrow : (k, ck, true) ∈ l) :
    k ≠ rootKey := by
  intro hk
  have := uniq h.nodup hrow h.root hk
  simp at this

theorem not_att_of_detached {l : List Tri} (h : OK l) {k : Key} {ck : Option Key} (hrow : (k, ck, true) ∈ l) :
    ¬ Att l k := by
  intro ha
  have := (att_iff_of_mem h.nodup hrow).1 ha
  simp at this

theorem products_detached {l : List Tri} (h : OK l) {k : Key} {ck : Option Key} (hrow : (k, ck, true) ∈ l) :
    ∀ t ∈ l, t.2.1 = some k → t.1 ≠ k → t.2.2 = true := by
  intro t ht hc hne
  have hroot : t.1 ≠ rootKey := by
    intro hr
    have := uniq h.nodup ht h.root hr
    rw [this] at hc
    exact hne (hr.trans (Option.some.inj hc))
  cases hd : t.2.2 with
  | true => rfl
  | false =>
    obtain ⟨c, hc', hac⟩ := (h.loc t ht hroot).1 hd
    rw [hc] at hc'
    exact absurd (Option.some.inj hc' ▸ hac) (not_att_of_detached h hrow)

theorem att_cut {l : List Tri} {k : Key} (hdet : ∀ t ∈ l, t.2.1 = some k → t.1 ≠ k → t.2.2 = true) (x : Key) :
    Att (cut k l) x ↔ Att l x := by
  refine att_map_same (cut_key k) fun t ht _ => ?_
  split
  · rename_i hc; exact (hdet t ht hc.1 hc.2).symm
  · rfl

theorem ok_recycle {l : List Tri} (h : OK l) {k : Key} {ck : Option Key} (hrow : (k, ck, true) ∈ l)
    {newc : Option Key} {d : Bool} (hf : FitsRow l k newc d) :
    OK (cut k (setRow k newc d l)) ∧ (∀ x, x ≠ k → (Att (cut k (setRow k newc d l)) x ↔ Att l x)) ∧
      (Att (cut k (setRow k newc d l)) k ↔ d = false) := by
  have hk : k ≠ rootKey := ne_root_of_detached h hrow
  have hhas : Has l k := ⟨_, hrow, rfl⟩
  have hprod1 : ∀ t ∈ setRow k newc d l, t.2.1 = some k → t.1 ≠ k → t.2.2 = true := by
    intro t ht hc hne
    rcases mem_setRow ht with ⟨rfl, _⟩ | ⟨hm, _⟩
    · exact absurd rfl hne
    · exact products_detached h hrow t hm hc hne
  have hatt_ne : ∀ x, x ≠ k → (Att (cut k (setRow k newc d l)) x ↔ Att l x) := fun x hx =>
    (att_cut hprod1 x).trans (att_setRow_ne newc d hx)
  refine ⟨?_, hatt_ne, (att_cut hprod1 k).trans (att_setRow_self newc d hhas)⟩
  refine ok_map (nodup_setRow k newc d h.nodup) (rootOK_setRow h.root hk newc d) (cut_key k)
    (if_neg fun hc => hc.2 (Option.some.inj hc.1)) (fun t ht hroot => ?_) (fun t ht c hc => ?_)
  · by_cases hc : t.2.1 = some k ∧ t.1 ≠ k
    · rw [if_pos hc]
      unfold LocalAt
      simp
    · rw [if_neg hc]
      rcases mem_setRow ht with ⟨rfl, _⟩ | ⟨hm, hne⟩
      · exact (localAt_congr fun c hc' => hatt_ne c (hf.1 c hc').1).2 hf.2
      · exact (localAt_congr fun c hc' => hatt_ne c fun h1 => hc ⟨h1 ▸ hc', hne⟩).2 (h.loc t hm hroot)
  · split at hc
    · cases hc
    · exact exist_setRow h.exist (fun c hc => (hf.1 c hc).2) t ht c hc

theorem att_append_ne {l : List Tri} {k x : Key} (c : Option Key) (d : Bool) (hx : x ≠ k) :
    Att (l ++ [(k, c, d)]) x ↔ Att l x := by
  unfold Att
  constructor
  · rintro ⟨t, ht, hk, hd⟩
    rcases List.mem_append.1 ht with ht | ht
    · exact ⟨t, ht, hk, hd⟩
    · rw [List.mem_singleton.1 ht] at hk; exact absurd hk.symm hx
  · rintro ⟨t, ht, hk, hd⟩
    exact ⟨t, List.mem_append_left _ ht, hk, hd⟩

theorem ok_append {l : List Tri} (h : OK l) {k : Key} (hfresh : ¬ Has l k) {newc : Option Key} {d : Bool}
    (hc : ∀ c, newc = some c → Has l c) (hd : d = false ↔ ∃ c, newc = some c ∧ Att l c) :
    OK (l ++ [(k, newc, d)]) := by
  have hne : ∀ c, Has l c → c ≠ k := fun c hc hck => hfresh (hck ▸ hc)
  refine ⟨?_, List.mem_append_left _ h.root, ?_, ?_⟩
  · unfold Nodup
    rw [List.map_append, List.nodup_append]
    refine ⟨h.nodup, List.pairwise_singleton _ _, ?_⟩
    intro a ha b hb hab
    obtain ⟨t, ht, htk⟩ := List.mem_map.1 ha
    exact hfresh ⟨t, ht, htk.trans (hab.trans (List.mem_singleton.1 hb))⟩
  · intro t ht hroot
    rcases List.mem_append.1 ht with ht | ht
    · exact (localAt_congr fun c hc' => att_append_ne newc d (hne c (h.exist t ht c hc'))).2 (h.loc t ht hroot)
    · rw [List.mem_singleton.1 ht]
      exact (localAt_congr fun c hc' => att_append_ne newc d (hne c (hc c hc'))).2 hd
  · intro t ht c hc'
    have : Has l c := by
      rcases List.mem_append.1 ht with ht | ht
      · exact h.exist t ht c hc'
      · rw [List.mem_singleton.1 ht] at hc'; exact hc c hc'
    obtain ⟨u, hu, huk⟩ := this
    exact ⟨u, List.mem_append_left _ hu, huk⟩

theorem att_hand {l : List Tri} (tk : Key) (hs : List Key) (x : Key) : Att (hand tk hs l) x ↔ Att l x :=
  att_map_same (hand_key tk hs) fun t _ _ => by split <;> rfl

theorem ok_hand {l : List Tri} (h : OK l) {tk : Key} (htk : Att l tk) {hs : List Key}
    (hroot : ¬ rootKey ∈ hs) (hatt : ∀ t ∈ l, t.1 ∈ hs → t.2.2 = false) : OK (hand tk hs l) := by
  refine ok_map h.nodup h.root (hand_key tk hs) (if_neg fun hc => hroot (List.contains_iff_mem.1 hc))
    (fun t ht hr => ?_) (fun t ht c hc => ?_)
  · by_cases hc : hs.contains t.1 = true
    · rw [if_pos hc]
      unfold LocalAt
      simp only [Option.some.injEq, exists_eq_left']
      rw [hatt t ht (List.contains_iff_mem.1 hc)]
      exact iff_of_true rfl ((att_hand tk hs tk).2 htk)
    · rw [if_neg hc]
      exact (localAt_congr fun c _ => att_hand tk hs c).2 (h.loc t ht hr)
  · split at hc
    · exact Option.some.inj hc ▸ htk.has
    · exact h.exist t ht c hc

theorem ok_filter {l : List Tri} (h : OK l) (D : Key → Bool)
    (hdet : ∀ t ∈ l, D t.1 = true → t.2.2 = true)
    (hleaf : ∀ t ∈ l, D t.1 = true → ∀ u ∈ l, u.2.1 = some t.1 → u.1 = t.1) :
    OK (l.filter fun t => !D t.1) := by
  have hkeep : ∀ t ∈ l, t.2.2 = false → t ∈ l.filter fun t => !D t.1 := fun t ht hd =>
    List.mem_filter.2 ⟨ht, by cases hD : D t.1 with
      | false => rfl
      | true => rw [hdet t ht hD] at hd; cases hd⟩
  have hatt : ∀ x, Att (l.filter fun t => !D t.1) x ↔ Att l x := fun x =>
    ⟨fun ⟨t, ht, hk, hd⟩ => ⟨t, (List.mem_filter.1 ht).1, hk, hd⟩, fun ⟨t, ht, hk, hd⟩ => ⟨t, hkeep t ht hd, hk, hd⟩⟩
  refine ⟨List.Nodup.sublist (List.Sublist.map _ List.filter_sublist) h.nodup, hkeep _ h.root rfl, ?_, ?_⟩
  · intro t ht hr
    exact (localAt_congr fun c _ => hatt c).2 (h.loc t (List.mem_filter.1 ht).1 hr)
  · intro t ht c hc
    obtain ⟨hm, hDt⟩ := List.mem_filter.1 ht
    obtain ⟨u, hu, huk⟩ := h.exist t hm c hc
    cases hD : D u.1 with
    | false => exact ⟨u, List.mem_filter.2 ⟨hu, by rw [hD]; rfl⟩, huk⟩
    | true =>
      rw [hleaf u hu hD t hm (by rw [huk]; exact hc), hD] at hDt
      cases hDt

theorem mem_setRow_ne {l : List Tri} {k : Key} {c : Option Key} {d : Bool} {t : Tri} (h : t ∈ setRow k c d l)
    (hk : t.1 ≠ k) : t ∈ l :=
  (mem_setRow h).elim (fun h' => absurd (congrArg (·.1) h'.1) hk) (·.1)

theorem mem_setRow_eq {l : List Tri} {k : Key} {c : Option Key} {d : Bool} {t : Tri} (h : t ∈ setRow k c d l)
    (hk : t.1 = k) : t = (k, c, d) :=
  (mem_setRow h).elim (·.1) fun h' => absurd hk h'.2

end Sk
end StepupModel.K
