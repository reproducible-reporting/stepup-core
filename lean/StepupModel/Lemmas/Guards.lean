import StepupModel.K.Workflow
import StepupModel.Lemmas.Do
/-!
What the guards of the kernel model have checked when they succeed, one statement per guard, read off the
`do` block with the inversion lemmas of `Lemmas/Do.lean`.  The headings name the function of stepup-core a guard is
part of.
-/
namespace StepupModel.K

/-! ## `_find_owning_static_tree` -/

theorem owningTree_ok_none {s : KState} {p : String} (h : s.owningTree p = .ok none) :
    ∀ t ∈ s.nodes, t.key.kind = .st → t.detached = false → p.startsWith t.key.label = false := by
  intro t ht hk hd
  unfold KState.owningTree at h
  dsimp only at h
  split at h
  · rename_i heq
    have hn := List.filter_eq_nil_iff.mp heq t ht
    rw [hk, hd] at hn
    simpa using hn
  · cases h
  · cases h

theorem owningTree_ok_node {s : KState} {p : String} {k : Key} (h : s.owningTree p = .ok (some k)) :
    ∃ n ∈ s.nodes, n.key = k ∧ n.key.kind = .st ∧ n.detached = false ∧ p.startsWith n.key.label = true := by
  unfold KState.owningTree at h
  dsimp only at h
  split at h
  · cases h
  · rename_i t heq
    cases h
    have ht := List.mem_filter.mp (heq ▸ List.mem_singleton_self t)
    exact ⟨t, ht.1, rfl, by simpa using ht.2⟩
  · cases h

theorem owningTree_ok_some {s : KState} {p : String} {k : Key} (h : s.owningTree p = .ok (some k)) :
    k.kind = .st ∧ p.startsWith k.label = true := by
  obtain ⟨_, _, rfl, hk, _, hp⟩ := owningTree_ok_node h
  exact ⟨hk, hp⟩

/-! ## `_declare_file` -/

theorem declareFileGuard_ok {s : KState} {cfg : KConfig} {creator : Key} {p : String} {st : FileState} {u : Unit}
    (h : s.declareFileGuard cfg creator p st = .ok u) :
    Generated.Enums.declarableStates.contains st = true ∧
    ¬(st = .volatile ∧ p.endsWith "/") ∧
    (creator.kind ≠ .st → s.owningTree p = .ok none) ∧
    ¬cfg.forbiddenTarget p st ∧ ¬p.startsWith (stepupDir ++ "/") ∧ fileLabelOk p = true := by
  unfold KState.declareFileGuard at h
  by_cases hd : Generated.Enums.declarableStates.contains st = true
  · rw [if_pos hd] at h
    unfold KState.declareFileChecks at h
    obtain ⟨h1, h⟩ := throwIf_ok h
    obtain ⟨h2, h⟩ := checkIf_ok (P := s.owningTree p = .ok none) h fun _ h => by
      obtain ⟨o, ho, h⟩ := bind_ok_inv h
      cases o with
      | none => exact ⟨ho, h⟩
      | some t => cases h
    obtain ⟨h3, h⟩ := throwIf_ok h
    obtain ⟨h4, h⟩ := throwIf_ok h
    obtain ⟨h5, _⟩ := throwIf_ok h
    exact ⟨hd, h1, h2, h3, h4, by simpa using h5⟩
  · rw [if_neg hd] at h; cases h

theorem declareFile_ok {s s' : KState} {cfg : KConfig} {creator : Key} {p : String} {st : FileState}
    (h : s.declareFile cfg creator p st = .ok s') :
    ∃ s1, s.declareFileGuard cfg creator p st = .ok () ∧ s.create (fileKey p) (some creator) (.file st) = .ok s1 ∧
      s1.volatileSinkCheck p st = .ok s' := by
  unfold KState.declareFile at h
  obtain ⟨_, hg, h⟩ := bind_ok_inv h
  obtain ⟨s1, hc, h⟩ := bind_ok_inv h
  exact ⟨s1, hg, hc, h⟩

/-! ## `register_static_tree` -/

theorem treeGuard_ok_some {s : KState} {creator : Key} {path : String} {hs : List Key}
    (h : s.treeGuard creator path = .ok (some hs)) :
    (∀ k ∈ hs, ∃ n ∈ s.nodes, n.key = k ∧ n.key.kind = .file ∧ n.detached = false ∧
      n.key.label.startsWith path = true ∧ n.fstate.role? = some .static ∧ n.creator = some creator) ∧
    (∀ n ∈ s.nodes, n.key.kind = .file → n.detached = false → n.key.label.startsWith path = true → n.key ∈ hs) ∧
    s.owningTree path = .ok none ∧
    (∀ t ∈ s.nodes, t.key.kind = .st → t.detached = false → t.key.label.startsWith path = false) := by
  unfold KState.treeGuard at h
  obtain ⟨o, ho, h⟩ := bind_ok_inv h
  cases o with
  | some t =>
    rcases ite_ok h with ⟨_, h⟩ | ⟨_, h⟩
    · cases h
    · rcases ite_ok h with ⟨_, h⟩ | ⟨_, h⟩
      · cases h
      · cases h
  | none =>
    obtain ⟨hbelow, h⟩ := throwIf_ok h
    obtain ⟨hs', hm, h⟩ := bind_ok_inv h
    cases h
    -- the files under the path, in the order of their labels; each is checked and answers its key
    obtain ⟨hall, rfl⟩ := mapM_guard_ok (G := fun n : Node => n.fstate.role? = some .static ∧ n.creator = some creator)
      (g := Node.key) (fun n k h => by
        obtain ⟨h1, h⟩ := throwIf_ok h
        obtain ⟨h2, h⟩ := throwIf_ok h
        exact ⟨⟨Decidable.not_not.mp h1, Decidable.not_not.mp h2⟩, (Except.ok.inj h).symm⟩) hm
    have hunder : ∀ n : Node, n ∈ (s.nodes.filter fun n => n.key.kind = .file ∧ !n.detached ∧ n.key.label.startsWith path).mergeSort
        (fun a b => decide (a.key.label ≤ b.key.label)) ↔
        n ∈ s.nodes ∧ n.key.kind = .file ∧ n.detached = false ∧ n.key.label.startsWith path = true := by
      intro n
      rw [List.mem_mergeSort, List.mem_filter]
      simp
    refine ⟨fun k hk => ?_, fun n hn hk hd hp => List.mem_map.2 ⟨n, (hunder n).2 ⟨hn, hk, hd, hp⟩, rfl⟩, ho, fun t ht hk hd => ?_⟩
    · obtain ⟨n, hn, rfl⟩ := List.mem_map.1 hk
      obtain ⟨hn', hkind, hd, hp⟩ := (hunder n).1 hn
      exact ⟨n, hn', rfl, hkind, hd, hp, hall n hn⟩
    · exact Bool.eq_false_iff.2 fun hp => hbelow (List.any_eq_true.mpr ⟨t, ht, by simp [hk, hd, hp]⟩)

/-! ## `define_step` -/

theorem defineGuard_ok {s : KState} {cfg : KConfig} {creator : Key} {d : StepDecl} {k : Key}
    (h : s.defineGuard cfg creator d = .ok k) :
    (∃ label, stepLabel d.cmd d.workdir = some label ∧ k = stepKey label) ∧
    ¬(creator = rootKey ∧ (s.products rootKey).any (·.key.kind = .step)) ∧
    ¬(d.vol.any fun v => cfg.forbiddenTarget v .volatile) ∧
    ¬d.inp.any (·.endsWith "/") ∧
    ¬(d.env.any fun e => d.overrides.any (·.1 = e)) ∧
    ¬(d.overrides.any fun o => Generated.Enums.reservedEnvVars.contains o.1) ∧
    s.raiseIfGlobMatch (d.out ++ d.vol) = .ok () := by
  unfold KState.defineGuard at h
  obtain ⟨h1, h⟩ := throwIf_ok h
  obtain ⟨h2, h⟩ := throwIf_ok h
  obtain ⟨h3, h⟩ := throwIf_ok h
  obtain ⟨h4, h⟩ := throwIf_ok h
  obtain ⟨h5, h⟩ := throwIf_ok h
  split at h
  · rename_i l hl
    obtain ⟨_, hg, hk⟩ := bind_ok_inv (x := s.raiseIfGlobMatch _) h
    exact ⟨⟨l, hl, (Except.ok.inj hk).symm⟩, h1, h2, h3, h4, h5, hg⟩
  · cases h

/-! ## `_check_declaration` -/

/-- `_check_declaration` of a claimed path: "nothing new" for the declaration that holds it, a collision otherwise
(an internal error when a static tree is involved, for want of a phrase). -/
theorem checkDeclaration_claimed {s : KState} {p : String} {r : FileRole} {k : Key} (h : s.existingClaim p = some (r, k))
    (c : Option Key) (role : FileRole) :
    s.checkDeclaration c p role =
      if r = role ∧ c = some k then .ok false
      else if (∃ k', c = some k' ∧ k'.kind = .st) ∨ (k.kind = .st ∧ role = .static) then .error .consistency
      else .error (.graph "claim collision") := by
  unfold KState.checkDeclaration
  rw [h]
  cases c with
  | none =>
    by_cases h3 : k.kind = .st ∧ role = .static <;> simp [h3] <;> rfl
  | some k' =>
    have e : (some k' = some k) = (k = k') := by simp [eq_comm]
    have e2 : (∃ k'', some k' = some k'' ∧ k''.kind = .st) = (k'.kind = .st) := by simp
    simp only [e, e2]
    by_cases h1 : r = role ∧ k = k' <;> by_cases h2 : k'.kind = .st <;>
      by_cases h3 : k.kind = .st ∧ role = .static <;>
      simp only [h1, h2, h3, if_true, if_false, true_or, or_self] <;> rfl

/-! ## The regenerated `_HASH_TRANSITIONS` -/

theorem lookupTransition_mem {c : Cause} {st : FileState} {kn : Bool} {x : FileState × Option Action}
    (h : lookupTransition c st kn = some x) : ((c, st, kn), x) ∈ Generated.hashTransitions := by
  obtain ⟨e, he, rfl⟩ := Option.map_eq_some_iff.mp h
  have hk : e.1 = (c, st, kn) := by simpa using List.find?_some he
  exact hk ▸ List.mem_of_find?_eq_some he

/-- No row of the table is shadowed by an earlier one. -/
theorem hashTransitions_find_row :
    ∀ e ∈ Generated.hashTransitions, (Generated.hashTransitions.find? fun x => x.1 = e.1) = some e := by decide +kernel

theorem lookupTransition_of_table {P : (Cause × FileState × Bool) × FileState × Option Action → Prop}
    (htab : ∀ e ∈ Generated.hashTransitions, P e) {c : Cause} {st new : FileState} {kn : Bool} {act : Option Action}
    (h : lookupTransition c st kn = some (new, act)) : P ((c, st, kn), new, act) :=
  htab _ (lookupTransition_mem h)

/-- Every hash transition keeps the role of the file. -/
theorem hashTransitions_role : ∀ e ∈ Generated.hashTransitions, (e.1.2.1).role? = (e.2.1).role? := by decide

/-- No transition starts from or leads to UNDECLARED or VOLATILE, none leads to UNCONFIRMED. -/
theorem hashTransitions_domain : ∀ e ∈ Generated.hashTransitions, e.1.2.1 ≠ .undeclared ∧ e.1.2.1 ≠ .volatile ∧
    e.2.1 ≠ .undeclared ∧ e.2.1 ≠ .volatile ∧ e.2.1 ≠ .unconfirmed := by decide

theorem lookupTransition_role {c : Cause} {st new : FileState} {known : Bool} {act : Option Action}
    (h : lookupTransition c st known = some (new, act)) : new.role? = st.role? :=
  (lookupTransition_of_table hashTransitions_role h).symm

/-! ## `_check_declaration`: collisions -/

theorem checkDeclaration_rejected {s : KState} {p : String} {c : Key} {r : FileRole} (h : s.existingClaim p = some (r, c))
    (k : Option Key) (role : FileRole) (hne : ¬ (r = role ∧ k = some c)) :
    ∃ e, s.checkDeclaration k p role = .error e := by
  rw [checkDeclaration_claimed h, if_neg hne]
  split <;> exact ⟨_, rfl⟩

theorem rejected_iff_other {s : KState} {p : String} {c : Key} {r : FileRole} (h : s.existingClaim p = some (r, c))
    (k : Option Key) (role : FileRole) :
    (∃ e, s.checkDeclaration k p role = .error e) ↔ ¬ (r = role ∧ k = some c) := by
  refine ⟨fun ⟨e, he⟩ hsame => ?_, checkDeclaration_rejected h k role⟩
  rw [checkDeclaration_claimed h, if_pos hsame] at he
  cases he

/-- Between declarers that are not static trees the rejection is the user-facing `GraphError`. -/
theorem collision_graph_error {s : KState} {p : String} {c : Key} {r : FileRole} (h : s.existingClaim p = some (r, c))
    (k : Key) (role : FileRole) (hne : ¬ (r = role ∧ c = k)) (hk : k.kind ≠ .st) (hc : c.kind ≠ .st) :
    s.checkDeclaration (some k) p role = .error (.graph "claim collision") := by
  rw [checkDeclaration_claimed h, if_neg fun e => hne ⟨e.1, (Option.some.inj e.2).symm⟩,
    if_neg fun e => e.elim (fun ⟨_, e, hk'⟩ => hk (Option.some.inj e ▸ hk')) fun e => hc e.1]

/-! ## `Step.can_recycle` -/

theorem canRecycle_iff (s : KState) (step : Key) (d : StepDecl) : s.canRecycle step d = true ↔
    ∃ n, s.find? step = some n ∧ (s.initialPaths step).1 = sortStrs d.inp ∧
      sortStrs ((n.envs.filter fun e => !e.2.2).map (·.1)) = sortStrs d.env ∧
      (s.initialPaths step).2.1 = sortStrs d.out ∧ (s.initialPaths step).2.2 = sortStrs d.vol := by
  unfold KState.canRecycle
  cases s.find? step with
  | none => exact ⟨nofun, fun ⟨_, h, _⟩ => nomatch h⟩
  | some n =>
    simp only [decide_eq_true_eq]
    exact ⟨fun h => ⟨n, rfl, h⟩, fun ⟨_, e, h⟩ => Option.some.inj e ▸ h⟩

/-! ## Forward: `define` on a state given as a literal (`stepLabel` does not reduce; the label is a hypothesis) -/

theorem raiseIfGlobMatch_nil {s : KState} (hg : s.attachedGlobs = []) (l : List String) :
    s.raiseIfGlobMatch l = .ok () := by
  unfold KState.raiseIfGlobMatch; rw [hg]; rfl

/-- For the declarations of the witness files (`BuildWitness`, `Resources`, `OwnershipWitness`). -/
theorem defineGuard_plain {s : KState} {cfg : KConfig} {c : Key} {d : StepDecl} {l : String}
    (hc : c ≠ rootKey) (hi : d.inp.any (·.endsWith "/") = false) (hv : d.vol = []) (he : d.env = [])
    (hov : d.overrides = []) (hg : s.attachedGlobs = []) (hl : stepLabel d.cmd d.workdir = some l) :
    s.defineGuard cfg c d = .ok (stepKey l) := by
  unfold KState.defineGuard
  rw [raiseIfGlobMatch_nil hg, hl, hv, he, hov, hi]
  simp only [hc, false_and, if_false, List.any_nil, Bool.false_eq_true, bind, Except.bind, pure, Except.pure]

theorem treeGuard_static {s : KState} {creator : Key} {path : String} {hs : List Key}
    (h : s.treeGuard creator path = .ok (some hs)) :
    ∀ k ∈ hs, ∃ n ∈ s.nodes, n.key = k ∧ n.key.kind = .file ∧ n.fstate.role? = some .static := by
  intro k hk
  obtain ⟨n, hn, hnk, hf, _, _, hr, _⟩ := (treeGuard_ok_some h).1 k hk
  exact ⟨n, hn, hnk, hf, hr⟩

theorem mem_detachedFilesUnder {s : KState} {path p : String} (h : p ∈ s.detachedFilesUnder path) :
    p.startsWith path = true := by
  unfold KState.detachedFilesUnder at h
  obtain ⟨n, hn, rfl⟩ := List.mem_map.1 h
  have := (List.mem_filter.1 hn).2
  simp only [decide_eq_true_eq] at this
  exact this.2.2

end StepupModel.K
