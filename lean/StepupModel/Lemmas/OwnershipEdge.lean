import StepupModel.Lemmas.OwnershipProducts
import StepupModel.Lemmas.SoftCall
/-!
# C08 (O5), third part: "the edge creator -> product exists" over request histories

`EdgeInv X s`: every file row in a product state (PLANNED, BUILT, OUTDATED, VOLATILE) that has a creator is the
sink of a dependency row whose source is that creator; `X` are keys of which nothing is claimed (none here: `NoX`).
The statement does not mention `detached`: a detached step keeps its detached products with their edges, which is
what makes the re-attachment of a recycled subtree (`try_recycle`) harmless.  Three operations break the invariant
on the way (`Trellis.create` rewrites the row of its key before it deletes the edges into it and before `add_source`
inserts the new edge; `reset_for_rerun` deletes the edge `step -> amended output` before it detaches the output):
they are judged from the state before to the state after, by what they do outside their key
(`EdgeInv.of_keep`, from `create_post`, `create_deps`, `structRel_detach`, `detach_deps`).

`ELeaf P` lists the primitive writes of `Lemmas/Stable.lean` under which the invariant is stable without knowing
the context: every write of `StableG` except `fileWrite`, `fileInit`, `handOverRow`, `removeNode`; the `creator` write for a cut
link or a row that is no file; the deletion of dependency rows none of which ends in a file key.  These are the
leaves of `Lemmas/StableW.lean` for the kinds of write `edgeA` (`ELeaf.toW`).

`exec_EK`: every accepted request keeps `EK NoX`, the one side condition of `ReqOKE` granted (judged on the state
in which the request is issued): `reset_for_rerun k` on a key of kind *file* must not meet a row of `k` in a
product state whose edge from its creator is dynamic (`ResetOK`; `Step.reset_for_rerun` is a method of steps: on
a step, a static tree or the root the condition is void).  The condition is needed:
`Lemmas/OwnershipEdgeWitness.lean`.  `productsOwned_after_every_history` assembles clause (O5) of
`koracles.ownership_invariants` from its three parts.
-/
namespace StepupModel.K.OwnE
open StepupModel.K.MetaAfter StepupModel.K.Discipline StepupModel.K.Ever

structure ELeaf (P : KState → Prop) : Prop where
  cache : ∀ (s : KState) (p : Node → Bool) (f : Node → Node), CacheOnly f → P s → P (s.modifyWhere p f)
  detached : ∀ (s : KState) (k : Key) (d : Bool), P s → P (s.modify k fun n => { n with detached := d })
  /-- the link is cut, or the row is no file -/
  creator : ∀ (s : KState) (k : Key) (c : Option Key) (d : Bool), s.creatorAllowed k c d = true →
    (c = none ∨ k.kind ≠ .file) → P s → P (s.modify k fun n => { n with creator := c })
  stepWrite : ∀ (s : KState) (k : Key) (n n' : Node) (st : StepState) (d : Option Bool),
    s.find? k = some n → stepRowWrite n st d = .ok n' → P s → P (s.modify k fun _ => n')
  stepInit : ∀ (s : KState) (k : Key) (i : StepInit), P s → P (s.initStepRow k i)
  setHash : ∀ (s : KState) (k : Key) (h : Nat), P s → P (s.setHash k h)
  deleteHash : ∀ (s : KState) (k : Key), P s → P (s.deleteHash k)
  bumpDefer : ∀ (s : KState) (k : Key), P s → P (s.modify k fun n => { n with deferCount := n.deferCount + 1 })
  hold : ∀ (s : KState) (k : Key), P s → P (s.modify k fun n => { n with holding := n.holding + 1 })
  release : ∀ (s : KState) (k : Key) (n : Node), s.find? k = some n → n.holding ≠ 0 → P s →
    P (s.modify k fun n => { n with holding := n.holding - 1 })
  recycled : ∀ (s : KState) (k : Key) (need : Need) (shell : Bool), P s →
    P (s.modify k fun n => { n with need := need, shell := shell })
  addDep : ∀ (s : KState) (src snk : Key), s.hasDep src snk = false → depKindOk src.kind snk.kind = true → P s →
    P { s with deps := s.deps ++ [({ src := src, snk := snk } : Dep)] }
  /-- no deleted row ends in a file key -/
  filterDeps : ∀ (s : KState) (p : Dep → Bool), (∀ d ∈ s.deps, p d = true → d.snk.kind ≠ .file) → P s →
    P { s with deps := s.deps.filter fun d => !p d }
  markDyn : ∀ (s : KState) (src snk : Key) (dyn : Bool), P s →
    P { s with deps := s.deps.map fun (d : Dep) => if d.src = src ∧ d.snk = snk then { d with dyn := dyn } else d }
  appendNode : ∀ (s : KState) (k : Key) (c : Option Key), s.find? k = none → s.insertAllowed k c = true → P s →
    P (s.appendNode k c)
  queueDelete : ∀ (s : KState) (path : String) (h : Option Nat), P s → P (s.queueDelete path h)
  clearQueue : ∀ (s : KState), P s → P { s with toBeDeleted := [] }

/-- The kinds of write of `Lemmas/StableW.lean` that `ELeaf` covers. -/
def edgeA : WClass → Bool
  | .writeFile | .keepRole | .outdate | .adoptFile | .handOver | .freshFile | .delDeps | .removeNode => false
  | _ => true

namespace ELeaf
variable {P : KState → Prop}

theorem toW (L : ELeaf P) : StableW edgeA (fun _ _ => True) (fun _ _ => True) P :=
  StableW.ofFine (cache := fun s p f hf => L.cache s p f fun n => (hf n).1) (fileWrite := absent)
    (keepRole := absent) (outdate := absent)
    (stepWrite := fun s k n n' st d _ _ => L.stepWrite s k n n' st d) (stepInit := fun _ => L.stepInit)
    (setHash := fun _ => L.setHash) (deleteHash := fun _ => L.deleteHash) (bumpDefer := fun _ => L.bumpDefer)
    (hold := fun _ s k _ => L.hold s k) (release := fun _ => L.release) (recycled := fun _ => L.recycled)
    (addDep := fun s a b _ _ => L.addDep s a b) (filterDeps := absent) (filterStepDeps := fun _ => L.filterDeps)
    (markDyn := fun _ => L.markDyn) (queueDelete := fun _ => L.queueDelete) (clearQueue := fun _ => L.clearQueue)
    (detached := fun _ => L.detached) (creator := fun s k c d hc ha => L.creator s k c d ha (creatorW_cases rfl hc))
    (handOverRow := absent) (freshFile := absent) (appendNode := fun _ s k c _ => L.appendNode s k c)
    (removeNode := absent)

theorem cacheAt (L : ELeaf P) (s : KState) (k : Key) (f : Node → Node) (hf : CacheOnly f) (hp : P s) :
    P (s.modify k f) := modify_of_where L.cache s k f hf hp

theorem flagDepEndpoints (L : ELeaf P) (s : KState) (a b : Key) (hp : P s) : P (s.flagDepEndpoints a b) :=
  L.cache _ _ _ (fun _ => rfl) hp

theorem setStepState_preserves (L : ELeaf P) (k : Key) (st : StepState) (d : Bool) :
    Preserves P (fun s => s.setStepState k st d) :=
  fun s s' hp h => L.toW.writeStepState_run k st (some d) s s' (stepW_of (by decide) st) (fun _ => trivial) hp h

theorem setDetachedRec (L : ELeaf P) (s : KState) (k : Key) (d : Bool) (hp : P s) : P (s.setDetachedRec k d) :=
  L.toW.setDetachedRec rfl s k d hp

/-- `KState.detachCreatedSteps`, `detachProducts` and the two selective loops of `reset_for_rerun`
(`detachProductsWhere`). -/
theorem detachAll_preserves (L : ELeaf P) (l : List Node) :
    Preserves P (fun s => l.foldlM (fun s p => s.detach p.key) s) :=
  detachAll_of (L.toW.detach_preserves (by decide)) l

theorem dropDynamicInputs (L : ELeaf P) (s : KState) (k : Key) (hk : k.kind ≠ .file) (hp : P s) : P (s.dropDynamicInputs k) :=
  L.toW.dropDynamicInputs (by decide) s k (delW_ne hk ▸ rfl) hp

theorem markDir (L : ELeaf P) (s : KState) (d : String) (hp : P s) : P (s.markDirToBeDeleted d) :=
  L.toW.markDir rfl s d hp

/-- `INSERT INTO dependency` without the cycle check. -/
theorem insertDep_preserves (L : ELeaf P) (a b : Key) : Preserves P (fun s => s.insertDep a b) := by
  intro s s' hp h
  obtain ⟨hdup, hkind, rfl⟩ := insertDep_ok h
  exact L.flagDepEndpoints _ a b (L.addDep s a b hdup hkind hp)

theorem addSourceChecked_preserves (L : ELeaf P) (a b : Key) : Preserves P (fun s => s.addSourceChecked a b) :=
  fun s s' hp h => L.insertDep_preserves b a s s' hp (addSourceChecked_ok h).2

theorem setStepExtras (L : ELeaf P) (s : KState) (sk : Key) (d : StepDecl) (hp : P s) : P (s.setStepExtras sk d) :=
  L.cacheAt _ _ _ (fun _ => rfl) hp

/-- `Workflow.delete_detached` before `Trellis.delete_detached`: the unused files of the static trees are detached. -/
theorem deleteDetached_preserves (L : ELeaf P)
    (hbase : Preserves P (fun s => s.deleteDetachedBase)) : Preserves P (fun s => s.deleteDetached) := by
  intro s s' hp h
  obtain ⟨st, hst, hb⟩ := deleteDetached_split_of (fun s k => L.toW.detach_preserves (by decide) k s) s s' hp h
  exact hbase st s' hst hb

end ELeaf

structure EMid (P : KState → Prop) : Prop where
  leaf : ELeaf P
  markStepPending_preserves : ∀ (fuel : Nat) (k : Key), Preserves P (fun s => StepupModel.K.markStepPending fuel s k)

namespace EMid
variable {P : KState → Prop}

theorem markStepPending'_preserves (L : EMid P) (k : Key) : Preserves P (fun s => s.markStepPending k) :=
  fun s s' hp h => L.markStepPending_preserves s.fuel k s s' hp h

theorem handleUpdated_preserves (L : EMid P) (f : Key) : Preserves P (fun s => s.handleUpdated f) :=
  handleUpdated_of L.markStepPending'_preserves f

theorem handleDeleted_preserves (L : EMid P) (f : Key) : Preserves P (fun s => s.handleDeleted f) :=
  handleDeleted_of L.markStepPending'_preserves f

end EMid

def NoX (_ : Key) : Prop := False

instance : DecidablePred NoX := fun _ => by unfold NoX; exact inferInstance

def EdgeInv (X : Key → Prop) (s : KState) : Prop :=
  ∀ f ∈ s.nodes, f.key.kind = .file → ¬ X f.key → IsProduct f.fstate → ∀ c, f.creator = some c →
    ∃ d ∈ s.deps, d.src = c ∧ d.snk = f.key

instance (X : Key → Prop) [DecidablePred X] (s : KState) : Decidable (EdgeInv X s) := by
  unfold EdgeInv; exact inferInstance

theorem EdgeInv.mono {X : Key → Prop} {s s' : KState} (h : EdgeInv X s)
    (hr : ∀ f' ∈ s'.nodes, f'.key.kind = .file → ¬ X f'.key → IsProduct f'.fstate → ∀ c, f'.creator = some c →
      ∃ f ∈ s.nodes, f.key = f'.key ∧ IsProduct f.fstate ∧ f.creator = some c)
    (hd : ∀ d ∈ s.deps, ∀ f ∈ s.nodes, f.key.kind = .file → ¬ X f.key → IsProduct f.fstate →
      f.creator = some d.src → d.snk = f.key → ∃ d' ∈ s'.deps, d'.src = d.src ∧ d'.snk = d.snk) :
    EdgeInv X s' := by
  intro f' hf' hkind hx hp c hc
  obtain ⟨f, hf, hk, hpf, hcf⟩ := hr f' hf' hkind hx hp c hc
  obtain ⟨d, hd1, hsrc, hsnk⟩ := h f hf (hk ▸ hkind) (hk ▸ hx) hpf c hcf
  obtain ⟨d', hd', h1, h2⟩ := hd d hd1 f hf (hk ▸ hkind) (hk ▸ hx) hpf (hsrc ▸ hcf) hsnk
  exact ⟨d', hd', h1.trans hsrc, h2.trans (hsnk.trans hk)⟩

/-- For the operations that break the invariant on the way (header).  `StructRow` (same key and role, creator kept
or cut) is what `Keep k` and `StructRel` give of the rows outside `k`; of the rows of `k` afterwards the invariant is
asked (`hk`). -/
theorem EdgeInv.of_keep {s s' : KState} {k : Key} (h : EdgeInv NoX s)
    (hrows : ∀ n' ∈ s'.nodes, n'.key ≠ k → ∃ n ∈ s.nodes, StructRow n n')
    (hdeps : ∀ d ∈ s.deps, d.snk ≠ k → ∃ d' ∈ s'.deps, d'.src = d.src ∧ d'.snk = d.snk)
    (hk : ∀ f ∈ s'.nodes, f.key = k → f.key.kind = .file → IsProduct f.fstate → ∀ c, f.creator = some c →
      ∃ d ∈ s'.deps, d.src = c ∧ d.snk = k) : EdgeInv NoX s' := by
  intro f' hf' hkind _ hp c hc
  by_cases hfk : f'.key = k
  · exact hfk ▸ hk f' hf' hfk hkind hp c hc
  · obtain ⟨f, hf, h1, h2, h3⟩ := hrows f' hf' hfk
    have hcf : f.creator = some c := by
      rcases h3 with h3 | h3
      · exact h3 ▸ hc
      · rw [h3.1] at hc; cases hc
    obtain ⟨d, hd, hsrc, hsnk⟩ := h f hf (h1 ▸ hkind) (fun hx => hx) ((isProduct_of_role h2).1 hp) c hcf
    obtain ⟨d', hd', e1, e2⟩ := hdeps d hd (by rw [hsnk, ← h1]; exact hfk)
    exact ⟨d', hd', e1.trans hsrc, e2.trans (hsnk.trans h1.symm)⟩

theorem EdgeInv.rowsSame {X : Key → Prop} {s s' : KState} (h : EdgeInv X s) (hd : s'.deps = s.deps)
    (hr : ∀ f' ∈ s'.nodes, ∃ f ∈ s.nodes, f'.key = f.key ∧ f'.creator = f.creator ∧ f'.fstate = f.fstate) :
    EdgeInv X s' := by
  refine h.mono ?_ (fun d hd1 _ _ _ _ _ _ _ => ⟨d, hd ▸ hd1, rfl, rfl⟩)
  intro f' hf' _ _ hp c hc
  obtain ⟨f, hf, h1, h2, h3⟩ := hr f' hf'
  exact ⟨f, hf, h1.symm, h3 ▸ hp, h2 ▸ hc⟩

theorem mem_modifyWhere_cache {s : KState} {p : Node → Bool} {g : Node → Node} {f' : Node} (hg : CacheOnly g)
    (h : f' ∈ (s.modifyWhere p g).nodes) :
    ∃ m ∈ s.nodes, f'.key = m.key ∧ f'.creator = m.creator ∧ f'.fstate = m.fstate := by
  obtain ⟨m, hm, rfl⟩ := mem_modifyWhere h
  refine ⟨m, hm, ?_⟩
  split
  · exact ⟨hg.key m, hg.creator m, hg.fstate m⟩
  · exact ⟨rfl, rfl, rfl⟩

theorem EdgeInv.modifySame {X : Key → Prop} {s : KState} (h : EdgeInv X s) (k : Key) (g : Node → Node)
    (hg : ∀ n, (g n).key = n.key ∧ (g n).creator = n.creator ∧ (g n).fstate = n.fstate) : EdgeInv X (s.modify k g) := by
  refine h.rowsSame rfl fun f' hf' => ?_
  obtain ⟨m, hm, rfl⟩ := mem_modify hf'
  refine ⟨m, hm, ?_⟩
  split
  · exact hg m
  · exact ⟨rfl, rfl, rfl⟩

theorem EdgeInv.replaceSame {X : Key → Prop} {s : KState} (h : EdgeInv X s) {k : Key} {n n' : Node} (hf : s.find? k = some n)
    (h1 : n'.key = n.key) (h2 : n'.creator = n.creator) (h3 : n'.fstate = n.fstate) :
    EdgeInv X (s.modify k fun _ => n') := by
  refine h.rowsSame rfl fun f' hf' => ?_
  obtain ⟨m, hm, rfl⟩ := mem_modify hf'
  split
  · exact ⟨n, find_mem hf, h1, h2, h3⟩
  · exact ⟨m, hm, rfl, rfl, rfl⟩

theorem EdgeInv.filterOf {X : Key → Prop} {s : KState} (h : EdgeInv X s) (p : Dep → Bool)
    (hq : ∀ d ∈ s.deps, p d = true → ∀ f ∈ s.nodes, f.key.kind = .file → ¬ X f.key → IsProduct f.fstate →
      f.creator = some d.src → d.snk = f.key → False) :
    EdgeInv X { s with deps := s.deps.filter fun d => !p d } := by
  refine h.mono (fun f' hf' _ _ hp c hc => ⟨f', hf', rfl, hp, hc⟩) ?_
  intro d hd f hf hk hx hp hc hsnk
  refine ⟨d, List.mem_filter.2 ⟨hd, ?_⟩, rfl, rfl⟩
  cases hpd : p d with
  | false => rfl
  | true => exact (hq d hd hpd f hf hk hx hp hc hsnk).elim

theorem leafE (X : Key → Prop) : ELeaf (EdgeInv X) :=
  { PlainL.ofMain (P := EdgeInv X) fun _ _ hm hd h => h.rowsSame hd fun _ hf' =>
      have ⟨f, hf, e⟩ := mem_of_map_eq Node.main hm hf'
      ⟨f, hf, congrArg (·.1) e, congrArg (·.2.1) e, congrArg (·.2.2.2.1) e⟩ with
    detached := fun s k d hp => hp.modifySame k _ (fun _ => ⟨rfl, rfl, rfl⟩)
    creator := fun s k c d _ hc hp => by
      refine hp.mono ?_ (fun d hd1 _ _ _ _ _ _ _ => ⟨d, hd1, rfl, rfl⟩)
      intro f' hf' hkind _ hpr c' hc'
      obtain ⟨m, hm, rfl⟩ := mem_modify hf'
      by_cases hmk : m.key = k
      · rw [if_pos hmk] at hkind hc'
        rcases hc with hc | hc
        · rw [hc] at hc'; cases hc'
        · exact absurd (hmk ▸ hkind) hc
      · rw [if_neg hmk] at hpr hc' ⊢
        exact ⟨m, hm, rfl, hpr, hc'⟩
    stepWrite := fun s k n n' st d hf hw hp => by
      obtain rfl := stepRowWrite_eq hw
      exact hp.replaceSame hf rfl rfl rfl
    stepInit := fun s k i hp => hp.modifySame k _ (fun _ => ⟨rfl, rfl, rfl⟩)
    addDep := fun s a b _ _ hp =>
      hp.mono (fun f' hf' _ _ hpr c hc => ⟨f', hf', rfl, hpr, hc⟩)
        (fun d hd1 _ _ _ _ _ _ _ => ⟨d, List.mem_append_left _ hd1, rfl, rfl⟩)
    filterDeps := fun s p hq hp => by
      refine hp.filterOf p ?_
      intro d hd hpd f _ hk _ _ _ hsnk
      exact hq d hd hpd (hsnk ▸ hk)
    markDyn := fun s a b dyn hp => by
      refine hp.mono (fun f' hf' _ _ hpr c hc => ⟨f', hf', rfl, hpr, hc⟩) ?_
      intro d hd1 _ _ _ _ _ _ _
      refine ⟨_, List.mem_map.2 ⟨d, hd1, rfl⟩, ?_, ?_⟩ <;> split <;> rfl
    appendNode := fun s k c _ _ hp => by
      refine hp.mono ?_ (fun d hd1 _ _ _ _ _ _ _ => ⟨d, hd1, rfl, rfl⟩)
      intro f' hf' _ _ hpr c' hc'
      rcases mem_appendNode.1 hf' with hf' | rfl
      · exact ⟨f', hf', rfl, hpr, hc'⟩
      · exact absurd hpr (by show ¬ IsProduct FileState.undeclared; decide) }

def EK (X : Key → Prop) (s : KState) : Prop := EdgeInv X s ∧ KeysNodup s

abbrev InvE (s : KState) : Prop := EK NoX s

instance (s : KState) : Decidable (InvE s) := by
  unfold InvE EK; exact inferInstance

theorem EK.keys {X : Key → Prop} {s : KState} (h : EK X s) : KeysUnique s := ku_of_kn h.2

theorem ELeaf.and {P Q : KState → Prop} (hP : ELeaf P) (hQ : Stable Q) : ELeaf (fun s => P s ∧ Q s) where
  cache := fun s p f hf h => ⟨hP.cache s p f hf h.1, hQ.cache s p f hf h.2⟩
  detached := fun s k d h => ⟨hP.detached s k d h.1, hQ.detached s k d h.2⟩
  creator := fun s k c d ha hc h => ⟨hP.creator s k c d ha hc h.1, hQ.creator s k c d ha h.2⟩
  stepWrite := fun s k n n' st d hf hw h => ⟨hP.stepWrite s k n n' st d hf hw h.1, hQ.stepWrite s k n n' st d hf hw h.2⟩
  stepInit := fun s k i h => ⟨hP.stepInit s k i h.1, hQ.stepInit s k i h.2⟩
  setHash := fun s k x h => ⟨hP.setHash s k x h.1, hQ.setHash s k x h.2⟩
  deleteHash := fun s k h => ⟨hP.deleteHash s k h.1, hQ.deleteHash s k h.2⟩
  bumpDefer := fun s k h => ⟨hP.bumpDefer s k h.1, hQ.bumpDefer s k h.2⟩
  hold := fun s k h => ⟨hP.hold s k h.1, hQ.hold s k trivial h.2⟩
  release := fun s k n hf hn h => ⟨hP.release s k n hf hn h.1, hQ.release s k n hf hn h.2⟩
  recycled := fun s k need shell h => ⟨hP.recycled s k need shell h.1, hQ.recycled s k need shell h.2⟩
  addDep := fun s a b hno hk h => ⟨hP.addDep s a b hno hk h.1, hQ.addDep s a b hno hk h.2⟩
  filterDeps := fun s p hq h => ⟨hP.filterDeps s p hq h.1, hQ.filterDeps s p h.2⟩
  markDyn := fun s a b dyn h => ⟨hP.markDyn s a b dyn h.1, hQ.markDyn s a b dyn h.2⟩
  appendNode := fun s k c hf hi h => ⟨hP.appendNode s k c hf hi h.1, hQ.appendNode s k c hf hi h.2⟩
  queueDelete := fun s path x h => ⟨hP.queueDelete s path x h.1, hQ.queueDelete s path x h.2⟩
  clearQueue := fun s h => ⟨hP.clearQueue s h.1, hQ.clearQueue s h.2⟩

theorem leafEK (X : Key → Prop) : ELeaf (EK X) := (leafE X).and stable_keysNodup

/-- `SoftRel` (`Lemmas/DisciplineBase.lean`): same edges; rows keep key, creator, role. -/
theorem EdgeInv.soft {X : Key → Prop} {s s' : KState} (h : EdgeInv X s) (hr : SoftRel s s') : EdgeInv X s' := by
  refine h.mono ?_ (fun d hd1 _ _ _ _ _ _ _ => ⟨d, hr.deps ▸ hd1, rfl, rfl⟩)
  intro f' hf' _ _ hp c hc
  obtain ⟨f, hf, h1, _, ⟨h3, h4⟩, _⟩ := all₂_mem_right hr.rows f' hf'
  exact ⟨f, hf, h1.symm, (isProduct_of_role h4).1 hp, h3 ▸ hc⟩

theorem EK.soft {X : Key → Prop} {s s' : KState} (h : EK X s) (hr : SoftRel s s') : EK X s' :=
  ⟨h.1.soft hr, kn_of_ku (hr.keysUnique h.keys)⟩

theorem EK.of_soft {X : Key → Prop} {f : KState → M KState} (hf : ∀ s0, Preserves (SP s0) f) : Preserves (EK X) f :=
  fun s s' hp h => hp.soft (hf s s s' (SP.refl hp.keys) h).2

theorem midEK (X : Key → Prop) : EMid (EK X) :=
  ⟨leafEK X, fun fuel k => EK.of_soft (fun t => (SP.leaves t).toW.markStepPending_preserves (by decide) fuel k)⟩

theorem EK.deleteDeps_of {X : Key → Prop} {s : KState} (hp : EK X s) (p : Dep → Bool)
    (hq : ∀ d ∈ s.deps, p d = true → ∀ f ∈ s.nodes, f.key.kind = .file → ¬ X f.key → IsProduct f.fstate →
      f.creator = some d.src → d.snk = f.key → False) : EK X (s.deleteDeps p) := by
  unfold KState.deleteDeps
  generalize (s.deps.filter p) = gone
  have base : EK X ({ s with deps := s.deps.filter fun d => !p d } : KState) :=
    ⟨hp.1.filterOf p hq, stable_keysNodup.filterDeps s p hp.2⟩
  generalize ({ s with deps := s.deps.filter fun d => !p d } : KState) = s0 at base
  induction gone generalizing s0 with
  | nil => exact base
  | cons d ds ih =>
    simp only [List.foldl_cons]
    apply ih
    exact (leafEK X).flagDepEndpoints _ _ _ base

/-- `Trellis.create` of a file row for a static declaration (UNCONFIRMED) or a placeholder (UNDECLARED, no
creator): the row is in no product state, or has no creator. -/
theorem createFile_EK (k : Key) (creator : Option Key) (st : FileState)
    (hst : st = .unconfirmed ∨ (st = .undeclared ∧ creator = none)) :
    Preserves InvE (fun s => s.create k creator (.file st)) := by
  intro s s' hp h
  replace h : s.create k creator (.file st) = .ok s' := h
  have hns : NoHashState st := by rcases hst with rfl | ⟨rfl, _⟩ <;> simp [NoHashState]
  have hkeys := stable_keysNodup.toW.create_preserves Sub.top k creator (.file st) rfl rfl Sub.top hns trivial s s' hp.2 h
  refine ⟨hp.1.of_keep (create_post hp.keys h).1.keep.mem
    (fun d hd hk => ⟨d, create_deps hp.keys h d hd hk, rfl, rfl⟩) ?_, hkeys⟩
  intro f hf hfk _ hprod c hc
  have hfind := hfk ▸ find?_of_mem (ku_of_kn hkeys) hf
  exfalso
  rcases hst with hst | ⟨hst, hcn⟩
  · rcases create_file_role hp.keys h f hfind with hr | ⟨hl, _⟩
    · rw [hst] at hr; exact absurd ((isProduct_of_role hr).1 hprod) (by decide)
    · rw [hst] at hl; rcases hl with hl | hl <;> cases hl
  · have hcr := (create_post hp.keys h).1.cr f hfind
    rw [hcn] at hcr
    rcases hcr with hcr | hcr <;> (rw [hcr] at hc; cases hc)

/-- `_declare_file` + `file.add_source(step)` for an output (PLANNED) or a volatile output: the row is
rewritten with the step as creator (or none), the edges into it are deleted, the edge from the step is inserted. -/
theorem declareProduct_EK (cfg : KConfig) (step : Key) (p : String) (st : FileState)
    (hst : st = .planned ∨ st = .volatile) : Preserves InvE (fun s => s.declareProduct cfg step p st) := by
  intro s s' hp h
  obtain ⟨s1, h1, h⟩ := bind_ok_inv h
  have hcreate := declareFile_create h1
  have hns : NoHashState st := by rcases hst with rfl | rfl <;> simp [NoHashState]
  have hk1 := stable_keysNodup.toW.create_preserves Sub.top (fileKey p) (some step) (.file st) rfl rfl Sub.top hns trivial
    s s1 hp.2 hcreate
  have hk' := stable_keysNodup.toW.addSourceChecked_preserves (fileKey p) step rfl s1 s' hk1 h
  obtain ⟨_, _, rfl⟩ := insertDep_ok (addSourceChecked_ok h).2
  -- the edge is inserted, then its end points are flagged
  refine ⟨(leafE NoX).flagDepEndpoints _ step (fileKey p) (hp.1.of_keep (k := fileKey p)
    (create_post hp.keys hcreate).1.keep.mem ?_ ?_), hk'⟩
  · exact fun d hd hk => ⟨d, List.mem_append_left _ (create_deps hp.keys hcreate d hd hk), rfl, rfl⟩
  · intro f hf hfk _ _ c hc
    refine ⟨{ src := step, snk := fileKey p }, List.mem_append_right _ (List.mem_singleton.2 rfl), ?_, rfl⟩
    rcases (create_post hp.keys hcreate).1.cr f (hfk ▸ find?_of_mem (ku_of_kn hk1) hf) with hcr | hcr
    · exact Option.some.inj (hcr.symm.trans hc)
    · rw [hcr] at hc; cases hc

theorem invE_init : InvE KState.init := by
  refine ⟨fun f hf hk => ?_, init_keysNodup⟩
  simp only [KState.init, List.mem_singleton] at hf
  subst hf
  cases hk

theorem handOver_E {X : Key → Prop} (tk : Key) (hs : List Key) (s : KState) (h : EdgeInv X s)
    (hst : ∀ k ∈ hs, ∀ m ∈ s.nodes, m.key = k → ¬ IsProduct m.fstate) : EdgeInv X (s.handOver tk hs) := by
  rw [handOver_nodes]
  refine h.mono (fun f' hf' _ _ hp c hc => ?_) (fun d hd1 _ _ _ _ _ _ _ => ⟨d, hd1, rfl, rfl⟩)
  obtain ⟨m, hm, rfl⟩ := List.mem_map.1 hf'
  by_cases hmk : m.key ∈ hs
  · rw [if_pos hmk] at hp; exact absurd hp (hst _ hmk m hm rfl)
  · rw [if_neg hmk] at hp hc ⊢; exact ⟨m, hm, rfl, hp, hc⟩

/-- The tree row and the hand-over of `register_static_tree`: the files handed over to the new tree are STATIC. -/
theorem treeCreateHandOver_EK {s s1 : KState} {creator : Key} {path : String} {hs : List Key} (hp : InvE s)
    (hg : s.treeGuard creator path = .ok (some hs)) (h1 : s.create (treeKey path) (some creator) .tree = .ok s1) :
    InvE (s1.handOver (treeKey path) hs) := by
  refine treeCreateHandOver_of (P := InvE) (fun _ hp => hp.keys)
    (fun p c => (leafEK NoX).toW.createRow_preserves (by decide) _ _ .tree nofun nofun)
    (fun s tk hs hstat hp => ⟨handOver_E tk hs s hp.1 fun k hk m hm hmk hprod => ?_, stable_keysNodup.toW.handOver rfl s _ hs hp.2⟩)
    hp hg h1
  have hrole := hstat k hk m (hmk ▸ find?_of_mem hp.keys hm)
  unfold IsProduct at hprod
  rw [hrole] at hprod
  rcases hprod with h | h <;> cases h

/-- No call site has to grant anything, whoever declares and whatever is recycled: the recycle short cut of
`define_step` re-attaches a subtree whose products kept their edges. -/
theorem callEK : CallL (fun _ _ _ => True) (fun _ _ _ => True) (fun _ _ => True) InvE where
  payload := fun s p f hf => (leafEK NoX).cache s p f hf.payloadOnly.cacheOnly
  setDynamic := (leafEK NoX).toW.setDynamic rfl
  insertDep := fun a b _ s s' _ => (leafEK NoX).insertDep_preserves a b s s'
  declareStatic := fun cfg c p _ s s' hp h =>
    createFile_EK (fileKey p) (some c) .unconfirmed (.inl rfl) s s' hp (declareFile_create h)
  declareProduct := fun cfg step p st hst _ => declareProduct_EK cfg step p st hst
  adopt := fun s s' p t _ hp h => createFile_EK (fileKey p) (some t) .unconfirmed (.inl rfl) s s' hp h
  placeholder := fun p => createFile_EK (fileKey p) none .undeclared (.inr ⟨rfl, rfl⟩)
  createStep := fun label c i _ =>
    (leafEK NoX).toW.createRow_preserves (by decide) _ _ (.step i) nofun nofun
  stepExtras := fun _ _ _ => (leafEK NoX).setStepExtras
  recycleStep := fun label c d n s s' _ hp h => by
    obtain ⟨s1, h1, h⟩ := bind_ok_inv h
    obtain ⟨s3, h3, h⟩ := bind_ok_inv h
    exact pure_ok_iff.1 h ▸ (leafEK NoX).setStepExtras _ _ _ ((leafEK NoX).toW.afterRecycle_of
      (midEK NoX).markStepPending'_preserves rfl _ d n s1 s3 ((leafEK NoX).toW.reattach_preserves (by decide) _ c rfl s s1 hp h1) h3)
  treeCreateHandOver := treeCreateHandOver_EK
  ofTree := fun _ _ _ _ => trivial
  ofUnder := fun _ _ _ _ => trivial

/-- One amended output: the edge is deleted, then the file is detached and has no creator any more. -/
theorem dropDynamicSink_EK (step k : Key) : Preserves InvE (fun s => s.dropDynamicSink step k) := by
  intro s s' hp h
  replace h : (s.deleteDeps fun d => d.src = step ∧ d.snk = k).detach k = .ok s' := h
  have hk1 : KeysNodup (s.deleteDeps fun d => d.src = step ∧ d.snk = k) := stable_keysNodup.toW.deleteDeps rfl s _ hp.2
  refine ⟨hp.1.of_keep (k := k)
    (fun n' hn' _ => all₂_mem_right ((structRel_deleteDeps s _).trans (structRel_detach h)).rows n' hn')
    (fun d hd hk => ⟨d, ?_, rfl, rfl⟩) ?_, stable_keysNodup.toW.detach_preserves Sub.top k _ s' hk1 h⟩
  · rw [detach_deps h, deps_deleteDeps]
    exact List.mem_filter.2 ⟨hd, by simpa using Or.inr hk⟩
  · intro f hf hfk _ _ c hc
    rw [detach_cuts (ku_of_kn hk1) h f hf hfk] at hc
    cases hc

/-- The side condition of `reset_for_rerun k`: void unless `k` is a key of kind file; then no row of `k` in a
product state is the sink of a *dynamic* edge from its creator (`KState.dropDynamicInputs` deletes the dynamic edges
INTO `k`). -/
def ResetOK (s : KState) (k : Key) : Prop :=
  k.kind = .file → ∀ f ∈ s.nodes, f.key = k → IsProduct f.fstate → ∀ c, f.creator = some c →
    ∀ d ∈ s.deps, d.src = c → d.snk = k → d.dyn = false

instance (s : KState) (k : Key) : Decidable (ResetOK s k) := by unfold ResetOK; exact inferInstance

theorem resetOK_of_kind (s : KState) {k : Key} (hk : k.kind ≠ .file) : ResetOK s k := fun h => absurd h hk

theorem dropDynamicInputs_EK (s : KState) (k : Key) (hp : InvE s) (hk : ResetOK s k) : InvE (s.dropDynamicInputs k) := by
  have L := leafEK NoX
  unfold KState.dropDynamicInputs
  refine L.cacheAt _ _ _ (fun _ => rfl) (EK.deleteDeps_of (s := s.flagDynamicSuppliers k) (L.cache _ _ _ (fun _ => rfl) hp) _ ?_)
  intro d hd hpd f' hf' hkind _ hprod hcr hsnk
  obtain ⟨hdk, hdyn⟩ := of_decide_eq_true hpd
  -- the row before the flags: a product row of `k` whose creator edge `d` is dynamic
  obtain ⟨f, hf, h1, h2, h3⟩ := mem_modifyWhere_cache (g := fun n => { n with checkAfter := true }) (fun _ => rfl) hf'
  have hfk : f.key = k := h1.symm.trans (hsnk.symm.trans hdk)
  have := hk (hfk ▸ h1 ▸ hkind) f hf hfk (h3 ▸ hprod) d.src (h2 ▸ hcr) d hd rfl hdk
  rw [hdyn] at this
  cases this

/-- `Trellis.delete_detached`: a deleted node takes the edges INTO it along, nothing else. -/
theorem deleteDetachedBase_EK : Preserves InvE (fun s => s.deleteDetachedBase) := by
  intro s s' hp h
  replace h : s.deleteDetachedBase = .ok s' := h
  obtain ⟨D, spec⟩ := deleteDetachedBase_spec s s' h
  refine ⟨?_, stable_keysNodup.toW.deleteDetachedBase_preserves Sub.top s s' hp.2 h⟩
  intro f' hf' hkind hx hprod c hc
  obtain ⟨f, hf, hcore, hD⟩ := spec.rows hf'
  have h1 : f.key = f'.key := congrArg (·.1) hcore
  have h2 : f.creator = f'.creator := congrArg (·.2.1) hcore
  have h4 : f.fstate = f'.fstate := congrArg (·.2.2.2.1) hcore
  obtain ⟨d, hd, hsrc, hsnk⟩ := hp.1 f hf (h1 ▸ hkind) hx (h4 ▸ hprod) c (h2 ▸ hc)
  exact ⟨d, spec.deps ▸ (mem_filter_not_contains _ _ _ _).2 ⟨hd, hsnk ▸ h1 ▸ hD⟩, hsrc, hsnk.trans h1⟩

def ReqOKE (s : KState) : Req → Prop
  | .resetRerun k => ResetOK s k
  | _ => True

theorem exec_EK (cfg : KConfig) (r : Req) (s : KState) (res : KState × String) (hr : ReqOKE s r)
    (hp : InvE s) (h : s.exec cfg r = .ok res) : InvE res.1 := by
  have L := leafEK NoX
  refine exec_of_soft_call (G := ResetOK) callEK
    (fun cfg r hr s res hp h => hp.soft (exec_plainSoft_rel cfg r hr s res hp.keys h))
    (fun cfg c s s' d => L.toW.popNext_preserves (by decide) cfg c s s' d (fun _ _ _ _ _ _ _ _ _ _ _ _ => trivial))
    (L.toW.updateMeta_preserves (by decide))
    (fun k s s' hg hp h => resetForRerun_of (dropDynamicInputs_EK s k hp hg) (dropDynamicSink_EK k) L.detachAll_preserves
      (EK.of_soft fun t => (SP.leaves t).toW.outdateBuilt_preserves (by decide) k) h)
    (fun cfg k wd => completeFailure_of
      (EK.of_soft fun t => (SP.leaves t).toW.outdateBuiltProducts_keep rfl (SP.leaves t).found k) (fun s => L.bumpDefer s k)
      (fun st d _ => L.setStepState_preserves k st d) (fun s => L.detachAll_preserves _ s) (fun s => L.deleteHash s k))
    (L.toW.detach_preserves (by decide)) (L.deleteDetached_preserves deleteDetachedBase_EK) cfg r s res
    (callOK_trivial s r) ?_ hp h
  rintro k rfl
  exact hr

/-- `Guarded ReqOKE` (`Lemmas/Inv.lean`), written out as a recursion. -/
def HistOKE : KState → List (KConfig × Req) → Prop
  | _, [] => True
  | s, cr :: rest => ReqOKE s cr.2 ∧ HistOKE (s.step cr.1 cr.2) rest

theorem run_EK (h : List (KConfig × Req)) (s : KState) (hp : InvE s) (hh : HistOKE s h) : InvE (s.run h) :=
  run_of_step (fun s cr _ hh hp => ⟨step_of_exec hp fun res => exec_EK cr.1 cr.2 s res hh.1 hp, hh.2⟩) h s hp hh

/-- Sufficient for `HistOKE`, and true of the implementation: `Step.reset_for_rerun` is a method of `Step`; the
scheduler calls it on the step it has just popped. -/
def ResetsNoFile (h : List (KConfig × Req)) : Prop := ∀ cr ∈ h, ∀ k, cr.2 = .resetRerun k → k.kind ≠ .file

theorem histOKE_of_resetsNoFile (h : List (KConfig × Req)) (hn : ResetsNoFile h) : ∀ s, HistOKE s h := by
  induction h with
  | nil => intro s; trivial
  | cons x xs ih =>
    intro s
    refine ⟨?_, ih (fun cr hcr => hn cr (List.mem_cons_of_mem _ hcr)) _⟩
    unfold ReqOKE
    split
    · exact resetOK_of_kind s (hn x List.mem_cons_self _ (by assumption))
    · trivial

open StepupModel.K.Own in
theorem creatorProduces_after_every_history (h : List (KConfig × Req)) (hg : HistOKE KState.init h) :
    CreatorProduces (KState.init.run h) := by
  refine creatorProduces_of_exists (depsUnique_after_every_history h) fun f hf hk _ hprod c hc => ?_
  obtain ⟨d, hd, hsrc, hsnk⟩ := (run_EK h KState.init invE_init hg).1 f hf hk (fun hx => hx) hprod c hc
  exact List.any_eq_true.2 ⟨d, hd, decide_eq_true ⟨hsrc, hsnk⟩⟩

open StepupModel.K.Own in
/-- (O5) after every history.  The three guards are those of the three parts: no `amend` addressed to a static
tree (`Ever.AmendsSteps`), the guard of I4 (`SuccOut.HistOKS`, the price of reading "no other producer" off
that invariant), `reset_for_rerun` not on a file with a dynamic creator edge (`HistOKE`). -/
theorem productsOwned_after_every_history (h : List (KConfig × Req)) (ha : AmendsSteps h)
    (hs : SuccOut.HistOKS KState.init h) (hg : HistOKE KState.init h) : ProductsOwned (KState.init.run h) :=
  productsOwned_of_parts (productByStep_after_every_history h ha) (producersAreCreator_after_every_history h hs)
    (creatorProduces_after_every_history h hg)

open StepupModel.K.Own in
/-- The third guard read off the requests alone. -/
theorem productsOwned_after_every_history' (h : List (KConfig × Req)) (ha : AmendsSteps h)
    (hs : SuccOut.HistOKS KState.init h) (hn : ResetsNoFile h) : ProductsOwned (KState.init.run h) :=
  productsOwned_after_every_history h ha hs (histOKE_of_resetsNoFile h hn _)

#print axioms exec_EK
#print axioms creatorProduces_after_every_history
#print axioms productsOwned_after_every_history
#print axioms productsOwned_after_every_history'

end StepupModel.K.OwnE
