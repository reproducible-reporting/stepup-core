import StepupModel.Lemmas.Build
import StepupModel.Lemmas.BuildKernel
/-!
# One build phase (`B/Build.lean`): dispatch is exact and wake-ups are not lost, in the composed system (C10)

`no_lost_wakeup`: whenever the loop is parked with a free slot and the scheduler is not draining, no step is
eligible on refreshed metadata, PROVIDED every event met while the loop is parked either keeps "no step is
eligible" or sets the wake event (`ProvisoAlong`).  The proviso holds by construction for every event kind except
two (`benign_wakesOrKeeps`): an RPC request whose handler does not set the wake event, and the end of a *promoted*
hash job that writes to the database.  For the second the statement without proviso is false
(`Lemmas/BuildWitness.lean`).  `ParkedQuiet` (under the proviso) and `ParkedBusy` (without) are instances of
`ParkedAnd Q`, an invariant for every `Q` that a pass that parks establishes and a parked event that leaves the
wake event clear keeps (`step_parkedAnd`).
-/
namespace StepupModel.B.Build
open StepupModel.K StepupModel.B.JobLoop

/-- **C10 forward, one event.**  An event that makes the loop start step job `i` is a pass of the loop in which
`pop_next_job`, not draining, chose a step that is eligible on refreshed metadata and set it CHECKING (recorded
hash) or RUNNING; `i` is the fresh job id that `_derive_job` records for it. -/
theorem start_is_dispatch (s : Sys) (e : Ev) (i : Nat)
    (h : (step s e).jl.started = s.jl.started ++ [.step i]) :
    ∃ key chk rj su n, e = .pass (some key) ∧ s.draining = false ∧
      s.k.popNext s.cfg (some key) = .ok ((step s e).k, .job key chk rj) ∧
      s.k.updateMeta s.cfg = .ok su ∧ n ∈ su.nodes ∧ n.key = key ∧ su.eligible s.cfg n = true ∧ chk = n.hasHash ∧
      su.setStepState key (if chk = true then .checking else .running) = .ok (step s e).k ∧
      i = s.assigned.length + 1 ∧ (step s e).assigned = s.assigned ++ [(i, key, chk)] := by
  rcases step_starts s e with ⟨h1, -⟩ | ⟨c, a, rfl, h1, hk⟩
  · exact nomatch List.append_cancel_left ((List.append_nil _).trans (h1.symm.trans h))
  · -- the observation fixes the branch of the pass, and the branch what the kernel was asked
    have ha : a.starts = [.step i] := List.append_cancel_left (h1.symm.trans h)
    obtain rfl : a = .step i := by cases a <;> cases ha <;> rfl
    obtain ⟨hi', hdr, key, chk, run, hpop, hasg⟩ := hk
    obtain ⟨su, n, hu, hn, hkey, hel, rfl, hchk, -, hw⟩ := popNext_job hpop
    exact ⟨key, chk, run, su, n, rfl, hdr, hpop, hu, hn, hkey, hel, hchk, hchk ▸ hw, hi', hasg⟩

/-- **C10 converse, one event.**  An event that ends the phase (`job_loop` returns; `njob ≥ 1` is enforced by
`ServeConfig`) is a pass of the loop, no task runs and none waits to be retired, and, unless the scheduler is
draining (then `pop_next_job` answers `None` without looking at the database), the kernel was asked with "no
row" and agreed: its state at the return is the refreshed one, no step is eligible in it, and it is a fixed
point of the refresh. -/
theorem return_is_quiescent (s : Sys) (e : Ev) (hn : 1 ≤ s.jl.njob) (h0 : s.jl.status ≠ .returned)
    (h1 : (step s e).jl.status = .returned) :
    ∃ c, e = .pass c ∧ (step s e).jl.running = [] ∧ (step s e).jl.done = [] ∧
      (s.draining = false → c = none ∧ s.k.updateMeta s.cfg = .ok (step s e).k ∧
        (∀ n ∈ (step s e).k.nodes, (step s e).k.eligible s.cfg n = false) ∧
        (step s e).k.updateMeta s.cfg = .ok (step s e).k) := by
  have hidle := step_retIdle s e (fun h => absurd h h0) h1
  unfold step at h1 ⊢
  obtain ⟨hkern, -, -, -, -, hstatus⟩ := unpark_frame (applyEv s e)
  rw [hstatus] at h1
  rw [hkern]
  rcases applyEv_cases s e with ⟨k', d, w, he⟩ | ⟨c, s', ctl, rfl, -, -, hi, he⟩ | ⟨je, k', p, he⟩
  · rw [he] at h1; exact absurd h1 h0
  · refine ⟨c, rfl, hidle.1, hidle.2, fun hdr => ?_⟩
    rw [he] at h1 ⊢
    rw [(land_frame s' ctl).1]
    have hst := iterK_status s s' c ctl hi
    cases ctl with
    | again | wait => exact absurd (hst ▸ h1 : s.jl.status = _) h0
    | raise => cases h1
    | ret =>
      obtain @⟨_, a, _, _, _, -, hp, -, -, -, -, hk⟩ := iterK_sim hi
      obtain rfl := hp.ret rfl hn
      obtain ⟨-, ⟨hd, -⟩ | ⟨-, hpop⟩⟩ := hk
      · exact nomatch hdr.symm.trans hd
      · obtain ⟨hc0, hu, hel, hfix, -, -⟩ := popNext_none_spec hpop
        exact ⟨hc0, hu, hel, hfix⟩
  · rw [he] at h1; exact absurd (apply_status_ret s.jl je h1) h0

theorem applyEv_parked (s : Sys) (e : Ev) (hpk : s.parked = true) (hst : s.jl.status = .waiting) :
    (applyEv s e).jl.status = .waiting ∧
    ((applyEv s e).jl.wake = false →
      (applyEv s e).jl.running = s.jl.running ∧ (applyEv s e).jl.done = s.jl.done ∧
      (applyEv s e).jl.njob = s.jl.njob ∧ ((applyEv s e).draining = false → s.draining = false)) := by
  have hdr : (applyEv s e).jl.draining = s.jl.draining → (applyEv s e).draining = false → s.draining = false := by
    intro hj h
    unfold Sys.draining at h ⊢
    rw [Bool.or_eq_false_iff] at h ⊢
    exact ⟨applyEv_drain_kept s e hst h.1, hj ▸ h.2⟩
  rcases applyEv_cases s e with ⟨k', d, w, he⟩ | ⟨c, s', ctl, -, -, hp, -, -⟩ | ⟨je, k', p, he⟩
  · rw [he] at hdr ⊢
    exact ⟨hst, fun _ => ⟨rfl, rfl, rfl, hdr rfl⟩⟩
  · rw [hpk] at hp; cases hp
  · obtain ⟨st, _, _, _, _, _, _, w, hs, h⟩ := apply_eq s.jl je
    -- a loop that has been entered is not entered again
    have hs' : st = .waiting := hs.elim (·.trans hst) fun h => by rw [hst] at h; exact h.2.1.elim nofun nofun
    rw [he]
    rcases h with h | ⟨_, _, -, -, -, rfl, h⟩ <;> rw [h]
    · exact ⟨hs', fun _ => ⟨rfl, rfl, rfl, id⟩⟩
    · exact ⟨hs', nofun⟩

theorem parked_only_by_wait (s : Sys) (e : Ev) (hpk : s.parked = false) (h : (applyEv s e).parked = true) :
    ∃ c s', e = .pass c ∧ s.jl.status = .waiting ∧ iterK s c = some (s', .wait) ∧
      applyEv s e = { s' with parked := true } := by
  have hd := does_applyEv s e
  generalize applyEv s e = t at hd h
  cases hd with
  | @pass c s' ctl hw _ hi =>
    obtain ⟨-, -, -, -, -, hp', -⟩ := iterK_sim hi
    rw [hpk] at hp'
    cases ctl with
    | wait => exact ⟨c, s', rfl, hw, hi, rfl⟩
    | again | ret | raise => exact absurd (hp'.symm.trans h) (by decide)
  | start => cases h
  | _ => exact absurd (hpk.symm.trans h) (by decide)

/-- The proviso of `no_lost_wakeup` on one event, in the state in which it happens. -/
def WakesOrKeeps (s : Sys) (e : Ev) : Prop :=
  NoEligible s.k s.cfg → NoEligible (applyEv s e).k s.cfg ∨ (applyEv s e).jl.wake = true

def ProvisoAlong : Sys → List Ev → Prop
  | _, [] => True
  | s, e :: rest => (s.parked = true → WakesOrKeeps s e) ∧ ProvisoAlong (step s e) rest

def ParkedAnd (Q : Sys → Prop) (s : Sys) : Prop :=
  s.parked = true → s.jl.wake = false ∧ s.jl.status = .waiting ∧ Q s

/-- The composed counterpart of `JobLoop.Parked`, with `NoEligible` on the kernel where that has `offers = []`. -/
def ParkedQuiet : Sys → Prop :=
  ParkedAnd fun s => s.jl.running.length < s.jl.njob → s.draining = false → NoEligible s.k s.cfg

def ParkedBusy : Sys → Prop := ParkedAnd fun s => s.jl.done = [] ∧ s.jl.running ≠ []

theorem step_parkedAnd {Q : Sys → Prop} (s : Sys) (e : Ev)
    (keep : s.parked = true → s.jl.status = .waiting → (applyEv s e).jl.wake = false → Q s → Q (applyEv s e))
    (wait : ∀ c s', iterK s c = some (s', .wait) → Q { s' with parked := true })
    (h : ParkedAnd Q s) : ParkedAnd Q (step s e) := by
  intro hp
  unfold step at hp ⊢
  obtain ⟨tp, tw, tu⟩ := unpark_parked _ hp
  rw [tu]
  by_cases hpk : s.parked = true
  · obtain ⟨-, b2, b3⟩ := h hpk
    exact ⟨tw, (applyEv_parked s e hpk b2).1, keep hpk b2 tw b3⟩
  · obtain ⟨c, s', rfl, hst, hi, he⟩ := parked_only_by_wait s e (by simpa using hpk) tp
    rw [he] at tw ⊢
    exact ⟨tw, (iterK_status s s' c .wait hi).trans hst, wait c s' hi⟩

theorem step_parkedBusy (s : Sys) (e : Ev) : ParkedBusy s → ParkedBusy (step s e) := by
  refine step_parkedAnd s e (fun hpk hst tw b => ?_) (fun c s' hi => ?_)
  · obtain ⟨q1, q2, -, -⟩ := (applyEv_parked s e hpk hst).2 tw
    exact ⟨q2.trans b.1, by rw [q1]; exact b.2⟩
  · obtain ⟨-, hpass, hj, -⟩ := iterK_sim hi
    exact ⟨hj ▸ (pass_wait_busy hpass rfl).1, hj ▸ (pass_wait_busy hpass rfl).2⟩

theorem step_parkedQuiet (s : Sys) (e : Ev) (hprov : s.parked = true → WakesOrKeeps s e) :
    ParkedQuiet s → ParkedQuiet (step s e) := by
  refine step_parkedAnd s e (fun hpk hst tw b hfree hdr => ?_) (fun c s' hi hfree hdr => ?_)
  · obtain ⟨q1, -, q3, q4⟩ := (applyEv_parked s e hpk hst).2 tw
    rw [q1, q3] at hfree
    rcases hprov hpk (b hfree (q4 hdr)) with hk | hw
    · rw [applyEv_cfg]; exact hk
    · rw [tw] at hw; cases hw
  · -- a pass that parks with a free slot has polled; it left `draining` alone, so the kernel answered "nothing"
    obtain @⟨_, a, jlr, _, _, -, hp, hj, hcfg, hdrn, -, hk⟩ := iterK_sim hi
    obtain rfl := hp.wait_free rfl (by rw [hj] at hfree; exact hfree)
    have hd : s.draining = false := by
      unfold Sys.draining at hdr ⊢
      rw [← hdrn, ← show s'.jl.draining = s.jl.draining by rw [hj]; exact pass_draining hp nofun]; exact hdr
    obtain ⟨-, ⟨hd', -⟩ | ⟨-, hpop⟩⟩ := hk
    · exact nomatch hd.symm.trans hd'
    · exact hcfg ▸ (popNext_none_spec hpop).2.2.2.2.2

theorem run_parkedQuiet (k0 : KState) (cfg : KConfig) (njob : Nat) (evs : List Ev)
    (hp : ProvisoAlong (init k0 cfg njob) evs) : ParkedQuiet (run k0 cfg njob evs) :=
  foldl_along (A := ProvisoAlong) (fun _ _ _ h => h.2) (fun s e _ h => step_parkedQuiet s e h.1) evs _ hp
    (fun h => nomatch h)

theorem run_parkedBusy (k0 : KState) (cfg : KConfig) (njob : Nat) (evs : List Ev) :
    ParkedBusy (run k0 cfg njob evs) :=
  run_inv k0 cfg njob evs (fun h => nomatch h) fun s e _ => step_parkedBusy s e

/-- **C10, no lost wake-up in the composed system.**  Along an event sequence in which every event that happens
while the loop is parked keeps "no step is eligible" or sets the wake event (`ProvisoAlong`; false without it, see
the head of the file): whenever the loop is parked, the wake event is clear, and if a job slot is free and the
scheduler is not draining, no step is eligible on refreshed metadata. -/
theorem no_lost_wakeup (k0 : KState) (cfg : KConfig) (njob : Nat) (evs : List Ev)
    (hp : ProvisoAlong (init k0 cfg njob) evs) (hpk : (run k0 cfg njob evs).parked = true) :
    (run k0 cfg njob evs).jl.wake = false ∧
    ((run k0 cfg njob evs).jl.running.length < njob → (run k0 cfg njob evs).draining = false →
      NoEligible (run k0 cfg njob evs).k cfg) := by
  obtain ⟨h1, -, h3⟩ := run_parkedQuiet k0 cfg njob evs hp hpk
  rw [(run_jobLimit k0 cfg njob evs).2, run_cfg] at h3
  exact ⟨h1, h3⟩

/-- The event kinds that need no kernel argument: everything except an RPC request whose handler does not
set the wake event and the end of a promoted hash job that writes to the database. -/
def Benign (s : Sys) : Ev → Prop
  | .rpc _ r => wakes r = true
  | .hashFin i r => s.jl.running.contains (.hash i) = true ∨ r = none
  | _ => True

theorem benign_wakesOrKeeps (s : Sys) (e : Ev) (hpk : s.parked = true) (hst : s.jl.status = .waiting)
    (hb : Benign s e) : WakesOrKeeps s e := by
  intro hne
  have hd := does_applyEv s e
  generalize applyEv s e = t at hd
  cases hd with
  | pass _ hp => rw [hpk] at hp; cases hp
  | rpc => exact .inr (if_pos hb ▸ rfl)
  | finish hc => exact .inr (fin_wake s.jl _ hc)
  | abort hc => exact .inr (moveDone_wake s.jl _ false hc)
  | hashWrite => exact .inr (fin_wake s.jl _ (hb.resolve_right nofun))
  | undrain h | external h => exact absurd hst h
  | _ => exact .inl hne

def NonBenignOK : Sys → List Ev → Prop
  | _, [] => True
  | s, e :: rest => (s.parked = true → Benign s e ∨ WakesOrKeeps s e) ∧ NonBenignOK (step s e) rest

theorem provisoAlong_of_nonBenignOK (evs : List Ev) : ∀ s : Sys, ParkedBusy s → NonBenignOK s evs → ProvisoAlong s evs := by
  induction evs with
  | nil => intro s _ _; trivial
  | cons e rest ih =>
    intro s hb h
    refine ⟨fun hpk => ?_, ih _ (step_parkedBusy s e hb) h.2⟩
    rcases h.1 hpk with hbn | hw
    · exact benign_wakesOrKeeps s e hpk (hb hpk).2.1 hbn
    · exact hw

/-- The end of any task in `running_tasks` (the final transaction of a step job, whatever it does and
whether or not it is accepted; the end of a hash job of the loop) takes a parked loop out of `wait()`. -/
theorem end_of_running_job_unparks (s : Sys) (hpk : s.parked = true) :
    (∀ j rs, Job.step j ∈ s.jl.running → (step s (.finish j rs)).parked = false) ∧
    (∀ i r, Job.hash i ∈ s.jl.running → (step s (.hashFin i r)).parked = false) := by
  constructor
  · intro j rs hj
    have hc : s.jl.running.contains (.step j) = true := List.contains_iff_mem.2 hj
    unfold step
    rw [show applyEv s (.finish j rs) = _ from if_pos hc]
    cases txn s.k s.cfg rs with
    | some k' => exact unpark_of_wake _ hpk (fin_wake s.jl (.step j) hc)
    | none => exact unpark_of_wake _ hpk (moveDone_wake s.jl (.step j) false hc)
  · intro i r hi
    have hc : s.jl.running.contains (.hash i) = true := List.contains_iff_mem.2 hi
    unfold step
    rw [show applyEv s (.hashFin i r) = _ from if_pos (.inl hc)]
    exact unpark_of_wake _ hpk (fin_wake s.jl (.hash i) hc)

end StepupModel.B.Build
