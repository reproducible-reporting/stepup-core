import StepupModel.P.Pending
import StepupModel.Lemmas.Cond
/-!
# Lemmas about the attribution model (`P/Pending.lean`), in its order

The heart is the analysis of the `UNION ALL` walk: when `pend_blocker` has one row per step
(its primary key, `UniqueDst`), a step is produced at level `n` exactly when following the primary blockers
upwards from it reaches a root after exactly `n` hops (`mem_level`).  That makes the levels
pairwise disjoint and duplicate free, bounds their number by the number of steps, and so gives
termination without any assumption on cycles.  `walk_spec` says all that the properties use of the walk.
-/
namespace StepupModel.P.Pending
open StepupModel.Generated.Report

theorem dedup_cons {α} [DecidableEq α] (y : α) (ys : List α) :
    dedup (y :: ys) = if y ∈ dedup ys then dedup ys else y :: dedup ys := rfl

theorem mem_dedup {α} [DecidableEq α] (l : List α) (x : α) : x ∈ dedup l ↔ x ∈ l := by
  induction l with
  | nil => exact Iff.rfl
  | cons y ys ih =>
    rw [dedup_cons, List.mem_cons, ← ih]
    split
    · exact ⟨Or.inr, fun h => h.elim (fun e => e ▸ ‹y ∈ dedup ys›) id⟩
    · exact List.mem_cons

theorem nodup_dedup {α} [DecidableEq α] (l : List α) : (dedup l).Nodup := by
  induction l with
  | nil => exact List.nodup_nil
  | cons y ys ih =>
    rw [dedup_cons]
    split
    · exact ih
    · exact List.nodup_cons.mpr ⟨‹_›, ih⟩

/-- The candidates point into the universe (what the joins with `pend_step` guarantee). -/
def WF (b : Base) : Prop :=
  b.ids.Nodup ∧ (∀ fb ∈ b.fileBlock, fb.2 ∈ b.ids) ∧ (∀ r ∈ b.resBlock, r.step ∈ b.ids) ∧
    (∀ u ∈ b.unsafeAnc, u.dst ∈ b.ids)

theorem stepBlock_dst (b : Base) (hw : WF b) : ∀ e ∈ stepBlock b, e.2 ∈ b.ids := by
  intro e he
  unfold stepBlock at he
  have := (mem_dedup _ _).mp he
  rcases List.mem_append.mp this with h | h
  · obtain ⟨fb, hfb, hin⟩ := List.mem_flatMap.mp h
    obtain ⟨p, _, rfl⟩ := List.mem_map.mp hin
    exact hw.2.1 fb hfb
  · obtain ⟨u, hu, rfl⟩ := List.mem_map.mp h
    exact hw.2.2.2 u (List.mem_filter.mp hu).1

/-- The root kinds in priority order (regenerated values). -/
def rootKinds : List Nat := [rootFile, rootResource, rootFailed, rootDeferred, rootOther, rootRunnable]

theorem cands_spec (b : Base) :
    ∀ c ∈ cands b, (c.kind ∈ rootKinds ∨ c.kind = blockStep) ∧ (WF b → c.dst ∈ b.ids) := by
  intro c hc
  unfold cands at hc
  simp only [List.mem_append, List.mem_flatMap, List.mem_map, List.mem_filter] at hc
  rcases hc with (((((⟨fb, hfb, df, _, rfl⟩ | ⟨r, hr, rfl⟩) | ⟨fb, hfb, p, _, rfl⟩) | ⟨u, ⟨hu, _⟩, rfl⟩) |
    ⟨s, ⟨hs, _⟩, rfl⟩) | ⟨u, ⟨hu, _⟩, rfl⟩) | ⟨e, he, rfl⟩
  · exact ⟨.inl (show rootFile ∈ rootKinds by decide), fun hw => hw.2.1 fb hfb⟩
  · exact ⟨.inl (show rootResource ∈ rootKinds by decide), fun hw => hw.2.2.1 r hr⟩
  · exact ⟨.inl (show rootFailed ∈ rootKinds by decide), fun hw => hw.2.1 fb hfb⟩
  · exact ⟨.inl (show rootFailed ∈ rootKinds by decide), fun hw => hw.2.2.2 u hu⟩
  · exact ⟨.inl (show rootDeferred ∈ rootKinds by decide), fun _ => List.mem_map_of_mem hs⟩
  · exact ⟨.inl (show rootOther ∈ rootKinds by decide), fun hw => hw.2.2.2 u hu⟩
  · exact ⟨.inr rfl, fun hw => stepBlock_dst b hw e he⟩

theorem cands_dst (b : Base) (hw : WF b) : ∀ c ∈ cands b, c.dst ∈ b.ids :=
  fun c hc => (cands_spec b c hc).2 hw

theorem before_iff (a c : Cand) : a.before c = true ↔
    a.kind < c.kind ∨ (a.kind = c.kind ∧ (a.label < c.label ∨ (a.label = c.label ∧ a.src < c.src))) := by
  simp [Cand.before]

theorem before_irrefl (a : Cand) : a.before a = false := by
  apply Bool.eq_false_iff.mpr
  rw [ne_eq, before_iff]
  rintro (h | ⟨_, h | ⟨_, h⟩⟩)
  · omega
  · exact String.lt_irrefl _ h
  · omega

theorem before_trans {a b c : Cand} (h1 : a.before b = true) (h2 : b.before c = true) : a.before c = true := by
  rw [before_iff] at *
  rcases h1 with h1 | ⟨k1, h1⟩
  · rcases h2 with h2 | ⟨k2, _⟩
    · exact Or.inl (by omega)
    · exact Or.inl (by omega)
  · rcases h2 with h2 | ⟨k2, h2⟩
    · exact Or.inl (by omega)
    · refine Or.inr ⟨k1.trans k2, ?_⟩
      rcases h1 with h1 | ⟨l1, h1⟩
      · rcases h2 with h2 | ⟨l2, _⟩
        · exact Or.inl (String.lt_trans h1 h2)
        · exact Or.inl (l2 ▸ h1)
      · rcases h2 with h2 | ⟨l2, h2⟩
        · exact Or.inl (l1 ▸ h2)
        · exact Or.inr ⟨l1.trans l2, by omega⟩

theorem pick_cons (c : Cand) (cs : List Cand) :
    pick (c :: cs) = match pick cs with
      | none => some c
      | some a => if c.before a then some c else some a := rfl

theorem pick_eq_none {l : List Cand} : pick l = none ↔ l = [] := by
  cases l with
  | nil => exact ⟨fun _ => rfl, fun _ => rfl⟩
  | cons c cs =>
    rw [pick_cons]
    refine ⟨fun h => ?_, nofun⟩
    split at h
    · cases h
    · split at h <;> cases h

theorem pick_spec : ∀ {l : List Cand} {c : Cand}, pick l = some c → c ∈ l ∧ ∀ a ∈ l, a.before c = false := by
  intro l
  induction l with
  | nil => nofun
  | cons x xs ih =>
    intro c h
    rw [pick_cons] at h
    split at h
    · cases h
      cases pick_eq_none.mp ‹_›
      exact ⟨List.mem_cons_self .., fun a ha => by cases List.mem_singleton.mp ha; exact before_irrefl _⟩
    · rename_i m hp
      obtain ⟨hm, hmin⟩ := ih hp
      split at h <;> cases h
      · refine ⟨List.mem_cons_self .., fun a ha => ?_⟩
        rcases List.mem_cons.mp ha with rfl | ha
        · exact before_irrefl _
        · exact Bool.eq_false_iff.mpr fun hax => Bool.false_ne_true ((hmin a ha).symm.trans (before_trans hax ‹_›))
      · refine ⟨List.mem_cons_of_mem _ hm, fun a ha => ?_⟩
        rcases List.mem_cons.mp ha with rfl | ha
        · exact Bool.eq_false_iff.mpr ‹_›
        · exact hmin a ha

/-- `pend_blocker` has `dst_step` as primary key. -/
def UniqueDst (B : List Blk) : Prop := (B.map (·.dst)).Nodup

theorem any_dst_iff (B : List Blk) (i : Nat) : B.any (·.dst = i) = true ↔ i ∈ B.map (·.dst) := by
  simp only [List.any_eq_true, List.mem_map, decide_eq_true_eq]

theorem primary_dst (cs : List Cand) : (primary cs).map (·.dst) = dsts cs := by
  refine map_filterMap_eq_self fun d hd => ?_
  obtain ⟨c, hc, rfl⟩ := List.mem_map.mp ((mem_dedup _ _).mp hd)
  cases hp : pick (cs.filter (·.dst = c.dst)) with
  | none => exact absurd (pick_eq_none.mp hp ▸ List.mem_filter.mpr ⟨hc, decide_eq_true rfl⟩) List.not_mem_nil
  | some m => exact ⟨_, rfl, rfl⟩

theorem mem_primary {cs : List Cand} {b : Blk} (hb : b ∈ primary cs) :
    ∃ c ∈ cs, c.dst = b.dst ∧ c.kind = b.kind ∧ c.src = b.src ∧ ∀ a ∈ cs, a.dst = b.dst → a.before c = false := by
  obtain ⟨d, _, hd⟩ := List.mem_filterMap.mp hb
  obtain ⟨c, hp, rfl⟩ := Option.map_eq_some_iff.mp hd
  obtain ⟨hc, hmin⟩ := pick_spec hp
  obtain ⟨hc1, hc2⟩ := List.mem_filter.mp hc
  exact ⟨c, hc1, of_decide_eq_true hc2, rfl, rfl,
    fun a ha had => hmin a (List.mem_filter.mpr ⟨ha, decide_eq_true had⟩)⟩

theorem mem_runnable {ids : List Nat} {prim : List Blk} {b : Blk} (hb : b ∈ runnable ids prim) :
    b.kind = rootRunnable ∧ b.src = b.dst ∧ b.dst ∈ ids ∧ b.dst ∉ prim.map (·.dst) := by
  obtain ⟨i, hi, rfl⟩ := List.mem_map.mp hb
  obtain ⟨hi, hn⟩ := List.mem_filter.mp hi
  refine ⟨rfl, rfl, hi, fun hm => ?_⟩
  rw [(any_dst_iff prim i).mpr hm] at hn
  cases hn

theorem pendBlocker_dst (ids : List Nat) (cs : List Cand) :
    (pendBlocker ids cs).map (·.dst) = dsts cs ++ ids.filter fun i => decide (i ∉ dsts cs) := by
  rw [pendBlocker, List.map_append, primary_dst, runnable, List.map_map]
  refine congrArg (dsts cs ++ ·) ((List.map_id' _).trans (List.filter_congr fun i _ => ?_))
  rw [← primary_dst, Bool.eq_iff_iff, Bool.not_eq_true', ← Bool.not_eq_true, any_dst_iff, decide_eq_true_iff]

theorem pendBlocker_unique {ids : List Nat} {cs : List Cand} (hids : ids.Nodup) (hsub : ∀ c ∈ cs, c.dst ∈ ids) :
    UniqueDst (pendBlocker ids cs) ∧ ∀ i, i ∈ (pendBlocker ids cs).map (·.dst) ↔ i ∈ ids := by
  rw [UniqueDst, pendBlocker_dst]
  constructor
  · refine List.nodup_append.mpr ⟨nodup_dedup _, hids.filter _, fun a ha b hb hab => ?_⟩
    exact of_decide_eq_true (List.mem_filter.mp hb).2 (hab ▸ ha)
  · intro i
    rw [List.mem_append, List.mem_filter, decide_eq_true_iff]
    constructor
    · rintro (h | h)
      · obtain ⟨c, hc, rfl⟩ := List.mem_map.mp ((mem_dedup _ _).mp h)
        exact hsub c hc
      · exact h.1
    · exact fun hi => (Classical.em (i ∈ dsts cs)).imp id fun hd => ⟨hi, hd⟩

def blockerOf (b : Base) : List Blk := pendBlocker b.ids (cands b)

theorem blockerOf_kind (b : Base) : ∀ x ∈ blockerOf b, x.kind ∈ rootKinds ∨ x.kind = blockStep := by
  intro x hx
  rcases List.mem_append.mp hx with hp | hr
  · obtain ⟨c, hc, _, hk, _⟩ := mem_primary hp
    exact hk ▸ (cands_spec b c hc).1
  · exact .inl ((mem_runnable hr).1 ▸ by decide)

def parent? (B : List Blk) (i : Nat) : Option Blk := B.find? (·.dst = i)

theorem mem_of_parent {B : List Blk} {i : Nat} {b : Blk} (h : parent? B i = some b) : b ∈ B ∧ b.dst = i :=
  ⟨List.mem_of_find?_eq_some h, of_decide_eq_true (List.find?_some (p := fun x : Blk => decide (x.dst = i)) h)⟩

theorem parent_of_mem {B : List Blk} (hB : UniqueDst B) {b : Blk} (hb : b ∈ B) : parent? B b.dst = some b :=
  find?_of_nodup_map (f := fun x : Blk => x.dst) hB hb

/-- Follow the primary blockers upwards from step `i`: `some root` when a root-kind blocker is
reached after exactly `n` step-to-step hops. -/
def climb (B : List Blk) : Nat → Nat → Option (Nat × Nat)
  | 0, i =>
    match parent? B i with
    | some b => if b.kind ≠ blockStep then some (b.kind, b.src) else none
    | none => none
  | n + 1, i =>
    match parent? B i with
    | some b => if b.kind = blockStep then climb B n b.src else none
    | none => none

theorem climb_zero_eq_some {B : List Blk} {i : Nat} {r : Nat × Nat} :
    climb B 0 i = some r ↔ ∃ b, parent? B i = some b ∧ b.kind ≠ blockStep ∧ (b.kind, b.src) = r := by
  rw [climb]
  cases parent? B i with
  | none => simp
  | some b => by_cases hk : b.kind = blockStep <;> simp [hk]

theorem climb_succ_eq_some {B : List Blk} {n i : Nat} {r : Nat × Nat} :
    climb B (n + 1) i = some r ↔ ∃ b, parent? B i = some b ∧ b.kind = blockStep ∧ climb B n b.src = some r := by
  rw [climb]
  cases parent? B i with
  | none => simp
  | some b => by_cases hk : b.kind = blockStep <;> simp [hk]

theorem climb_zero_succ {B : List Blk} {m i : Nat} {r r' : Nat × Nat} (h1 : climb B 0 i = some r)
    (h2 : climb B (m + 1) i = some r') : False := by
  obtain ⟨b, hp, hk, _⟩ := climb_zero_eq_some.mp h1
  obtain ⟨b', hp', hk', _⟩ := climb_succ_eq_some.mp h2
  cases hp.symm.trans hp'
  exact hk hk'

theorem climb_unique (B : List Blk) : ∀ (n m i : Nat) (r r' : Nat × Nat),
    climb B n i = some r → climb B m i = some r' → n = m := by
  intro n
  induction n with
  | zero =>
    intro m i r r' h1 h2
    cases m with
    | zero => rfl
    | succ m => exact (climb_zero_succ h1 h2).elim
  | succ n ih =>
    intro m i r r' h1 h2
    cases m with
    | zero => exact (climb_zero_succ h2 h1).elim
    | succ m =>
      obtain ⟨b, hp, _, hc⟩ := climb_succ_eq_some.mp h1
      obtain ⟨b', hp', _, hc'⟩ := climb_succ_eq_some.mp h2
      cases hp.symm.trans hp'
      exact congrArg (· + 1) (ih m _ _ _ hc hc')

theorem climb_root_row (B : List Blk) : ∀ (n i k r : Nat), climb B n i = some (k, r) →
    ∃ b ∈ B, b.kind = k ∧ b.src = r ∧ b.kind ≠ blockStep := by
  intro n
  induction n with
  | zero =>
    intro i k r h
    obtain ⟨b, hp, hk, he⟩ := climb_zero_eq_some.mp h
    cases he
    exact ⟨b, (mem_of_parent hp).1, rfl, rfl, hk⟩
  | succ n ih =>
    intro i k r h
    obtain ⟨b, _, _, hc⟩ := climb_succ_eq_some.mp h
    exact ih _ _ _ hc

theorem mem_seeds {B : List Blk} {w : WRow} :
    w ∈ seeds B ↔ ∃ b ∈ B, b.kind ≠ blockStep ∧ { i := b.dst, rk := b.kind, rid := b.src } = w := by
  simp only [seeds, List.mem_map, List.mem_filter, decide_eq_true_eq, and_assoc]

theorem mem_children {B : List Blk} {v w : WRow} :
    w ∈ children B v ↔ ∃ b ∈ B, b.kind = blockStep ∧ b.src = v.i ∧ { i := b.dst, rk := v.rk, rid := v.rid } = w := by
  simp only [children, List.mem_map, List.mem_filter, decide_eq_true_eq, and_assoc]

theorem mem_level {B : List Blk} (hB : UniqueDst B) : ∀ (n : Nat) (w : WRow),
    w ∈ level B n ↔ climb B n w.i = some (w.rk, w.rid) := by
  intro n
  induction n with
  | zero =>
    intro w
    rw [level, mem_seeds, climb_zero_eq_some]
    constructor
    · rintro ⟨b, hb, hk, rfl⟩
      exact ⟨b, parent_of_mem hB hb, hk, rfl⟩
    · rintro ⟨b, hp, hk, he⟩
      obtain ⟨hb, hd⟩ := mem_of_parent hp
      obtain ⟨i, rk, rid⟩ := w
      cases he
      cases hd
      exact ⟨b, hb, hk, rfl⟩
  | succ n ih =>
    intro w
    rw [level, next, List.mem_flatMap, climb_succ_eq_some]
    constructor
    · rintro ⟨v, hv, hw⟩
      obtain ⟨b, hb, hk, hs, rfl⟩ := mem_children.mp hw
      exact ⟨b, parent_of_mem hB hb, hk, hs ▸ (ih v).mp hv⟩
    · rintro ⟨b, hp, hk, hc⟩
      obtain ⟨hb, hd⟩ := mem_of_parent hp
      obtain ⟨i, rk, rid⟩ := w
      cases hd
      exact ⟨⟨b.src, rk, rid⟩, (ih _).mpr hc, mem_children.mpr ⟨b, hb, hk, rfl, rfl⟩⟩

theorem level_disjoint {B : List Blk} (hB : UniqueDst B) {n m : Nat} (hnm : n ≠ m) {x y : WRow}
    (hx : x ∈ level B n) (hy : y ∈ level B m) : x.i ≠ y.i := by
  intro h
  have h1 := (mem_level hB n x).mp hx
  rw [h] at h1
  exact hnm (climb_unique B n m y.i _ _ h1 ((mem_level hB m y).mp hy))

theorem level_pairwise {B : List Blk} (hB : UniqueDst B) : ∀ n, (level B n).Pairwise (fun a b => a.i ≠ b.i) := by
  have hBp : B.Pairwise (fun a b => a.dst ≠ b.dst) := List.pairwise_map.mp hB
  intro n
  induction n with
  | zero => exact List.pairwise_map.mpr (hBp.filter _)
  | succ n ih =>
    rw [level, next, List.pairwise_flatMap]
    refine ⟨fun v _ => List.pairwise_map.mpr (hBp.filter _), ih.imp ?_⟩
    intro v1 v2 hne x hx y hy hxy
    obtain ⟨b1, hb1, _, hs1, rfl⟩ := mem_children.mp hx
    obtain ⟨b2, hb2, _, hs2, rfl⟩ := mem_children.mp hy
    cases eq_of_nodup_map hB hb1 hb2 hxy
    exact hne (hs1.symm.trans hs2)

def levelsUpTo (B : List Blk) (k : Nat) : List WRow := (List.range k).flatMap (level B)

theorem levelsUpTo_ids_nodup {B : List Blk} (hB : UniqueDst B) (k : Nat) :
    ((levelsUpTo B k).map (·.i)).Nodup := by
  refine List.pairwise_map.mpr ?_
  rw [levelsUpTo, List.pairwise_flatMap]
  refine ⟨fun n _ => level_pairwise hB n, ?_⟩
  have : (List.range k).Pairwise (· ≠ ·) := List.nodup_range
  exact this.imp (fun hne x hx y hy => level_disjoint hB hne hx hy)

theorem levelsUpTo_ids_subset (B : List Blk) (k : Nat) : ∀ w ∈ levelsUpTo B k, w.i ∈ B.map (·.dst) := by
  intro w hw
  obtain ⟨n, _, hwn⟩ := List.mem_flatMap.mp hw
  cases n with
  | zero =>
    obtain ⟨b, hb, _, rfl⟩ := mem_seeds.mp hwn
    exact List.mem_map_of_mem hb
  | succ n =>
    obtain ⟨v, _, hv⟩ := List.mem_flatMap.mp hwn
    obtain ⟨b, hb, _, _, rfl⟩ := mem_children.mp hv
    exact List.mem_map_of_mem hb

theorem level_empty_of_le (B : List Blk) {n m : Nat} (h : level B n = []) (hnm : n ≤ m) : level B m = [] := by
  induction hnm with
  | refl => exact h
  | step _ ih => rw [level, ih]; rfl

theorem levels_from_empty (B : List Blk) (n j : Nat) (h : level B n = []) :
    (List.range' n j).flatMap (level B) = [] :=
  List.flatMap_eq_nil_iff.mpr fun _ hm => level_empty_of_le B h (List.mem_range'_1.mp hm).1

theorem levelsUpTo_succ (B : List Blk) (k : Nat) : levelsUpTo B (k + 1) = levelsUpTo B k ++ level B k := by
  rw [levelsUpTo, List.range_succ, List.flatMap_append, List.flatMap_singleton]
  rfl

theorem levelsUpTo_length_ge (B : List Blk) : ∀ k, (∀ n < k, level B n ≠ []) → k ≤ (levelsUpTo B k).length := by
  intro k
  induction k with
  | zero => intro _; exact Nat.zero_le _
  | succ k ih =>
    intro h
    have h1 := ih (fun n hn => h n (Nat.lt_succ_of_lt hn))
    have h2 : 0 < (level B k).length := List.length_pos_iff.mpr (h k (Nat.lt_succ_self k))
    rw [levelsUpTo_succ, List.length_append]
    omega

/-- Pigeonhole: `k` non-empty levels hold at least `k` rows, and the rows are of pairwise different steps of `B`. -/
theorem exists_empty_level {B : List Blk} (hB : UniqueDst B) : ∃ k, k ≤ B.length ∧ level B k = [] := by
  apply Classical.byContradiction
  intro hno
  have h1 := levelsUpTo_length_ge B (B.length + 1) (fun n hn he => hno ⟨n, Nat.le_of_lt_succ hn, he⟩)
  have h2 := (levelsUpTo_ids_nodup hB (B.length + 1)).length_le_of_subset (l₂ := B.map (·.dst)) (by
    intro x hx
    obtain ⟨w, hw, rfl⟩ := List.mem_map.mp hx
    exact levelsUpTo_ids_subset B _ w hw)
  rw [List.length_map, List.length_map] at h2
  omega

theorem walkFrom_nil (B : List Blk) (fuel : Nat) : walkFrom B fuel [] = some [] := by cases fuel <;> rfl

theorem walkFrom_level_succ (B : List Blk) (fuel n : Nat) (h : level B n ≠ []) :
    walkFrom B (fuel + 1) (level B n) = (walkFrom B fuel (level B (n + 1))).map (level B n ++ ·) := by
  rw [level]
  cases hl : level B n with
  | nil => exact absurd hl h
  | cons w ws => rfl

/-- The loop of the recursive CTE, started at level `n`, returns the rows of the levels `n, n+1, ..`
up to an empty one, provided the fuel covers them. -/
theorem walkFrom_levels (B : List Blk) : ∀ (fuel n j : Nat), j ≤ fuel → level B (n + j) = [] →
    walkFrom B fuel (level B n) = some ((List.range' n j).flatMap (level B)) := by
  intro fuel
  induction fuel with
  | zero =>
    intro n j hj he
    cases Nat.le_zero.mp hj
    rw [levels_from_empty B n 0 he, show level B n = [] from he, walkFrom_nil]
  | succ fuel ih =>
    intro n j hj he
    by_cases hl : level B n = []
    · rw [levels_from_empty B n j hl, hl, walkFrom_nil]
    · cases j with
      | zero => exact absurd he hl
      | succ j =>
        rw [walkFrom_level_succ B fuel n hl, ih (n + 1) j (by omega) (by rwa [Nat.add_assoc, Nat.add_comm 1 j]),
          List.range'_succ, List.flatMap_cons]
        rfl

/-- The walk terminates (within the fuel `|B| + 1`); it visits no step twice, only steps of the table, and a row
exactly when its step's chain of primary blockers ends in that root. -/
theorem walk_spec {B : List Blk} (hB : UniqueDst B) :
    ∃ rows, walk B = some rows ∧ (rows.map (·.i)).Nodup ∧ (∀ w ∈ rows, w.i ∈ B.map (·.dst)) ∧
      ∀ w, w ∈ rows ↔ ∃ n, climb B n w.i = some (w.rk, w.rid) := by
  obtain ⟨k, hk, he⟩ := exists_empty_level hB
  refine ⟨levelsUpTo B k, ?_, levelsUpTo_ids_nodup hB k, levelsUpTo_ids_subset B k, fun w => ?_⟩
  · rw [levelsUpTo, List.range_eq_range']
    exact walkFrom_levels B (B.length + 1) 0 k (by omega) (by rwa [Nat.zero_add])
  · rw [levelsUpTo, List.mem_flatMap]
    constructor
    · rintro ⟨n, _, hn⟩; exact ⟨n, (mem_level hB n w).mp hn⟩
    · rintro ⟨n, hn⟩
      have hmem := (mem_level hB n w).mpr hn
      refine ⟨n, List.mem_range.mpr (Decidable.by_contra fun hge => ?_), hmem⟩
      rw [level_empty_of_le B he (Nat.le_of_not_lt hge)] at hmem
      cases hmem

/-- The same of the walk's result under any name. -/
theorem walk_spec_of {B : List Blk} (hB : UniqueDst B) {rows : List WRow} (h : walk B = some rows) :
    (rows.map (·.i)).Nodup ∧ (∀ w ∈ rows, w.i ∈ B.map (·.dst)) ∧
      ∀ w, w ∈ rows ↔ ∃ n, climb B n w.i = some (w.rk, w.rid) := by
  obtain ⟨rows', h', r⟩ := walk_spec hB
  cases h.symm.trans h'
  exact r

theorem total_cons (w : WRow) (ws : List WRow) (k : Nat) :
    total (w :: ws) k = (if w.rk = k then 1 else 0) + total ws k := by
  rw [total, total, List.filter_cons]
  simp only [decide_eq_true_eq]
  split <;> simp <;> omega

/-- Grouping the attributed steps by root kind loses none: the per-kind totals
(`attributed_totals`) add up to the number of attributed steps, for any duplicate free list of kinds
that covers the kinds that occur. -/
theorem totals_add_up (rows : List WRow) (ks : List Nat) (hnd : ks.Nodup) (hcov : ∀ w ∈ rows, w.rk ∈ ks) :
    (ks.map (total rows)).sum = rows.length := by
  induction rows with
  | nil => show (ks.map fun _ => 0).sum = 0; rw [List.map_const', List.sum_replicate_nat]; rfl
  | cons w ws ih =>
    rw [funext (total_cons w ws), sum_map_add_indicator, hnd.count, if_pos (hcov w (List.mem_cons_self ..)),
      ih (fun v hv => hcov v (List.mem_cons_of_mem _ hv)), List.length_cons, Nat.add_comm]

theorem sum_insertBy {α} (lt : α → α → Bool) (f : α → Nat) (x : α) (l : List α) :
    ((insertBy lt x l).map f).sum = f x + (l.map f).sum := by
  induction l with
  | nil => simp [insertBy]
  | cons y ys ih =>
    simp only [insertBy]
    split
    · simp only [List.map_cons, List.sum_cons, ih]; omega
    · simp

theorem sum_sortBy {α} (lt : α → α → Bool) (f : α → Nat) (l : List α) :
    ((sortBy lt l).map f).sum = (l.map f).sum := by
  induction l with
  | nil => simp [sortBy]
  | cons x xs ih =>
    have : sortBy lt (x :: xs) = insertBy lt x (sortBy lt xs) := rfl
    rw [this, sum_insertBy, ih]
    simp

end StepupModel.P.Pending
