import StepupModel.Lemmas.MetaSafe
import StepupModel.Lemmas.MetaAfter
import StepupModel.Lemmas.ReachAcy
/-!
# `_update_meta_safe` in the pipeline of `pop_next_job` and in reachable states

Continues `Lemmas/MetaSafe.lean` (same namespace).  The two later stages of `KState.updateMeta` (the three refreshes
at the head of `Scheduler.pop_next_job`) do not write what
the safe columns depend on (a `RowMap safeView`), so the conclusions of `updateMetaSafe_spec` hold for the state on
which `SELECT_NEXT_STEP` runs (`updateMeta_safe_correct`, `popNext_job_creators`).  Reachable states: the walks of
`FILL_SAFE_UPDATE` start at attached and detached steps alike, and `CreatorAcyclic` (`Lemmas/ReachAcy.lean`, after every
history; it needs the guard of `Node.reattach`) covers the creator links of all rows, so `stepCreatorWF_reachable` is
`stepCreatorWF_of_acyclic` applied to it.  `stepCreatorWF_of_forest` is a result of its own: `Forest` and `AttachedWF`
(`Lemmas/Reach.lean`) cover the links among attached rows only, and together with `DetachedStepWF` they give the whole.
-/
namespace StepupModel.K.MetaSafe

theorem updateMeta_struct {s su : KState} {cfg : KConfig} (h : s.updateMeta cfg = .ok su) : RowMap structView s su :=
  (updateMeta_rowMap h).mono (.of_blind _ fun _ => rfl)

theorem updateMeta_safe_correct {s su : KState} {cfg : KConfig} (hk : KeysUnique s) (hwf : StepCreatorWF s)
    (hc : CacheInvSafeW s) (h : s.updateMeta cfg = .ok su) :
    SafeConsistent su ∧ StepCreatorWF su ∧ KeysUnique su ∧
      (∀ n ∈ su.nodes, n.key.kind = .step → n.safe = safeSpec su n ∧ n.safeNH = safeNHSpec su n) := by
  have hst := updateMeta_struct h
  obtain ⟨s1, s2, h1, h2, rfl⟩ := updateMeta_ok h
  have hcons := rowMap_safeConsistent
    (((updateMetaAfter_rowMap h2).mono (.of_blind _ fun _ => rfl)).trans ((updateMetaReady_rowMap s2).mono (.of_blind _ fun _ => rfl)))
    (updateMetaSafe_correct hk (noSelfStep_of_wf hwf) hc h1)
  have hwf' := rowMap_stepCreatorWF hst hwf
  exact ⟨hcons, hwf', keysUnique_struct hst.nodes hk, safeConsistent_unique hwf' hcons⟩

theorem updateMeta_no_hang {s : KState} (cfg : KConfig) (hk : KeysUnique s) (hwf : StepCreatorWF s)
    (hac : Acyclic s) : ∃ su, s.updateMeta cfg = .ok su := by
  obtain ⟨s1, h1⟩ := updateMetaSafe_no_hang hk hwf
  exact MetaAfter.updateMeta_no_after_hang s s1 cfg hac h1

/-- A step handed out by `pop_next_job` has every recursive step creator RUNNING or SUCCEEDED and holding
nothing; or it has a recorded hash (the job only checks it: `checking = true`) and every recursive
step creator is RUNNING or SUCCEEDED.  The creators are those of the state right after
`updateMeta`, which has the creator links, states and hold counters of the state before. -/
theorem popNext_job_creators {s s' : KState} {cfg : KConfig} {k : Key} {d : Dispatch}
    (hk : KeysUnique s) (hwf : StepCreatorWF s) (hc : CacheInvSafeW s)
    (h : s.popNext cfg (some k) = .ok (s', d)) :
    ∃ su n, s.updateMeta cfg = .ok su ∧ RowMap structView s su ∧ n ∈ su.nodes ∧ n.key = k ∧
      ((∀ a, StrictAnc su a n → a.sstate.active = true ∧ a.holding = 0) ∨
       (n.hasHash = true ∧ (∃ run, d = .job k true run) ∧ ∀ a, StrictAnc su a n → a.sstate.active = true)) := by
  obtain ⟨su, hu, ⟨hcn, _⟩ | ⟨_, n, run, hk', hn, hkey, hel, _, _, hd⟩⟩ := popNext_ok h
  · cases hcn
  · cases hk'
    obtain ⟨hcons, hwf', _, _⟩ := updateMeta_safe_correct hk hwf hc hu
    refine ⟨su, n, hu, updateMeta_struct hu, hn, hkey, ?_⟩
    rcases eligible_creators hwf' hcons hn hel with h3 | ⟨hh, h3⟩
    · exact .inl h3
    · exact .inr ⟨hh, ⟨run, by rw [hd, hh]⟩, h3⟩

/-- The step-creator links among detached steps have no cycle: the half that `AttachedWF` (`Lemmas/Reach.lean`)
leaves open (`detachedStepWF_reachable`). -/
def DetachedStepWF (s : KState) : Prop :=
  WellFounded fun c k => StepLink s c k ∧ ∃ n ∈ s.nodes, n.key = k ∧ n.detached = true

/-- Attached and detached steps do not mix along creator links (`CreatorOK`), so the two halves give
the whole. -/
theorem stepCreatorWF_of_forest {s : KState} (hf : Forest s) (ha : AttachedWF s) (hd : DetachedStepWF s) :
    StepCreatorWF s := by
  obtain ⟨hk0, _, _, hii, hiii⟩ := hf
  have hk : KeysUnique s := (keysNodup_iff s).1 hk0
  have link : ∀ {c k}, StepLink s c k →
      ∃ n cn, n ∈ s.nodes ∧ n.key = k ∧ k ≠ rootKey ∧ n.creator = some c ∧ cn ∈ s.nodes ∧ cn.key = c := by
    rintro c k ⟨n, cn, hn, hnk, hst, hsc, hck⟩
    obtain ⟨c1, _, c3⟩ := stepCreator_some hsc
    exact ⟨n, cn, hn, hnk, (fun he => by rw [he] at hst; cases hst), by rw [c3, hck], c1, hck⟩
  refine WellFounded.intro fun k => ?_
  by_cases hex : ∃ n ∈ s.nodes, n.key = k ∧ n.detached = true
  · -- a detached step has a detached creator
    refine Sk.acc_transfer (fun k => ∃ n ∈ s.nodes, n.key = k ∧ n.detached = true) (fun a b hb hl => ?_) (hd.apply k) hex
    obtain ⟨n, cn, hn, hnk, _, hcr, hcn, hck⟩ := link hl
    obtain ⟨m, hm, hmk, hmd⟩ := id hb
    cases eq_of_nodup_map hk hm hn (hmk.trans hnk.symm)
    exact ⟨⟨hl, hb⟩, cn, hcn, hck, hiii n hn hmd a hcr cn (hck ▸ find?_of_mem hk hcn)⟩
  · -- an attached step has an attached creator
    refine Sk.acc_transfer (fun k => ∀ n ∈ s.nodes, n.key = k → n.detached = false) (fun a b hb hl => ?_) (ha.apply k)
      fun n hn hnk => ?_
    · obtain ⟨n, cn, hn, hnk, hne, hcr, hcn, hck⟩ := link hl
      have hnd := hb n hn hnk
      refine ⟨⟨hne, n, hnk ▸ find?_of_mem hk hn, hnd, hcr⟩, fun m hm hmk => ?_⟩
      obtain ⟨c', cn', hc', hf', hcd⟩ := hii n hn (hnk ▸ hne) hnd
      cases hcr.symm.trans hc'
      cases eq_of_find hk hf' hm hmk
      exact hcd
    · cases hdn : n.detached with
      | false => rfl
      | true => exact absurd ⟨n, hn, hnk, hdn⟩ hex

theorem stepCreatorWF_of_acyclic {s : KState} (h : CreatorAcyclic s) : StepCreatorWF s := by
  refine Subrelation.wf ?_ h
  intro c k hl
  obtain ⟨n, cn, hn, hk, hst, hsc, hck⟩ := hl
  obtain ⟨_, _, h3⟩ := stepCreator_some hsc
  have hkr : k.kind ≠ Kind.root := by
    rw [hst]; intro hh; cases hh
  exact ⟨hkr, n, hn, hk, by rw [h3, hck]⟩

theorem stepCreatorWF_reachable (h : List (KConfig × Req)) : StepCreatorWF (KState.init.run h) :=
  stepCreatorWF_of_acyclic (creatorAcyclic_reachable h)

theorem detachedStepWF_reachable (h : List (KConfig × Req)) : DetachedStepWF (KState.init.run h) :=
  Subrelation.wf (fun {_ _} hl => hl.1) (stepCreatorWF_reachable h)

theorem updateMetaSafe_reachable_no_hang (h : List (KConfig × Req)) :
    ∃ s', (KState.init.run h).updateMetaSafe = .ok s' :=
  updateMetaSafe_no_hang (keysNodup_reachable h) (stepCreatorWF_reachable h)

theorem updateMetaSafe_reachable (h : List (KConfig × Req)) (hc : CacheInvSafeW (KState.init.run h)) :
    ∃ s', (KState.init.run h).updateMetaSafe = .ok s' ∧ SafeFrame (KState.init.run h) s' ∧
      (∀ n ∈ s'.nodes, n.key.kind = .step →
        n.checkSafe = false ∧ SafeLocal s' n ∧ SafeNHLocal s' n ∧ n.safe = safeSpec s' n ∧ n.safeNH = safeNHSpec s' n) := by
  have hwf := stepCreatorWF_reachable h
  have hk := keysNodup_reachable h
  obtain ⟨s', h1, h2, h3⟩ := updateMetaSafe_spec hk hwf hc
  have h4 := updateMetaSafe_eq_spec hk hwf hc h1
  refine ⟨s', h1, h2, fun n hn hst => ?_⟩
  obtain ⟨a, b, c⟩ := h3 n hn hst
  obtain ⟨d, e⟩ := h4 n hn hst
  exact ⟨a, b, c, d, e⟩

/-! Non-vacuity: the empty workflow. -/

example : ∃ s', (KState.init.run []).updateMetaSafe = .ok s' := updateMetaSafe_reachable_no_hang []

end StepupModel.K.MetaSafe
