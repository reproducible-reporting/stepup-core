import StepupModel.Lemmas.ReadyDisciplineLift
import StepupModel.Lemmas.OpCases
import StepupModel.Lemmas.StableInst
/-!
# The flag discipline of `_update_meta_ready`: definitions and the primitive writes

`CacheInvReady s`: every step (attached or not) whose `_check_ready` flag is down has its cached
`_ready` equal to the definition `computeReady` evaluated on the graph.  This file shows that every
primitive write of `K/Prim.lean`, taken with the triggers of the schema that raise `_check_ready`,
keeps it: the leaves `*_cir` (for `CacheInvReady`), each an instance of `cir_delta_rel` (whoever may read something new
is flagged), none of which needs one row per key: the instance `stableR_cir` of `StableR`.
-/
namespace StepupModel.K.ReadyDisc
open StepupModel.K StepupModel.Generated

/-- The flag discipline of the cached column `_ready`, over all steps (detached ones included: the
triggers do not look at the `detached` flag of the sink). -/
def CacheInvReady (s : KState) : Prop :=
  ∀ n ∈ s.nodes, n.key.kind = .step → n.checkReady = false → n.ready = s.computeReady n.key

/-- Executable form, for sampling in the driver. -/
def cacheInvReadyB (s : KState) : Bool :=
  s.nodes.all fun n => !(decide (n.key.kind = .step)) || n.checkReady || (n.ready == s.computeReady n.key)

theorem cacheInvReadyB_iff (s : KState) : cacheInvReadyB s = true ↔ CacheInvReady s := by
  unfold cacheInvReadyB CacheInvReady
  simp only [List.all_eq_true, Bool.or_eq_true, Bool.not_eq_true', decide_eq_false_iff_not, beq_iff_eq]
  constructor
  · intro h n hn hk hc
    rcases h n hn with (h1 | h1) | h1
    · exact absurd hk h1
    · rw [hc] at h1; cases h1
    · exact h1
  · intro h n hn
    by_cases hk : n.key.kind = .step
    · cases hc : n.checkReady with
      | true => exact .inl (.inr rfl)
      | false => exact .inr (h n hn hk hc)
    · exact .inl (.inl hk)

instance (s : KState) : Decidable (CacheInvReady s) := decidable_of_iff _ (cacheInvReadyB_iff s)

/-- The invariant that is carried through the histories: one row per key, and the discipline. -/
def RI (s : KState) : Prop := KeysNodup s ∧ CacheInvReady s

/-- Two states with the same edges and the same source rows as far as readiness reads them. -/
def SameGraph (s s' : KState) : Prop :=
  s'.deps = s.deps ∧ ∀ q, (s'.find? q).map view = (s.find? q).map view

theorem SameGraph.inputBlocks {s s' : KState} (h : SameGraph s s') (d : Dep) : s'.inputBlocks d = s.inputBlocks d :=
  inputBlocks_look (h.2 d.src)

theorem SameGraph.computeReady {s s' : KState} (h : SameGraph s s') (t : Key) : s'.computeReady t = s.computeReady t :=
  computeReady_look (by rw [h.1]) fun d _ _ => h.2 d.src

theorem cir_of_rel {s s' : KState}
    (h : ∀ n' ∈ s'.nodes, n'.key.kind = .step → n'.checkReady = false →
      (∃ n ∈ s.nodes, n.key = n'.key ∧ n.checkReady = false ∧ n.ready = n'.ready) ∧
        s'.computeReady n'.key = s.computeReady n'.key)
    (hc : CacheInvReady s) : CacheInvReady s' := by
  intro n' hn' hk hf
  obtain ⟨⟨n, hn, hkey, hfl, hr⟩, hcr⟩ := h n' hn' hk hf
  rw [← hr, hcr, ← hkey]
  exact hc n hn (hkey ▸ hk) hfl

/-- What the `_check_ready` triggers have to do.  Call a key *dirty* if what readiness reads in its row may have
changed, and *hit* if the edges that end in it may have changed.  The discipline survives a write after which every
unflagged step was an unflagged step with the same cached value, provided every step that is hit or reads a dirty
source is flagged afterwards.  (`step_file_check_ready_*`, `step_node_check_ready_detached` flag the sinks of the
dirty row, `step_dependency_check_*`, `dynamic_dep_check_ready_*` the hit sink; `*_trigger_needed` in
`Lemmas/ReadyDiscipline.lean`: each is needed.)  Other rows are read through `find?`, so one row per key is not needed. -/
theorem cir_delta_rel {s s' : KState} (Dirty Hit : Key → Prop)
    (hrow : ∀ n' ∈ s'.nodes, n'.key.kind = .step → n'.checkReady = false →
      ∃ n ∈ s.nodes, n.key = n'.key ∧ n.checkReady = false ∧ n.ready = n'.ready)
    (hlook : ∀ q, ¬ Dirty q → s'.look view q = s.look view q)
    (hedge : ∀ t, ¬ Hit t → s'.deps.filter (·.snk = t) = s.deps.filter (·.snk = t))
    (hflag : ∀ n' ∈ s'.nodes, n'.key.kind = .step → (Hit n'.key ∨ ∃ d ∈ s.deps, d.snk = n'.key ∧ Dirty d.src) →
      n'.checkReady = true)
    (hc : CacheInvReady s) : CacheInvReady s' :=
  cir_of_rel (fun n' hn' hstep hdown =>
    have stale := fun h => Bool.false_ne_true (hdown.symm.trans (hflag n' hn' hstep h))
    ⟨hrow n' hn' hstep hdown, computeReady_look (hedge n'.key fun h => stale (.inl h)) fun d hd ht =>
      hlook d.src fun h => stale (.inr ⟨d, hd, ht, h⟩)⟩) hc

theorem cir_delta {s s' : KState} (g : Node → Node) (Dirty Hit : Key → Prop) (hn : s'.nodes = s.nodes.map g)
    (hg : ∀ n ∈ s.nodes, (g n).key = n.key ∧ ((g n).checkReady = false → n.checkReady = false ∧ (g n).ready = n.ready))
    (hlook : ∀ q, ¬ Dirty q → s'.look view q = s.look view q)
    (hedge : ∀ t, ¬ Hit t → s'.deps.filter (·.snk = t) = s.deps.filter (·.snk = t))
    (hflag : ∀ n ∈ s.nodes, n.key.kind = .step → (Hit n.key ∨ ∃ d ∈ s.deps, d.snk = n.key ∧ Dirty d.src) →
      (g n).checkReady = true)
    (hc : CacheInvReady s) : CacheInvReady s' := by
  refine cir_delta_rel Dirty Hit (fun n' hn' _ hdown => ?_) hlook hedge (fun n' hn' hstep hh => ?_) hc <;>
    obtain ⟨n, hm, rfl⟩ := List.mem_map.1 (hn ▸ hn')
  · exact ⟨n, hm, (hg n hm).1.symm, ((hg n hm).2 hdown).1, ((hg n hm).2 hdown).2.symm⟩
  · rw [(hg n hm).1] at hstep hh
    exact hflag n hm hstep hh

/-- A rewrite that keeps key, state, `detached`, `_ready` and can only raise the flag. -/
def RaiseOnly (n n' : Node) : Prop :=
  n'.key = n.key ∧ n'.fstate = n.fstate ∧ n'.detached = n.detached ∧
    (n'.checkReady = false → n.checkReady = false ∧ n'.ready = n.ready)

theorem RaiseOnly.refl (n : Node) : RaiseOnly n n := ⟨rfl, rfl, rfl, fun h => ⟨h, rfl⟩⟩

theorem RaiseOnly.trans {a b c : Node} (h1 : RaiseOnly a b) (h2 : RaiseOnly b c) : RaiseOnly a c :=
  ⟨h2.1.trans h1.1, h2.2.1.trans h1.2.1, h2.2.2.1.trans h1.2.2.1,
    fun h => ⟨(h1.2.2.2 (h2.2.2.2 h).1).1, (h2.2.2.2 h).2.trans (h1.2.2.2 (h2.2.2.2 h).1).2⟩⟩

theorem RaiseOnly.ite {n n' : Node} (c : Prop) [Decidable c] (h : c → RaiseOnly n n') :
    RaiseOnly n (if c then n' else n) := by
  split
  · exact h ‹_›
  · exact RaiseOnly.refl n

theorem views_of_raiseOnly {s s' : KState} (g : Node → Node) (hn : s'.nodes = s.nodes.map g)
    (hg : ∀ n ∈ s.nodes, RaiseOnly n (g n)) (q : Key) : s'.look view q = s.look view q :=
  look_map g hn (fun n hm => (hg n hm).1) q fun n hm _ =>
    Prod.ext (hg n hm).2.1 (hg n hm).2.2.1

/-- Nothing is dirty, nothing is hit. -/
theorem cir_raise {s s' : KState} (g : Node → Node) (hn : s'.nodes = s.nodes.map g) (hd : s'.deps = s.deps)
    (hg : ∀ n ∈ s.nodes, RaiseOnly n (g n)) (hc : CacheInvReady s) : CacheInvReady s' :=
  cir_delta g (fun _ => False) (fun _ => False) hn (fun n hm => ⟨(hg n hm).1, (hg n hm).2.2.2⟩)
    (fun q _ => views_of_raiseOnly g hn hg q) (fun _ _ => by rw [hd])
    (fun _ _ _ h => (h.elim id fun ⟨_, _, _, h⟩ => h).elim) hc

theorem modifyWhere_nodes (s : KState) (p : Node → Bool) (f : Node → Node) :
    (s.modifyWhere p f).nodes = s.nodes.map (fun n => if p n then f n else n) := rfl

theorem modify_nodes (s : KState) (k : Key) (f : Node → Node) :
    (s.modify k f).nodes = s.nodes.map (fun n => if n.key = k then f n else n) := rfl

theorem flagReadySinks_raiseOnly (s : KState) (k : Key) (n : Node) :
    RaiseOnly n (if (decide (n.key.kind = .step ∧ (s.sinksOf k).contains n.key = true)) = true
      then { n with checkReady := true } else n) :=
  RaiseOnly.ite _ fun _ => ⟨rfl, rfl, rfl, fun h => nomatch h⟩

theorem flagDepEndpoints_raiseOnly (a b : Key) (n : Node) :
    RaiseOnly n (if (decide (n.key.kind = .step ∧ (n.key = a ∨ n.key = b))) = true
      then { n with checkAfter := true, checkReady := n.checkReady || decide (n.key = b) } else n) :=
  RaiseOnly.ite _ fun _ => ⟨rfl, rfl, rfl, fun h => ⟨(Bool.or_eq_false_iff.1 h).1, rfl⟩⟩

theorem flagDepEndpoints_cir (s : KState) (a b : Key) (hc : CacheInvReady s) : CacheInvReady (s.flagDepEndpoints a b) := by
  unfold KState.flagDepEndpoints
  exact cir_raise _ (modifyWhere_nodes s _ _) rfl (fun n _ => flagDepEndpoints_raiseOnly a b n) hc

theorem flagReadySinks_cir (s : KState) (k : Key) (hc : CacheInvReady s) : CacheInvReady (s.flagReadySinks k) := by
  unfold KState.flagReadySinks
  exact cir_raise _ (modifyWhere_nodes s _ _) rfl (fun n _ => flagReadySinks_raiseOnly s k n) hc

theorem cache_cir (s : KState) (p : Node → Bool) (f : Node → Node) (hf : ReadyNeutral f) (hc : CacheInvReady s) :
    CacheInvReady (s.modifyWhere p f) := by
  refine cir_raise _ (modifyWhere_nodes s p f) rfl (fun n _ => RaiseOnly.ite _ fun _ => ?_) hc
  have h := hf n
  exact ⟨congrArg (·.1) h, congrArg (·.2.1) h, congrArg (·.2.2.1) h,
    fun a => ⟨(congrArg (·.2.2.2.2) h).symm.trans a, congrArg (·.2.2.2.1) h⟩⟩

theorem flagSinks_cir {s s1 : KState} (k : Key) (hd : s1.deps = s.deps)
    (hrow : ∀ m ∈ s1.nodes, m.key.kind = .step → m.checkReady = false →
      ∃ n ∈ s.nodes, n.key = m.key ∧ n.checkReady = false ∧ n.ready = m.ready)
    (hv : ∀ q, q ≠ k → s1.look view q = s.look view q)
    (hc : CacheInvReady s) : CacheInvReady (s1.flagReadySinks k) := by
  have hnr := flagReadySinks_raiseOnly s1 k
  have hn := modifyWhere_nodes s1 (fun n => n.key.kind = .step ∧ (s1.sinksOf k).contains n.key) fun n =>
    { n with checkReady := true }
  refine cir_delta_rel (s := s) (· = k) (fun _ => False) (fun n' hn' hstep hdown => ?_)
    (fun q hq => (views_of_raiseOnly _ hn (fun n _ => hnr n) q).trans (hv q hq)) (fun _ _ => congrArg _ hd)
    (fun n' hn' hstep hh => ?_) hc <;> obtain ⟨m, hm, rfl⟩ := List.mem_map.1 (hn ▸ hn')
  · obtain ⟨hfl, hrd⟩ := (hnr m).2.2.2 hdown
    rw [(hnr m).1] at hstep ⊢
    obtain ⟨n, hnm, hnk, hnf, hnrd⟩ := hrow m hm hstep hfl
    exact ⟨n, hnm, hnk, hnf, hnrd.trans hrd.symm⟩
  · obtain ⟨d, hdm, ht, hdk⟩ := hh.resolve_left id
    rw [(hnr m).1] at hstep ht
    have hs : (s1.sinksOf k).contains m.key = true :=
      List.contains_iff_mem.2 (List.mem_map.2 ⟨d, List.mem_filter.2 ⟨hd ▸ hdm, decide_eq_true hdk⟩, ht⟩)
    rw [if_pos (decide_eq_true ⟨hstep, hs⟩)]

/-- The rows of `k` are rewritten, each into a row of `k` that, if unflagged, carries the cached value of an unflagged
row `n` of `k`: the row itself where `f` rewrites columns, the row found where `f` is constant. -/
def RowsFrom (s : KState) (k : Key) (f : Node → Node) : Prop :=
  ∀ m ∈ s.nodes, m.key = k → ∃ n ∈ s.nodes, n.key = k ∧ (f m).key = k ∧
    ((f m).checkReady = false → n.checkReady = false ∧ n.ready = (f m).ready)

theorem RowsFrom.const {s : KState} {k : Key} {n n' : Node} (hf : s.find? k = some n) (hk : n'.key = n.key)
    (h : n'.checkReady = false → n.checkReady = false ∧ n'.ready = n.ready) : RowsFrom s k fun _ => n' :=
  fun _ _ _ => ⟨n, find_mem hf, find_key hf, hk.trans (find_key hf), fun hd => ⟨(h hd).1, (h hd).2.symm⟩⟩

theorem RowsFrom.key {s : KState} {k : Key} {f : Node → Node} (h : RowsFrom s k f) :
    ∀ n ∈ s.nodes, (if n.key = k then f n else n).key = n.key := fun n hn =>
  ite_ind (fun m : Node => m.key = n.key) (fun hk => (h n hn hk).choose_spec.2.2.1.trans hk.symm) fun _ => rfl

theorem RowsFrom.hrow {s : KState} {k : Key} {f : Node → Node} (h : RowsFrom s k f) :
    ∀ m ∈ (s.modify k f).nodes, m.key.kind = .step → m.checkReady = false →
      ∃ n ∈ s.nodes, n.key = m.key ∧ n.checkReady = false ∧ n.ready = m.ready := by
  intro m' hm' _ hdown
  obtain ⟨m, hm, rfl⟩ := mem_modify hm'
  by_cases hk : m.key = k
  · rw [if_pos hk] at hdown ⊢
    obtain ⟨n, hn, hnk, hfk, hr⟩ := h m hm hk
    exact ⟨n, hn, hnk.trans hfk.symm, hr hdown⟩
  · rw [if_neg hk] at hdown ⊢; exact ⟨m, hm, rfl, hdown, rfl⟩

theorem rowChange_flag_cir {s : KState} {k : Key} {f : Node → Node} (hf : RowsFrom s k f) (hc : CacheInvReady s) :
    CacheInvReady ((s.modify k f).flagReadySinks k) :=
  flagSinks_cir (s := s) k rfl hf.hrow
    (fun q hq => look_map _ (modify_nodes s k f) hf.key q fun m _ hmq => by rw [if_neg (hmq ▸ hq)]) hc

theorem rowChange_same_cir {s : KState} {k : Key} {f : Node → Node} (hf : RowsFrom s k f)
    (hv : ∀ n, s.find? k = some n → view (f n) = view n) (hc : CacheInvReady s) : CacheInvReady (s.modify k f) :=
  cir_delta_rel (s := s) (fun _ => False) (fun _ => False) hf.hrow
    (fun q _ => look_map_found _ (modify_nodes s k f) hf.key q fun m hq =>
      ite_ind (fun x : Node => view x = view m) (fun hk => hv m (hk ▸ find_key hq ▸ hq)) fun _ => rfl)
    (fun _ _ => rfl) (fun _ _ _ h => (h.elim id fun ⟨_, _, _, h⟩ => h).elim) hc

theorem setDetachedRow_cir (s : KState) (k : Key) (d : Bool) (hc : CacheInvReady s) : CacheInvReady (s.setDetachedRow k d) := by
  have hf : RowsFrom s k fun n => { n with detached := d } := fun m hm hk => ⟨m, hm, hk, hk, fun h => ⟨h, rfl⟩⟩
  rcases setDetachedRow_cases s k d with ⟨_, e⟩ | ⟨n, hn, ⟨hd, e⟩ | ⟨_, e⟩⟩ <;> rw [e]
  · exact hc
  · exact rowChange_same_cir hf (fun m hm => by cases hn.symm.trans hm; exact Prod.ext rfl hd.symm) hc
  · exact rowChange_flag_cir hf hc

theorem writeFile_cir (k : Key) (st : FileState) (nh : Option (Option Nat)) :
    Preserves CacheInvReady (fun s => s.writeFile k st nh) := by
  intro s s' hc h
  obtain ⟨_, rfl⟩ | ⟨n, n', hf, hw, rfl⟩ := writeFile_ok h
  · exact hc
  cases fileRowWrite_eq hw
  split
  · exact rowChange_flag_cir (.const hf rfl fun h => ⟨h, rfl⟩) hc
  · rename_i hsame
    exact rowChange_same_cir (.const hf rfl fun h => ⟨h, rfl⟩)
      (fun m hm => by cases hf.symm.trans hm; exact Prod.ext (Decidable.not_not.1 hsame).symm rfl) hc

theorem stepRowWrite_nr {n n' : Node} {st : StepState} {d : Option Bool} (h : stepRowWrite n st d = .ok n') :
    RaiseOnly n n' := by
  cases stepRowWrite_eq h
  exact ⟨rfl, rfl, rfl, fun h => ⟨h, rfl⟩⟩

theorem stepWrite_cir (s : KState) (k : Key) (n n' : Node) (st : StepState) (d : Option Bool)
    (hf : s.find? k = some n) (hw : stepRowWrite n st d = .ok n') (hc : CacheInvReady s) :
    CacheInvReady (s.modify k fun _ => n') :=
  have h := stepRowWrite_nr hw
  rowChange_same_cir (.const hf h.1 h.2.2.2) (fun m hm => by cases hf.symm.trans hm; exact Prod.ext h.2.1 h.2.2.1) hc

theorem stepInit_cir (s : KState) (k : Key) (i : StepInit) (hc : CacheInvReady s) : CacheInvReady (s.initStepRow k i) :=
  rowChange_same_cir (fun m hm hk => ⟨m, hm, hk, hk, fun h => nomatch h⟩) (fun _ _ => rfl) hc

theorem appendNode_cir (s : KState) (k : Key) (c : Option Key) (hk : k.kind ≠ .file) (hf : s.find? k = none)
    (hc : CacheInvReady s) : CacheInvReady (s.appendNode k c) := by
  refine cir_of_rel (fun n' hn' hstep hflag => ?_) hc
  rcases List.mem_append.1 hn' with hm | hm
  · refine ⟨⟨n', hm, rfl, hflag, rfl⟩, computeReady_congr rfl fun d _ _ => ?_⟩
    by_cases hd : d.src = k
    · -- the new row is not a file: it blocks nothing, as the missing row did
      have hnew : (s.appendNode k c).find? k = some (newRow s k c) := by
        rw [find?_appendNode, hf, if_pos rfl]; rfl
      unfold KState.inputBlocks
      rw [hd, hnew, hf]
      exact Bool.and_eq_false_imp.2 fun h => absurd (of_decide_eq_true h) hk
    · exact inputBlocks_look (look_appendNode s k d.src c (Ne.symm hd))
  · cases List.mem_singleton.1 hm
    cases hflag

theorem freshFile_cir (s : KState) (k : Key) (c : Option Key) (st : FileState) (hf : s.find? k = none)
    (hc : CacheInvReady s) :
    CacheInvReady (((s.appendNode k c).modify k fun n => { n with fstate := st, fhash := none }).flagReadySinks k) := by
  have hnodes := modify_nodes (s.appendNode k c) k fun n => { n with fstate := st, fhash := none }
  refine flagSinks_cir (s := s) k rfl (fun m hm hstep hfl => ?_) (fun q hq => ?_) hc
  · obtain ⟨x, hx, rfl⟩ := List.mem_map.1 (hnodes ▸ hm)
    rcases List.mem_append.1 (show x ∈ s.nodes ++ [_] from hx) with hx | hx
    · rw [if_neg (key_ne_of_find?_none hf hx)] at hfl ⊢
      exact ⟨x, hx, rfl, hfl, rfl⟩
    · -- the new row is flagged from birth
      cases List.mem_singleton.1 hx
      rw [if_pos rfl] at hfl
      cases hfl
  · refine (look_map _ hnodes (fun n _ => by split <;> rfl) q fun n _ hnq => ?_).trans
      (look_appendNode s k q c (Ne.symm hq))
    rw [if_neg fun e => hq (hnq.symm.trans e)]

/-- `b` is hit and flagged. -/
theorem insertDep_cir (a b : Key) : Preserves CacheInvReady (fun s => s.insertDep a b) := by
  intro s s' hc h
  obtain ⟨_, _, rfl⟩ := insertDep_ok h
  have hnr := flagDepEndpoints_raiseOnly a b
  refine cir_delta (s := s) _ (fun _ => False) (· = b) (modifyWhere_nodes _ _ _) (fun n _ => ⟨(hnr n).1, (hnr n).2.2.2⟩)
    (fun q _ => views_of_raiseOnly (s := s) _ (modifyWhere_nodes _ _ _) (fun n _ => hnr n) q) (fun t ht => ?_)
    (fun n _ hstep hh => ?_) hc
  · show (s.deps ++ [_]).filter _ = _
    rw [List.filter_append, List.filter_cons_of_neg (by simpa using fun e : b = t => ht e.symm), List.filter_nil,
      List.append_nil]
  · have hb : n.key = b := hh.elim id fun ⟨_, _, _, h⟩ => h.elim
    rw [if_pos (decide_eq_true ⟨hstep, .inr hb⟩)]
    exact Bool.or_eq_true_iff.2 (.inr (decide_eq_true hb))

theorem foldl_flagDep_spec (gone : List Dep) (s0 : KState) :
    ∃ g : Node → Node, (gone.foldl (fun s d => s.flagDepEndpoints d.src d.snk) s0).nodes = s0.nodes.map g ∧
      (gone.foldl (fun s d => s.flagDepEndpoints d.src d.snk) s0).deps = s0.deps ∧ (∀ n, RaiseOnly n (g n)) ∧
      ∀ d ∈ gone, ∀ n, n.key.kind = .step → n.key = d.snk → (g n).checkReady = true := by
  induction gone generalizing s0 with
  | nil => exact ⟨id, (List.map_id _).symm, rfl, RaiseOnly.refl, fun _ h => (List.not_mem_nil h).elim⟩
  | cons d ds ih =>
    obtain ⟨g1, hn1, hd1, hnr1, hfl1⟩ := ih (s0.flagDepEndpoints d.src d.snk)
    let g0 : Node → Node := fun n =>
      if (decide (n.key.kind = .step ∧ (n.key = d.src ∨ n.key = d.snk))) = true
        then { n with checkAfter := true, checkReady := n.checkReady || decide (n.key = d.snk) } else n
    have hnr0 : ∀ n, RaiseOnly n (g0 n) := flagDepEndpoints_raiseOnly d.src d.snk
    refine ⟨fun n => g1 (g0 n), ?_, hd1, fun n => (hnr0 n).trans (hnr1 (g0 n)), ?_⟩
    · rw [List.foldl_cons, hn1]
      exact List.map_map
    · intro d' hd' n hstep hkey
      rcases List.mem_cons.1 hd' with rfl | hd'
      · -- flagged by this pass, and flags stay up
        have h0 : (g0 n).checkReady = true := by
          show (if _ then _ else n).checkReady = true
          rw [if_pos (decide_eq_true ⟨hstep, .inr hkey⟩)]
          exact Bool.or_eq_true_iff.2 (.inr (decide_eq_true hkey))
        exact Bool.of_not_eq_false fun hc => nomatch h0.symm.trans ((hnr1 (g0 n)).2.2.2 hc).1
      · exact hfl1 d' hd' (g0 n) (by rw [(hnr0 n).1]; exact hstep) (by rw [(hnr0 n).1]; exact hkey)

/-- The sinks of the deleted edges are hit and flagged. -/
theorem deleteDeps_cir (s : KState) (p : Dep → Bool) (hc : CacheInvReady s) : CacheInvReady (s.deleteDeps p) := by
  unfold KState.deleteDeps
  obtain ⟨g, hn, hd, hnr, hfl⟩ := foldl_flagDep_spec (s.deps.filter p) { s with deps := s.deps.filter fun d => !p d }
  refine cir_delta (s := s) g (fun _ => False) (fun t => ∃ d ∈ s.deps, p d = true ∧ d.snk = t) hn
    (fun n _ => ⟨(hnr n).1, (hnr n).2.2.2⟩) (fun q _ => views_of_raiseOnly (s := s) g hn (fun n _ => hnr n) q)
    (fun t ht => ?_)
    (fun n _ hstep hh => ?_) hc
  · rw [hd]
    show (s.deps.filter _).filter _ = _
    rw [List.filter_filter]
    refine List.filter_congr fun d hdm => ?_
    cases hpd : p d with
    | false => exact Bool.and_true _
    | true => simp [show d.snk ≠ t from fun e => ht ⟨d, hdm, hpd, e⟩]
  · obtain ⟨d, hdm, hpd, hsnk⟩ := hh.resolve_right fun ⟨_, _, _, h⟩ => h
    exact hfl d (List.mem_filter.2 ⟨hdm, hpd⟩) n hstep hsnk.symm

/-- `b` is hit and flagged. -/
theorem setDynamic_cir (s : KState) (a b : Key) (dyn : Bool) (hc : CacheInvReady s) : CacheInvReady (s.setDynamic a b dyn) := by
  have hnr : ∀ n : Node,
      RaiseOnly n (if n.key = b then (if n.key.kind = .step then { n with checkReady := true } else n) else n) :=
    fun n => RaiseOnly.ite _ fun _ => RaiseOnly.ite _ fun _ => ⟨rfl, rfl, rfl, fun h => nomatch h⟩
  refine cir_delta (s := s) _ (fun _ => False) (· = b) (modify_nodes _ b _) (fun n _ => ⟨(hnr n).1, (hnr n).2.2.2⟩)
    (fun q _ => views_of_raiseOnly (s := s) _ (modify_nodes _ b _) (fun n _ => hnr n) q) (fun t ht => ?_)
    (fun n _ hstep hh => ?_) hc
  · show (s.deps.map _).filter _ = _
    rw [List.filter_map, List.filter_congr (q := fun d => decide (d.snk = t)) fun d _ => by
      rw [Function.comp]; split <;> rfl]
    refine (List.map_congr_left fun d hd => ?_).trans (List.map_id _)
    exact if_neg fun h => ht ((of_decide_eq_true (List.mem_filter.1 hd).2).symm.trans h.2)
  · have hb : n.key = b := hh.elim id fun ⟨_, _, _, h⟩ => h.elim
    rw [if_pos hb, if_pos hstep]

/-- The removed key is dirty, and no edge leaves it. -/
theorem removeNode_cir (s : KState) (k : Key) (hsrc : ∀ d ∈ s.deps, d.src ≠ k) (hc : CacheInvReady s) :
    CacheInvReady { s with nodes := s.nodes.filter (·.key ≠ k) } :=
  cir_delta_rel (s := s) (· = k) (fun _ => False)
    (fun n' hn' _ hdown => ⟨n', (List.mem_filter.1 hn').1, rfl, hdown, rfl⟩)
    (fun q hq => look_filter rfl q hq) (fun _ _ => rfl)
    (fun _ _ _ hh => (hh.resolve_left id).elim fun d ⟨hd, _, hk⟩ => absurd hk (hsrc d hd)) hc

theorem updateMetaReady_sameGraph (s : KState) : SameGraph s s.updateMetaReady :=
  ⟨rfl, fun q => look_map _ (modifyWhere_nodes s _ _) (fun n _ => by split <;> rfl) q
    fun n _ _ => by split <;> rfl⟩

def ReadyExact (s : KState) : Prop :=
  ∀ n ∈ s.nodes, n.key.kind = .step → n.checkReady = false ∧ n.ready = s.computeReady n.key

theorem updateMetaReady_all {s : KState} (hc : CacheInvReady s) : ReadyExact s.updateMetaReady := by
  have hcr := (updateMetaReady_sameGraph s).computeReady
  intro n' hn' hstep
  obtain ⟨n, hm, rfl⟩ := mem_modifyWhere hn'
  by_cases hcond : (decide (n.key.kind = .step ∧ n.checkReady = true)) = true
  · rw [if_pos hcond] at hstep ⊢
    exact ⟨rfl, (hcr n.key).symm⟩
  · rw [if_neg hcond] at hstep ⊢
    have hfl : n.checkReady = false := Bool.eq_false_iff.2 fun h => hcond (decide_eq_true ⟨hstep, h⟩)
    exact ⟨hfl, (hc n hm hstep hfl).trans (hcr n.key).symm⟩

theorem stableR_cir : StableR CacheInvReady where
  cache := cache_cir
  setDetachedRow := setDetachedRow_cir
  writeFile := writeFile_cir
  freshFile := fun s k c st hf _ hp => freshFile_cir s k c st hf hp
  appendNode := fun s k c hk hf _ hp => appendNode_cir s k c hk hf hp
  stepWrite := stepWrite_cir
  stepInit := stepInit_cir
  insertDep := insertDep_cir
  deleteDeps := deleteDeps_cir
  setDynamic := setDynamic_cir
  removeNode := fun s k _ h2 hp => removeNode_cir s k h2 hp
  queue := fun _ _ hp => hp
  updateMetaReady := fun _ hp n hn hk _ => (updateMetaReady_all hp n hn hk).2

theorem ri_inv : ExecInv (fun _ _ => True) RI := fun cfg r s res hg hp h =>
  ⟨stable_keysNodup.toC.execInv' cfg r s res hg hp.1 h, stableR_cir.execInv cfg r s res hg hp.2 h⟩

theorem ri_init : RI KState.init := by
  refine ⟨init_keysNodup, ?_⟩
  intro n hn hs
  simp only [KState.init, List.mem_singleton] at hn
  subst hn
  cases hs

end StepupModel.K.ReadyDisc
