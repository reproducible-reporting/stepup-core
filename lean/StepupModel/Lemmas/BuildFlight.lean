import StepupModel.Lemmas.Build
import StepupModel.Lemmas.BuildKernel
/-!
# One build phase (`B/Build.lean`): the RUNNING steps are the steps of tasks in `running_tasks` (C12)

`applyEv_runs`: after a legal event (`Ev.legal`: none of its requests is `pop` or `setState _ RUNNING`) a RUNNING
row was RUNNING before, or is the row of the step the event dispatched (`Dispatched`).  Read on the log of
`_derive_job` alone this gives `run_kernelLink`.  Read on `running_tasks` too it gives `run_inFlightLink`, which
needs that the final transaction of every job is accepted and leaves the step of the job not RUNNING (`FinishOK`;
`finishOK_of_settling`: so it is when the transaction ends with `mark_completed` or `set_state(st ≠ RUNNING)` of
that step, as all endings of a job in `executor.py` do).  With `run_jobLimit` the steps whose command runs are
the steps of at most `njob` tasks.

`KernelLink`: every RUNNING row is the step of a job handed out in this phase to run a command; `InFlightLink`: of such
a job whose task is in `running_tasks`.  `FlightRows`, the converse (every such job has a RUNNING row), and
`OneJobPerStep` are not kept by the loop (`two_jobs_of_one_step`, `Lemmas/BuildWitness.lean`).
-/
namespace StepupModel.B.Build
open StepupModel.K StepupModel.K.Resources StepupModel.B.JobLoop

def Ev.legal : Ev → Prop
  | .rpc _ r => NoForeign r
  | .finish _ rs => ∀ r ∈ rs, NoForeign r
  | .hashFin _ (some r) => NoForeign r
  | .external r => NoForeign r
  | _ => True

instance : DecidablePred Ev.legal := fun e => by unfold Ev.legal; split <;> infer_instance

/-- The keys of the steps that `pop_next_job` has handed out in this phase as jobs that run a command. -/
def Sys.runKeys (s : Sys) (x : Key) : Prop := ∃ a ∈ s.assigned, a.2.1 = x ∧ a.2.2 = false

def KernelLink (s : Sys) : Prop := RunsIn s.runKeys s.k

theorem txn_runsIn {K : Key → Prop} (cfg : KConfig) (rs : List Req) : ∀ (k k' : KState), (∀ r ∈ rs, NoForeign r) →
    RunsIn K k → txn k cfg rs = some k' → RunsIn K k' := by
  induction rs with
  | nil => intro k k' _ hp h; simp only [txn, Option.some.injEq] at h; subst h; exact hp
  | cons r rest ih =>
    intro k k' hq hp h
    simp only [txn] at h
    split at h
    · rename_i k1 o he
      exact ih k1 k' (fun r hr => hq r (List.mem_cons_of_mem _ hr))
        (exec_runsIn cfg r k (k1, o) (hq r List.mem_cons_self) hp he) h
    · cases h

theorem applyEv_runsIn {K : Key → Prop} (s : Sys) (e : Ev) (hl : e.legal) (hne : ∀ c, e ≠ .pass c)
    (h : RunsIn K s.k) : RunsIn K (applyEv s e).k := by
  have hd := does_applyEv s e
  generalize applyEv s e = t at hd
  cases hd with
  | pass => exact absurd rfl (hne _)
  | rpc _ he => exact exec_runsIn s.cfg _ s.k _ hl h he
  | finish _ he => exact txn_runsIn s.cfg _ s.k _ hl h he
  | hashWrite | external => exact step_runsIn s.cfg _ s.k hl h
  | _ => exact h

/-- Between `s` and `t`, `_derive_job` created the job that runs the command of `x` and `start_task` put its task
in `running_tasks`. -/
def Dispatched (s t : Sys) (x : Key) : Prop :=
  t.assigned = s.assigned ++ [(s.assigned.length + 1, x, false)] ∧
  t.jl.running = s.jl.running ++ [.step (s.assigned.length + 1)]

theorem applyEv_assigned_mono (s : Sys) (e : Ev) : ∀ a ∈ s.assigned, a ∈ (applyEv s e).assigned := by
  intro a ha
  rcases applyEv_starts s e with ⟨-, h2⟩ | ⟨c, b, -, -, hk⟩
  · rw [h2]; exact ha
  · obtain ⟨l, hl⟩ := hk.assigned; rw [hl]; exact List.mem_append_left _ ha

theorem pass_runs {K : Key → Prop} {s s' : Sys} {c : Option Key} {ctl : Ctl} (hi : iterK s c = some (s', ctl))
    (h : RunsIn K s.k) : RunsIn (fun x => K x ∨ Dispatched s s' x) s'.k := by
  obtain @⟨_, a, _, _, _, -, hp, hj, -, -, -, hk⟩ := iterK_sim hi
  cases a with
  | step j =>
    obtain ⟨rfl, -, key, chk, run, hpop, hasg⟩ := hk
    obtain ⟨_, _, _, _, _, _, _, ej⟩ := iterK_jl hp hj
    refine runsIn_mono (fun x hx => hx.elim .inl fun ⟨run', hx⟩ => ?_) (popNext_runsIn hpop h)
    cases hx
    exact .inr ⟨hasg, by rw [ej]; rfl⟩
  | idle =>
    obtain ⟨-, ⟨-, hk⟩ | ⟨-, hpop⟩⟩ := hk
    · rw [hk]; exact runsIn_mono (fun _ => .inl) h
    · exact runsIn_mono (fun x hx => hx.elim .inl fun ⟨_, hx⟩ => nomatch hx) (popNext_runsIn hpop h)
  | raise | hash | full => rw [hk.1]; exact runsIn_mono (fun _ => .inl) h

theorem applyEv_runs {K : Key → Prop} (s : Sys) (e : Ev) (hl : e.legal) (h : RunsIn K s.k) :
    RunsIn (fun x => K x ∨ Dispatched s (applyEv s e) x) (applyEv s e).k := by
  have hd := does_applyEv s e
  by_cases hp : ∃ c, e = .pass c
  · obtain ⟨c, rfl⟩ := hp
    generalize applyEv s (.pass c) = t at hd
    cases hd with
    | skip => exact runsIn_mono (fun _ => .inl) h
    | @pass _ s' ctl _ _ hi =>
      obtain ⟨p, st, hl'⟩ := land_cases s' ctl
      rw [hl']
      show RunsIn (fun x => K x ∨ Dispatched s s' x) s'.k
      exact pass_runs hi h
  · exact runsIn_mono (fun _ => .inl) (applyEv_runsIn s e hl (fun c hc => hp ⟨c, hc⟩) h)

theorem applyEv_kernelLink (s : Sys) (e : Ev) (hl : e.legal) (h : KernelLink s) : KernelLink (applyEv s e) :=
  runsIn_mono (fun _ hx => hx.elim
      (fun ⟨a, ha, hx⟩ => ⟨a, applyEv_assigned_mono s e a ha, hx⟩)
      (fun hd => ⟨_, hd.1 ▸ List.mem_append_right _ (List.mem_singleton.2 rfl), rfl, rfl⟩))
    (applyEv_runs s e hl h)

/-- **C12, the commands that run (kernel side).**  From a kernel state in which no step is RUNNING (a fresh
project; any database after `reset_interrupted_steps`), every step whose row is RUNNING is the step of a job
that `pop_next_job` handed out in this phase to run its command. -/
theorem run_kernelLink (k0 : KState) (cfg : KConfig) (njob : Nat) (evs : List Ev)
    (h0 : ∀ n ∈ k0.nodes, runs n = false) (hl : ∀ e ∈ evs, e.legal) :
    KernelLink (run k0 cfg njob evs) :=
  run_inv k0 cfg njob evs (fun n hn hr => by rw [h0 n hn] at hr; cases hr) fun s e he h =>
    unpark_inv (fun _ _ _ h => h) _ (applyEv_kernelLink s e (hl e he) h)

def Sys.flightKeys (s : Sys) (x : Key) : Prop :=
  ∃ a ∈ s.assigned, a.2.1 = x ∧ a.2.2 = false ∧ Job.step a.1 ∈ s.jl.running

def InFlightLink (s : Sys) : Prop := RunsIn s.flightKeys s.k

/-- The converse of `InFlightLink`, over `Scheduler.jobs`.  NOT kept by `step`: a legal, accepted `define`
issued by a running job breaks it (`two_jobs_of_one_step` in `Lemmas/BuildWitness.lean`). -/
def FlightRows (s : Sys) : Prop :=
  ∀ a ∈ s.jobs, a.2.2 = false → Job.step a.1 ∈ s.jl.running → ∃ n ∈ s.k.nodes, n.key = a.2.1 ∧ runs n = true

/-- NOT kept by `step` either (same witness, one pass of the loop later). -/
def OneJobPerStep (s : Sys) : Prop :=
  ∀ a ∈ s.jobs, ∀ b ∈ s.jobs, Job.step a.1 ∈ s.jl.running → Job.step b.1 ∈ s.jl.running → a.2.1 = b.2.1 → a.1 = b.1

def FinishOK (s : Sys) : Ev → Prop
  | .finish j rs => s.jl.running.contains (.step j) = true →
      ∃ k', txn s.k s.cfg rs = some k' ∧ ∀ a ∈ s.assigned, a.1 = j → RunsIn (fun x => x ≠ a.2.1) k'
  | _ => True

theorem finishOK_of_settling (s : Sys) (j : Nat) (pre : List Req) (r : Req) (k' : KState)
    (hacc : txn s.k s.cfg (pre ++ [r]) = some k') (hs : ∀ a ∈ s.assigned, a.1 = j → Settling a.2.1 r) :
    FinishOK s (.finish j (pre ++ [r])) := by
  intro _
  refine ⟨k', hacc, fun a ha hj => ?_⟩
  obtain ⟨k1, o, -, he⟩ := txn_append s.cfg pre r s.k k' hacc
  exact exec_settles (hs a ha hj) he

theorem applyEv_keeps (s : Sys) (e : Ev) (x : Nat) (hne : ∀ rs, e ≠ .finish x rs)
    (hx : Job.step x ∈ s.jl.running) : Job.step x ∈ (applyEv s e).jl.running := by
  have hd := does_applyEv s e
  generalize applyEv s e = t at hd
  cases hd with
  | @pass c s' ctl _ _ hi =>
    obtain ⟨-, hpass, hj, -⟩ := iterK_sim hi
    obtain ⟨-, -, -, -, -, hrunning⟩ := land_frame s' ctl
    rw [hrunning, hj]
    exact pass_running_mono hpass _ hx
  | @rpc j r => cases wakes r <;> exact hx
  | @finish j rs => exact apply_keeps s.jl _ _ (fun h => hne rs (by cases h; rfl)) nofun hx
  | @abort j rs => exact apply_keeps s.jl _ _ nofun (fun h => hne rs (by cases h; rfl)) hx
  | submit | promote | hashEnd | hashWrite => exact apply_keeps s.jl _ _ nofun nofun hx
  | _ => exact hx

theorem applyEv_inFlight (s : Sys) (e : Ev) (hl : e.legal) (hf : FinishOK s e) (h : InFlightLink s) :
    InFlightLink (applyEv s e) := by
  intro n hn hr
  rcases applyEv_runs s e hl h n hn hr with ⟨a, ha, h1, h2, h3⟩ | hd
  · refine ⟨a, applyEv_assigned_mono s e a ha, h1, h2, applyEv_keeps s e _ (fun rs he => ?_) h3⟩
    -- the step of the job that ends is not RUNNING after its final transaction
    subst he
    have hc : s.jl.running.contains (.step a.1) = true := List.contains_iff_mem.2 h3
    obtain ⟨k1, hacc, hset⟩ := hf hc
    rw [show applyEv s (.finish a.1 rs) = _ from if_pos hc, hacc] at hn
    exact hset a ha rfl n hn hr h1.symm
  · exact ⟨_, hd.1 ▸ List.mem_append_right _ (List.mem_singleton.2 rfl), rfl, rfl,
      hd.2 ▸ List.mem_append_right _ (List.mem_singleton.2 rfl)⟩

theorem step_inFlight (s : Sys) (e : Ev) (hl : e.legal) (hf : FinishOK s e) (h : InFlightLink s) :
    InFlightLink (step s e) :=
  unpark_inv (fun _ _ _ h => h) _ (applyEv_inFlight s e hl hf h)

def FinishOKAlong : Sys → List Ev → Prop
  | _, [] => True
  | s, e :: rest => FinishOK s e ∧ FinishOKAlong (step s e) rest

/-- **C12, the commands that run are the commands of tasks in `running_tasks`.**  As `run_kernelLink`, if
every final transaction is accepted and leaves its step not RUNNING (`FinishOKAlong`): every step whose row is
RUNNING is the step of a job handed out to run its command whose task is in `running_tasks`, of which there are
at most `njob` (`run_jobLimit`). -/
theorem run_inFlightLink (k0 : KState) (cfg : KConfig) (njob : Nat) (evs : List Ev)
    (h0 : ∀ n ∈ k0.nodes, runs n = false) (hl : ∀ e ∈ evs, e.legal) (hf : FinishOKAlong (init k0 cfg njob) evs) :
    InFlightLink (run k0 cfg njob evs) :=
  foldl_along (A := fun s l => (∀ e ∈ l, e.legal) ∧ FinishOKAlong s l)
    (fun _ _ _ h => ⟨fun e he => h.1 e (List.mem_cons_of_mem _ he), h.2.2⟩)
    (fun s e _ h => step_inFlight s e (h.1 e List.mem_cons_self) h.2.1) evs _ ⟨hl, hf⟩
    (fun n hn hr => by rw [h0 n hn] at hr; cases hr)

end StepupModel.B.Build
