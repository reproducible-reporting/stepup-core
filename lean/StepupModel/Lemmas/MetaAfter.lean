import StepupModel.Lemmas.Acyclic
import StepupModel.Lemmas.StableInst
import StepupModel.Lemmas.MetaRowMap
import StepupModel.Lemmas.AfterLoop
import StepupModel.Lemmas.LocalView

/-!
# `_update_meta_after`: the worklist for `_implied_need` / `_tail_time` is correct

`AfterLocal`: the cached pair of a step equals `afterValues` now.  Two hops up is dual to two hops down
(`consumer_written_propagates`), which gives the loop invariant: outside the work set every attached step is
locally correct (`updateMetaAfter_correct_weak`).  Termination on acyclic tables: the work set of round `r` heads chains of `r + 1` rows.  A
solution of the local equations is unique on any table, because the tail time decreases along the consumer
relation; so incremental = from scratch as states, and `_implied_need` has a closed form
(`implied_closed_form`), from which "every dispatched job has a reason" (`popNext_job_has_reason_weak`).

The flag discipline is a hypothesis throughout: that the writers of the model flag every step whose
local equation they may break is a separate invariant (`Lemmas/Discipline*.lean`; `staleState` below shows what
a writer that does not flag leaves behind).  The strict form `CacheInvAfter` (every
unflagged attached step is locally correct) is false on ordinary histories: inserting an edge `f → use`
flags `use` but not the producer `gen` of `f`, whose local equation now mentions `use`.  The code is right
all the same, because the first round of the loop writes ALL work items and propagates from all of them,
so `gen` is in the second work set.  Every result is therefore proved under `CacheInvAfterW` (... or an
attached consumer is flagged) and the strict forms are corollaries.
-/
namespace StepupModel.K.MetaAfter

/-- The cached pair of one step equals what `UPDATE_CHECK_AFTER` would compute for it now. -/
def AfterLocal (s : KState) (cfg : KConfig) (n : Node) : Prop :=
  (n.impliedNeed, n.tail) = s.afterValues cfg n

def AfterConsistent (s : KState) (cfg : KConfig) : Prop :=
  ∀ n ∈ s.nodes, n.key.kind = .step → n.detached = false → AfterLocal s cfg n

def CacheInvAfter (s : KState) (cfg : KConfig) : Prop :=
  ∀ n ∈ s.nodes, n.key.kind = .step → n.detached = false → n.checkAfter = false → AfterLocal s cfg n

def CacheInvAfterW (s : KState) (cfg : KConfig) : Prop :=
  ∀ n ∈ s.nodes, n.key.kind = .step → n.detached = false → n.checkAfter = false →
    AfterLocal s cfg n ∨ ∃ m ∈ s.consumerSteps n.key, m.checkAfter = true

theorem cacheInvAfter_imp_weak {s : KState} {cfg : KConfig} (h : CacheInvAfter s cfg) : CacheInvAfterW s cfg :=
  fun n hn h1 h2 h3 => .inl (h n hn h1 h2 h3)

/-- One row per key: `MetaSafe.KeysUnique` has the same body, `KeysNodup` says it of `s.cores` (`keysNodup_iff`). -/
def KeysUnique (s : KState) : Prop := (s.nodes.map (·.key)).Nodup

instance (s : KState) : Decidable (KeysUnique s) := by unfold KeysUnique; exact inferInstance

/-- `SameView eraseAfter s s'` and the same edges, as one conjunction (what `RowMap.sameView` gives of a row map). -/
def AfterFrame (s s' : KState) : Prop :=
  s'.deps = s.deps ∧ s'.toBeDeleted = s.toBeDeleted ∧
  s'.nodes.map eraseAfter = s.nodes.map eraseAfter

theorem AfterFrame.refl (s : KState) : AfterFrame s s := ⟨rfl, rfl, rfl⟩

theorem AfterFrame.trans {a b c : KState} (h1 : AfterFrame a b) (h2 : AfterFrame b c) : AfterFrame a c :=
  ⟨h2.1.trans h1.1, h2.2.1.trans h1.2.1, h2.2.2.trans h1.2.2⟩

theorem AfterFrame.symm {a b : KState} (h : AfterFrame a b) : AfterFrame b a :=
  ⟨h.1.symm, h.2.1.symm, h.2.2.symm⟩

theorem eraseAfter_key {n m : Node} (h : eraseAfter n = eraseAfter m) : n.key = m.key :=
  show (eraseAfter n).key = (eraseAfter m).key from congrArg Node.key h
theorem eraseAfter_detached {n m : Node} (h : eraseAfter n = eraseAfter m) : n.detached = m.detached :=
  show (eraseAfter n).detached = (eraseAfter m).detached from congrArg Node.detached h
theorem eraseAfter_fstate {n m : Node} (h : eraseAfter n = eraseAfter m) : n.fstate = m.fstate :=
  show (eraseAfter n).fstate = (eraseAfter m).fstate from congrArg Node.fstate h
theorem eraseAfter_need {n m : Node} (h : eraseAfter n = eraseAfter m) : n.need = m.need :=
  show (eraseAfter n).need = (eraseAfter m).need from congrArg Node.need h

theorem eq_of_eraseAfter {n m : Node} (h : eraseAfter n = eraseAfter m) (h1 : n.impliedNeed = m.impliedNeed)
    (h2 : n.tail = m.tail) (h3 : n.checkAfter = m.checkAfter) : n = m :=
  calc n = { eraseAfter n with impliedNeed := n.impliedNeed, tail := n.tail, checkAfter := n.checkAfter } := rfl
    _ = { eraseAfter m with impliedNeed := m.impliedNeed, tail := m.tail, checkAfter := m.checkAfter } := by
      rw [h, h1, h2, h3]
    _ = m := rfl

theorem find?_frame_none {s s' : KState} (hf : AfterFrame s s') {k : Key} (h : s.find? k = none) :
    s'.find? k = none :=
  find?_none_of_view hf.2.2 (.of_blind _ fun _ => rfl) h

theorem keysUnique_frame {s s' : KState} (hf : AfterFrame s s') (hk : KeysUnique s) : KeysUnique s' :=
  nodup_keys_of_view hf.2.2 (.of_blind _ fun _ => rfl) hk

theorem _root_.StepupModel.K.RowMap.afterFrame {s s' : KState} (h : RowMap eraseAfter s s') : AfterFrame s s' :=
  ⟨h.deps, h.toBeDeleted, h.nodes⟩

def afterView (n : Node) : Key × Bool × FileState × Need := (n.key, n.detached, n.fstate, n.need)

theorem view_key {n m : Node} (h : afterView n = afterView m) : n.key = m.key := congrArg (·.1) h
theorem view_detached {n m : Node} (h : afterView n = afterView m) : n.detached = m.detached := congrArg (·.2.1) h
theorem view_fstate {n m : Node} (h : afterView n = afterView m) : n.fstate = m.fstate := congrArg (·.2.2.1) h
theorem view_need {n m : Node} (h : afterView n = afterView m) : n.need = m.need := congrArg (·.2.2.2) h

theorem eraseAfter_view {n m : Node} (h : eraseAfter n = eraseAfter m) : afterView n = afterView m :=
  show afterView (eraseAfter n) = afterView (eraseAfter m) from congrArg afterView h

theorem AfterFrame.view {s s' : KState} (h : AfterFrame s s') : s'.nodes.map afterView = s.nodes.map afterView :=
  map_eq_of_comp eraseAfter afterView h.2.2

section view
variable {s s' : KState} (hv : s'.nodes.map afterView = s.nodes.map afterView)
include hv

theorem find?_view_some {k : Key} {n : Node} (h : s.find? k = some n) :
    ∃ n', s'.find? k = some n' ∧ afterView n' = afterView n :=
  find?_some_of_view hv (.of_factor (·.1) fun _ => rfl) h

theorem find?_view_none {k : Key} (h : s.find? k = none) : s'.find? k = none :=
  find?_none_of_view hv (.of_factor (·.1) fun _ => rfl) h

end view

theorem sinksOf_deps {s s' : KState} (hd : s'.deps = s.deps) : s'.sinksOf = s.sinksOf := by
  funext k
  unfold KState.sinksOf
  rw [hd]

theorem regularOutputs_view {s s' : KState} (hd : s'.deps = s.deps)
    (hv : s'.nodes.map afterView = s.nodes.map afterView) (k : Key) : s'.regularOutputs k = s.regularOutputs k := by
  unfold KState.regularOutputs
  rw [sinksOf_deps hd]
  apply filterMap_congr'
  intro c _
  cases h : s.find? c with
  | none => rw [find?_view_none hv h]
  | some n =>
    obtain ⟨n', hn', he⟩ := find?_view_some hv h
    rw [hn']
    simp only [view_key he, view_fstate he, view_detached he]

theorem regularOutputs_frame {s s' : KState} (hf : AfterFrame s s') (k : Key) :
    s'.regularOutputs k = s.regularOutputs k := regularOutputs_view hf.1 hf.view k

/-- `mem_consumerSteps_iff` with the two edges read as members of `sinksOf`. -/
theorem mem_consumerSteps {s : KState} {k : Key} {m : Node} :
    m ∈ s.consumerSteps k ↔ ∃ f ∈ s.sinksOf k, ∃ c ∈ s.sinksOf f,
      s.find? c = some m ∧ m.key.kind = .step ∧ m.detached = false := by
  rw [mem_consumerSteps_iff]
  exact ⟨fun ⟨f, c, hf, hc, h⟩ => ⟨f, KState.mem_sinksOf.2 hf, c, KState.mem_sinksOf.2 hc, h⟩,
    fun ⟨f, hf, c, hc, h⟩ => ⟨f, c, KState.mem_sinksOf.1 hf, KState.mem_sinksOf.1 hc, h⟩⟩

theorem consumer_find {s : KState} {k : Key} {m : Node} (hm : m ∈ s.consumerSteps k) :
    s.find? m.key = some m ∧ m.key.kind = .step ∧ m.detached = false := by
  obtain ⟨f, c, _, _, hfm, h1, h2⟩ := mem_consumerSteps_iff.1 hm
  refine ⟨?_, h1, h2⟩
  rw [find_key hfm]
  exact hfm

theorem consumer_mem {s : KState} {k : Key} {m : Node} (hm : m ∈ s.consumerSteps k) :
    m ∈ s.nodes ∧ m.key.kind = .step ∧ m.detached = false :=
  have h := consumer_find hm
  ⟨find_mem h.1, h.2⟩

theorem consumerPairs_view {s s' : KState} (hd : s'.deps = s.deps)
    (hv : s'.nodes.map afterView = s.nodes.map afterView) (k : Key)
    (h : ∀ m ∈ s.consumerSteps k, ∀ m', s'.find? m.key = some m' →
      m'.impliedNeed = m.impliedNeed ∧ m'.tail = m.tail) :
    consumerPairs s' k = consumerPairs s k := by
  unfold consumerPairs KState.consumerSteps
  rw [List.map_filterMap, List.map_filterMap, sinksOf_deps hd]
  apply filterMap_congr'
  intro c hc
  obtain ⟨f, hf1, hc1⟩ := List.mem_flatMap.1 hc
  cases hm : s.find? c with
  | none => rw [find?_view_none hv hm]
  | some m =>
    obtain ⟨m', hm', he⟩ := find?_view_some hv hm
    rw [hm']
    simp only [view_key he, view_detached he]
    by_cases hh : m.key.kind = Kind.step ∧ (!m.detached) = true
    · rw [if_pos hh, if_pos hh]
      have hmc : m ∈ s.consumerSteps k := mem_consumerSteps.2 ⟨f, hf1, c, hc1, hm, hh.1, by simpa using hh.2⟩
      have := h m hmc m' (by rw [find_key hm]; exact hm')
      simp only [Option.map_some, this.1, this.2]
    · rw [if_neg hh, if_neg hh]

theorem afterValues_view {s s' : KState} (hd : s'.deps = s.deps)
    (hv : s'.nodes.map afterView = s.nodes.map afterView) (cfg : KConfig) {n n' : Node}
    (he : afterView n' = afterView n)
    (h : ∀ m ∈ s.consumerSteps n.key, ∀ m', s'.find? m.key = some m' →
      m'.impliedNeed = m.impliedNeed ∧ m'.tail = m.tail) :
    s'.afterValues cfg n' = s.afterValues cfg n := by
  rw [afterValues_eq_core, afterValues_eq_core, view_need he, view_key he,
    regularOutputs_view hd hv, consumerPairs_view hd hv _ h]

theorem consumerPairs_frame {s s' : KState} (hf : AfterFrame s s') (k : Key)
    (h : ∀ m ∈ s.consumerSteps k, ∀ m', s'.find? m.key = some m' →
      m'.impliedNeed = m.impliedNeed ∧ m'.tail = m.tail) :
    consumerPairs s' k = consumerPairs s k := consumerPairs_view hf.1 hf.view k h

theorem mem_propagateAfter {s : KState} {changed : List Key} {k : Key} :
    k ∈ s.propagateAfter changed ↔
      (∃ c ∈ changed, ∃ f, Edge s.deps k f ∧ Edge s.deps f c) ∧
      ∃ n, s.find? k = some n ∧ n.key.kind = .step ∧ n.detached = false := by
  unfold KState.propagateAfter
  simp only [List.mem_filter, mem_dedupKeys, List.mem_flatMap, KState.mem_sourcesOf]
  constructor
  · rintro ⟨⟨f, ⟨c, hc, hfc⟩, hkf⟩, hn⟩
    refine ⟨⟨c, hc, f, hkf, hfc⟩, ?_⟩
    cases hm : s.find? k with
    | none => rw [hm] at hn; simp at hn
    | some n =>
      rw [hm] at hn
      simp only [Bool.not_eq_eq_eq_not, Bool.not_true, decide_eq_true_eq] at hn
      exact ⟨n, rfl, hn.1, hn.2⟩
  · rintro ⟨⟨c, hc, f, hkf, hfc⟩, n, hn, h1, h2⟩
    refine ⟨⟨f, ⟨c, hc, hfc⟩, hkf⟩, ?_⟩
    rw [hn]
    simp [h1, h2]

/-- The duality behind the worklist: a written consumer puts the producer on the next work set. -/
theorem consumer_written_propagates {s : KState} {n m : Node} {changed : List Key}
    (hn : s.find? n.key = some n) (hs : n.key.kind = .step) (hd : n.detached = false)
    (hm : m ∈ s.consumerSteps n.key) (hw : m.key ∈ changed) : n.key ∈ s.propagateAfter changed := by
  obtain ⟨f, c, hf, hc, hfind, _, _⟩ := mem_consumerSteps_iff.1 hm
  rw [mem_propagateAfter]
  refine ⟨⟨m.key, hw, f, hf, ?_⟩, n, hn, hs, hd⟩
  rw [find_key hfind]
  exact hc

theorem afterValues_mapNodes (s : KState) (cfg : KConfig) (g : Node → Node) (hg : Keeps afterView g)
    (n : Node) (h : ∀ m ∈ s.consumerSteps n.key, (g m).impliedNeed = m.impliedNeed ∧ (g m).tail = m.tail) :
    ({ s with nodes := s.nodes.map g } : KState).afterValues cfg (g n) = s.afterValues cfg n := by
  apply afterValues_view (s := s) (s' := { s with nodes := s.nodes.map g }) rfl
    (map_view_map afterView g s.nodes fun n _ => hg n) cfg (hg n)
  intro m hm m' hm'
  rw [find?_mapNodes s g (fun n => view_key (hg n)), (consumer_find hm).1] at hm'
  rw [← Option.some.inj hm']
  exact h m hm

theorem consumer_mapNodes {s : KState} {g : Node → Node} (hg : Keeps afterView g)
    {k : Key} {m : Node} (hm : m ∈ s.consumerSteps k) :
    g m ∈ ({ s with nodes := s.nodes.map g } : KState).consumerSteps k := by
  obtain ⟨f, c, hf, hc, hfm, h1, h2⟩ := mem_consumerSteps_iff.1 hm
  refine mem_consumerSteps_iff.2 ⟨f, c, hf, hc, ?_, ?_, ?_⟩
  · rw [find?_mapNodes s g (fun n => view_key (hg n)), hfm]; rfl
  · rw [view_key (hg m)]; exact h1
  · rw [view_detached (hg m)]; exact h2

/-- The row function of `applyAfterUpdates`. -/
def updateRow (u : List (Key × Need × Nat)) (n : Node) : Node :=
  if u.any (·.1 = n.key) then
    match u.find? (·.1 = n.key) with
    | some (_, need, tail) => { n with impliedNeed := need, tail := tail }
    | none => n
  else n

theorem applyAfterUpdates_eq (s : KState) (u : List (Key × Need × Nat)) :
    s.applyAfterUpdates u = { s with nodes := s.nodes.map (updateRow u) } := rfl

theorem updateRow_erase (u : List (Key × Need × Nat)) (n : Node) : eraseAfter (updateRow u n) = eraseAfter n := by
  unfold updateRow
  split
  · split
    · rfl
    · rfl
  · rfl

theorem updateRow_key (u : List (Key × Need × Nat)) (n : Node) : (updateRow u n).key = n.key :=
  eraseAfter_key (updateRow_erase u n)

theorem updateRow_not_written {u : List (Key × Need × Nat)} {n : Node} (h : n.key ∉ u.map (·.1)) :
    updateRow u n = n := by
  unfold updateRow
  rw [if_neg]
  intro hc
  apply h
  rw [List.any_eq_true] at hc
  obtain ⟨e, he, h1⟩ := hc
  exact List.mem_map.2 ⟨e, he, by simpa using h1⟩

theorem updateRow_written {u : List (Key × Need × Nat)} {n : Node} (h : n.key ∈ u.map (·.1)) :
    ∃ need tail, (n.key, need, tail) ∈ u ∧ updateRow u n = { n with impliedNeed := need, tail := tail } := by
  obtain ⟨e, he, h1⟩ := List.mem_map.1 h
  have hany : u.any (·.1 = n.key) = true := List.any_eq_true.2 ⟨e, he, by simpa using h1⟩
  unfold updateRow
  rw [if_pos hany]
  cases hf : u.find? (·.1 = n.key) with
  | none =>
    have := List.find?_eq_none.1 hf e he
    exact absurd (by simpa using h1) this
  | some e' =>
    obtain ⟨k', need, tail⟩ := e'
    have hk' : k' = n.key := by simpa using List.find?_some hf
    refine ⟨need, tail, ?_, rfl⟩
    rw [← hk']; exact List.mem_of_find?_eq_some hf

theorem frame_applyAfterUpdates (s : KState) (u : List (Key × Need × Nat)) :
    AfterFrame s (s.applyAfterUpdates u) :=
  (applyAfterUpdates_rowMap s u).afterFrame

theorem mem_afterUpdates_iff {s : KState} {cfg : KConfig} {work : List Key} {first : Bool} {e : Key × Need × Nat} :
    e ∈ s.afterUpdates cfg work first ↔ e.1 ∈ work ∧ ∃ n, s.find? e.1 = some n ∧ e.2 = s.afterValues cfg n ∧
      (first = true ∨ s.afterValues cfg n ≠ (n.impliedNeed, n.tail)) := by
  unfold KState.afterUpdates
  rw [List.mem_filterMap]
  have hc : ∀ n : Node, (first = true ∨ (s.afterValues cfg n).1 ≠ n.impliedNeed ∨ (s.afterValues cfg n).2 ≠ n.tail) ↔
      (first = true ∨ s.afterValues cfg n ≠ (n.impliedNeed, n.tail)) := fun n => by
    rw [Ne, Ne, Ne, Prod.ext_iff, Classical.not_and_iff_not_or_not]
  constructor
  · rintro ⟨k, hk, h⟩
    cases hf : s.find? k with
    | none => rw [hf] at h; cases h
    | some n =>
      rw [hf] at h
      dsimp only at h
      split at h
      · cases h; exact ⟨hk, n, hf, rfl, (hc n).1 ‹_›⟩
      · cases h
  · rintro ⟨hk, n, hf, hv, h⟩
    refine ⟨e.1, hk, ?_⟩
    rw [hf]
    dsimp only
    rw [if_pos ((hc n).2 h), ← hv]

def LoopInv (s : KState) (cfg : KConfig) (work : List Key) : Prop :=
  ∀ n ∈ s.nodes, n.key.kind = .step → n.detached = false → n.key ∉ work → AfterLocal s cfg n

def LoopInvW (s : KState) (cfg : KConfig) (work : List Key) (first : Bool) : Prop :=
  ∀ n ∈ s.nodes, n.key.kind = .step → n.detached = false → n.key ∉ work →
    AfterLocal s cfg n ∨ ∃ m ∈ s.consumerSteps n.key, m.key ∈ (s.afterUpdates cfg work first).map (·.1)

theorem loopInv_imp_weak {s : KState} {cfg : KConfig} {work : List Key} {first : Bool}
    (h : LoopInv s cfg work) : LoopInvW s cfg work first :=
  fun n hn h1 h2 h3 => .inl (h n hn h1 h2 h3)

/-- One round of the worklist, from the weak invariant to the strong one.  A row with a written consumer is on
the next work set; for any other row the round does not change what `afterValues` reads, and the row is written
with that value, or was in the work set and already had it, or had it by the invariant. -/
theorem round_inv_weak (s : KState) (cfg : KConfig) (work : List Key) (first : Bool) (hk : KeysUnique s)
    (hI : LoopInvW s cfg work first) :
    LoopInv (s.applyAfterUpdates (s.afterUpdates cfg work first)) cfg
      ((s.applyAfterUpdates (s.afterUpdates cfg work first)).propagateAfter
        ((s.afterUpdates cfg work first).map (·.1))) := by
  unfold LoopInvW at hI
  generalize hu : s.afterUpdates cfg work first = u at hI
  rw [applyAfterUpdates_eq]
  have hview : ∀ n, afterView (updateRow u n) = afterView n := fun n => eraseAfter_view (updateRow_erase u n)
  intro n' hn' hstep hatt hnw
  obtain ⟨n, hn, rfl⟩ := List.mem_map.1 hn'
  have hstep0 : n.key.kind = .step := view_key (hview n) ▸ hstep
  have hatt0 : n.detached = false := view_detached (hview n) ▸ hatt
  have hself := find?_of_mem hk hn
  have hB : ∀ m ∈ s.consumerSteps n.key, m.key ∉ u.map (·.1) := by
    intro m hm hw
    refine hnw (consumer_written_propagates (m := updateRow u m) ?_ hstep hatt ?_ ?_)
    · rw [find?_mapNodes s _ (updateRow_key u), updateRow_key, hself]; rfl
    · rw [updateRow_key]; exact consumer_mapNodes hview hm
    · rw [updateRow_key]; exact hw
  unfold AfterLocal
  rw [afterValues_mapNodes s cfg _ hview n fun m hm => by rw [updateRow_not_written (hB m hm)]; exact ⟨rfl, rfl⟩]
  by_cases hw : n.key ∈ u.map (·.1)
  · obtain ⟨need, tail, hmem, heq⟩ := updateRow_written hw
    rw [heq]
    rw [← hu] at hmem
    obtain ⟨_, n0, hf0, hv, _⟩ := mem_afterUpdates_iff.1 hmem
    rw [hself] at hf0
    cases hf0
    exact hv
  · rw [updateRow_not_written hw]
    by_cases hin : n.key ∈ work
    · rw [← hu] at hw
      exact Classical.byContradiction fun hne => hw (List.mem_map.2
        ⟨(n.key, s.afterValues cfg n), mem_afterUpdates_iff.2 ⟨hin, n, hself, rfl, .inr (Ne.symm hne)⟩, rfl⟩)
    · exact (hI n hn hstep0 hatt0 hin).resolve_right fun ⟨m, hm, hmw⟩ => hB m hm hmw

theorem afterLoop_correct_weak (cfg : KConfig) (fuel : Nat) (s s' : KState) (work : List Key) (first : Bool)
    (hk : KeysUnique s) (hI : LoopInvW s cfg work first) (h : KState.afterLoop cfg fuel s work first = some s') :
    AfterConsistent s' cfg ∧ AfterFrame s s' := by
  obtain ⟨x, ⟨_, hfr, hI'⟩, hdone, rfl⟩ := (afterLoop_loop cfg).result
    (fun x => KeysUnique x.1 ∧ AfterFrame s x.1 ∧ LoopInvW x.1 cfg x.2.1 x.2.2)
    (by
      intro x hx _
      dsimp only at hx ⊢
      exact ⟨keysUnique_frame (frame_applyAfterUpdates x.1 _) hx.1, hx.2.1.trans (frame_applyAfterUpdates x.1 _),
        loopInv_imp_weak (round_inv_weak x.1 cfg x.2.1 x.2.2 hx.1 hx.2.2)⟩)
    (x := (s, work, first)) ⟨hk, .refl s, hI⟩ h
  refine ⟨fun n hn h1 h2 => ?_, hfr⟩
  have hw : x.2.1 = [] := List.isEmpty_iff.1 hdone
  refine (hI' n hn h1 h2 (by rw [hw]; exact List.not_mem_nil)).resolve_right ?_
  rintro ⟨m, _, hm⟩
  obtain ⟨e, he, _⟩ := List.mem_map.1 hm
  rw [hw] at he
  exact List.not_mem_nil (mem_afterUpdates_iff.1 he).1

theorem afterLocal_mapNodes_view (s : KState) (cfg : KConfig) (g : Node → Node)
    (hg : Keeps afterView g) (h1 : Keeps Node.impliedNeed g)
    (h2 : Keeps Node.tail g) (n : Node) :
    AfterLocal { s with nodes := s.nodes.map g } cfg (g n) ↔ AfterLocal s cfg n := by
  unfold AfterLocal
  rw [afterValues_mapNodes s cfg g hg n fun m _ => ⟨h1 m, h2 m⟩, h1, h2]

theorem afterConsistent_mapNodes_view (s : KState) (cfg : KConfig) (g : Node → Node)
    (hg : Keeps afterView g) (h1 : Keeps Node.impliedNeed g)
    (h2 : Keeps Node.tail g) (h : AfterConsistent s cfg) :
    AfterConsistent { s with nodes := s.nodes.map g } cfg := by
  intro n' hn' hstep hatt
  obtain ⟨n, hn, rfl⟩ := List.mem_map.1 hn'
  rw [afterLocal_mapNodes_view s cfg g hg h1 h2]
  exact h n hn (view_key (hg n) ▸ hstep) (view_detached (hg n) ▸ hatt)

def AfterNeutral (f : Node → Node) : Prop :=
  ∀ n, afterView (f n) = afterView n ∧ (f n).impliedNeed = n.impliedNeed ∧ (f n).tail = n.tail ∧
    (f n).checkAfter = n.checkAfter

theorem afterNeutral_of_erase (e : Node → Node) {g : Node → Node} (he : AfterNeutral e) (hg : ∀ n, e (g n) = e n) : AfterNeutral g := by
  intro n
  obtain ⟨a1, a2, a3, a4⟩ := he (g n)
  obtain ⟨b1, b2, b3, b4⟩ := he n
  rw [hg n] at a1 a2 a3 a4
  exact ⟨a1.symm.trans b1, a2.symm.trans b2, a3.symm.trans b3, a4.symm.trans b4⟩

theorem AfterNeutral.view {g : Node → Node} (hg : AfterNeutral g) : Keeps afterView g := fun n => (hg n).1
theorem AfterNeutral.need {g : Node → Node} (hg : AfterNeutral g) : Keeps Node.impliedNeed g := fun n => (hg n).2.1
theorem AfterNeutral.tail {g : Node → Node} (hg : AfterNeutral g) : Keeps Node.tail g := fun n => (hg n).2.2.1
theorem AfterNeutral.flag {g : Node → Node} (hg : AfterNeutral g) : Keeps Node.checkAfter g := fun n => (hg n).2.2.2

theorem AfterNeutral.consistent {g : Node → Node} (hg : AfterNeutral g) {s : KState} {cfg : KConfig}
    (h : AfterConsistent s cfg) : AfterConsistent { s with nodes := s.nodes.map g } cfg :=
  afterConsistent_mapNodes_view s cfg g hg.view hg.need hg.tail h

theorem AfterNeutral.flags {g : Node → Node} (hg : AfterNeutral g) {s : KState}
    (h : ∀ n ∈ s.nodes, n.key.kind = .step → n.checkAfter = false) :
    ∀ n ∈ ({ s with nodes := s.nodes.map g } : KState).nodes, n.key.kind = .step → n.checkAfter = false := by
  intro n' hn' hs
  obtain ⟨n, hn, rfl⟩ := List.mem_map.1 hn'
  rw [hg.flag n]
  exact h n hn (view_key (hg.view n) ▸ hs)

theorem AfterNeutral.cacheInvW {g : Node → Node} (hg : AfterNeutral g) {s : KState} {cfg : KConfig}
    (h : CacheInvAfterW s cfg) : CacheInvAfterW { s with nodes := s.nodes.map g } cfg := by
  intro n' hn' hstep hatt hflag
  obtain ⟨n, hn, rfl⟩ := List.mem_map.1 hn'
  rw [afterLocal_mapNodes_view s cfg g hg.view hg.need hg.tail]
  refine (h n hn (view_key (hg.view n) ▸ hstep) (view_detached (hg.view n) ▸ hatt) (hg.flag n ▸ hflag)).imp id ?_
  rintro ⟨m, hm, hmf⟩
  exact ⟨g m, view_key (hg.view n) ▸ consumer_mapNodes hg.view hm, (hg.flag m).trans hmf⟩

theorem mem_afterWork {s : KState} {k : Key} :
    k ∈ afterWork s ↔ ∃ n ∈ s.nodes, n.key = k ∧ n.key.kind = .step ∧ n.detached = false ∧ n.checkAfter = true := by
  unfold afterWork
  simp only [List.mem_map, List.mem_filter, Bool.decide_and, Bool.decide_eq_true, Bool.and_eq_true, decide_eq_true_eq,
    Bool.not_eq_eq_eq_not, Bool.not_true]
  constructor
  · rintro ⟨n, ⟨hn, h1, h2, h3⟩, rfl⟩; exact ⟨n, hn, rfl, h1, h2, h3⟩
  · rintro ⟨n, hn, rfl, h1, h2, h3⟩; exact ⟨n, ⟨hn, h1, h2, h3⟩, rfl⟩

theorem updateMetaAfter_flags {s s' : KState} {cfg : KConfig} (h : s.updateMetaAfter cfg = .ok s') :
    ∀ n ∈ s'.nodes, n.key.kind = .step → n.checkAfter = false := by
  rcases updateMetaAfter_ok h with ⟨hflag, rfl⟩ | ⟨st, _, rfl⟩
  · exact hflag
  · intro n hn hs
    obtain ⟨m, _, rfl⟩ := List.mem_map.1 hn
    by_cases hm : m.key.kind = Kind.step
    · simp only [hm, decide_true, if_true]
    · simp only [hm, decide_false, Bool.false_eq_true, if_false] at hs

theorem updateMetaAfter_frame (s s' : KState) (cfg : KConfig) (h : s.updateMetaAfter cfg = .ok s') :
    AfterFrame s s' :=
  (updateMetaAfter_rowMap h).afterFrame

theorem loopInvW_initial {s : KState} {cfg : KConfig} (hc : CacheInvAfterW s cfg) :
    LoopInvW s cfg (afterWork s) true := by
  intro n hn h1 h2 hnw
  have hunfl : n.checkAfter = false := by
    cases hf : n.checkAfter with
    | false => rfl
    | true => exact absurd (mem_afterWork.2 ⟨n, hn, rfl, h1, h2, hf⟩) hnw
  refine (hc n hn h1 h2 hunfl).imp id ?_
  rintro ⟨m, hm, hflag⟩
  obtain ⟨hfm, hs, hd⟩ := consumer_find hm
  exact ⟨m, hm, List.mem_map.2 ⟨(m.key, s.afterValues cfg m), mem_afterUpdates_iff.2
    ⟨mem_afterWork.2 ⟨m, find_mem hfm, rfl, hs, hd, hflag⟩, m, hfm, rfl, .inl rfl⟩, rfl⟩⟩

theorem updateMetaAfter_correct_weak (s s' : KState) (cfg : KConfig) (hk : KeysUnique s)
    (hc : CacheInvAfterW s cfg) (h : s.updateMetaAfter cfg = .ok s') :
    AfterConsistent s' cfg ∧ (∀ n ∈ s'.nodes, n.key.kind = .step → n.checkAfter = false) ∧ AfterFrame s s' := by
  refine ⟨?_, updateMetaAfter_flags h, updateMetaAfter_frame s s' cfg h⟩
  refine (updateMetaAfter_ok h).elim (fun ⟨hflag, e⟩ => ?_) (fun ⟨st, hst, e⟩ => ?_) <;> subst e
  · refine fun n hn h1 h2 => (hc n hn h1 h2 (hflag n hn h1)).resolve_right ?_
    rintro ⟨m, hm, hmf⟩
    obtain ⟨hmn, hs, _⟩ := consumer_mem hm
    rw [hflag m hmn hs] at hmf
    cases hmf
  · exact afterConsistent_mapNodes_view st cfg _ (.ite _ fun _ => rfl) (.ite _ fun _ => rfl) (.ite _ fun _ => rfl)
      (afterLoop_correct_weak cfg _ s st _ _ hk (loopInvW_initial hc) hst).1

theorem updateMetaAfter_correct (s s' : KState) (cfg : KConfig) (hk : KeysUnique s) (hc : CacheInvAfter s cfg)
    (h : s.updateMetaAfter cfg = .ok s') :
    AfterConsistent s' cfg ∧ (∀ n ∈ s'.nodes, n.key.kind = .step → n.checkAfter = false) ∧ AfterFrame s s' :=
  updateMetaAfter_correct_weak s s' cfg hk (cacheInvAfter_imp_weak hc) h

theorem keys_applyAfterUpdates (s : KState) (u : List (Key × Need × Nat)) :
    (s.applyAfterUpdates u).nodes.map (·.key) = s.nodes.map (·.key) :=
  (applyAfterUpdates_rowMap s u).view Node.key

theorem afterLoop_terminates (cfg : KConfig) (fuel : Nat) (s : KState) (work : List Key) (first : Bool) (r : Nat)
    (hac : Acyclic s) (hd : ∀ k ∈ work, Deep (Path s.deps) (s.nodes.map (·.key)) r k) (hfuel : s.nodes.length ≤ r + fuel) :
    ∃ s', KState.afterLoop cfg fuel s work first = some s' :=
  (afterLoop_loop cfg).terminates_deep (·.2.1) hac (s.nodes.map (·.key))
    (fun x => x.1.deps = s.deps ∧ x.1.nodes.map (·.key) = s.nodes.map (·.key))
    (fun x h hnil => by rw [hnil] at h; cases h)
    (by
      intro r x hx hd _
      dsimp only at hx hd ⊢
      refine ⟨⟨(frame_applyAfterUpdates x.1 _).1.trans hx.1, (keys_applyAfterUpdates x.1 _).trans hx.2⟩, fun k' hk' => ?_⟩
      obtain ⟨⟨c, hc, f, e1, e2⟩, n, hn, _, _⟩ := mem_propagateAfter.1 hk'
      rw [(frame_applyAfterUpdates x.1 _).1, hx.1] at e1 e2
      obtain ⟨e, he, rfl⟩ := List.mem_map.1 hc
      refine Deep.succ (R := Path s.deps) (fun _ _ _ => Path.trans) (hd e.1 (mem_afterUpdates_iff.1 he).1)
        (.cons e1 (.single e2)) ?_
      rw [← hx.2, ← keys_applyAfterUpdates x.1 (x.1.afterUpdates cfg x.2.1 x.2.2)]
      exact List.mem_map.2 ⟨n, find_mem hn, find_key hn⟩)
    (x := (s, work, first)) ⟨rfl, rfl⟩ hd (by rw [List.length_map]; exact hfuel)

/-- The fuel `#rows + 2` of the model is never exhausted; unique keys are not needed for this. -/
theorem updateMetaAfter_no_hang (s : KState) (cfg : KConfig) (hac : Acyclic s) :
    ∃ s', s.updateMetaAfter cfg = .ok s' := by
  rw [updateMetaAfter_eq]
  split
  · exact ⟨s, rfl⟩
  · have hd : ∀ k ∈ afterWork s, Deep (Path s.deps) (s.nodes.map (·.key)) 0 k := by
      intro k hk
      obtain ⟨n, hn, rfl, _⟩ := mem_afterWork.1 hk
      exact .zero (List.mem_map.2 ⟨n, hn, rfl⟩)
    obtain ⟨st, hst⟩ := afterLoop_terminates cfg (s.nodes.length + 2) s _ true 0 hac hd (by omega)
    rw [hst]
    exact ⟨_, rfl⟩

theorem updateMetaAfter_ne_hang (s : KState) (cfg : KConfig) (hac : Acyclic s) :
    s.updateMetaAfter cfg ≠ .error .hang := by
  obtain ⟨s', h⟩ := updateMetaAfter_no_hang s cfg hac
  rw [h]; intro hh; cases hh

/-! ## What the local equations say about need ("exactly the needed steps are executed") -/

/-- A regular output is an exact target, or the step is DEFAULT and an output lies under a target directory. -/
def TargetHit (s : KState) (cfg : KConfig) (n : Node) : Prop :=
  (s.regularOutputs n.key).any cfg.targets.contains = true ∨
  (n.need = .default ∧ (s.regularOutputs n.key).any (fun o => cfg.targetDirs.any fun d => underDir d o) = true)

/-- The need a step has on its own account: declared, or TARGET when it produces a target. -/
def ownNeed (s : KState) (cfg : KConfig) (n : Node) : Need :=
  n.need.max (targetTerm cfg n.need (s.regularOutputs n.key))

theorem ownNeed_cases (s : KState) (cfg : KConfig) (n : Node) :
    ownNeed s cfg n = n.need ∨ (ownNeed s cfg n = .target ∧ TargetHit s cfg n) := by
  unfold ownNeed targetTerm TargetHit
  by_cases h1 : (s.regularOutputs n.key).any cfg.targets.contains = true
  · rw [if_pos h1]; exact (max_eq_or _ _).imp id fun h => ⟨h, .inl h1⟩
  · rw [if_neg h1]
    by_cases h2 : n.need = .default ∧
        (s.regularOutputs n.key).any (fun o => cfg.targetDirs.any fun d => underDir d o) = true
    · rw [if_pos h2]; exact (max_eq_or _ _).imp id fun h => ⟨h, .inr h2⟩
    · rw [if_neg h2]
      exact .inl (if_neg (Nat.not_lt_zero _))

theorem ownNeed_ge_declared (s : KState) (cfg : KConfig) (n : Node) : n.need.rank ≤ (ownNeed s cfg n).rank :=
  max_rank_left _ _

theorem ownNeed_ge_target {s : KState} {cfg : KConfig} {n : Node}
    (ht : (s.regularOutputs n.key).any cfg.targets.contains = true) : Need.target.rank ≤ (ownNeed s cfg n).rank := by
  unfold ownNeed targetTerm
  rw [if_pos ht]
  exact max_rank_right _ _

theorem ownNeed_optional {s : KState} {cfg : KConfig} {n : Node} (hn : n.need = .optional)
    (hno : (s.regularOutputs n.key).any cfg.targets.contains = false) : ownNeed s cfg n = .optional := by
  unfold ownNeed targetTerm
  rw [hno, hn]
  rfl

theorem afterNeed_eq (s : KState) (cfg : KConfig) (n : Node) :
    (s.afterValues cfg n).1 = (consumerPairs s n.key).foldl (fun acc m => acc.max m.1) (ownNeed s cfg n) := by
  rw [afterValues_eq_core]; rfl

theorem afterNeed_ge_own (s : KState) (cfg : KConfig) (n : Node) :
    (ownNeed s cfg n).rank ≤ (s.afterValues cfg n).1.rank := by
  rw [afterNeed_eq]; exact foldl_need_ge_init _ _

theorem afterNeed_ge_consumer (s : KState) (cfg : KConfig) (n : Node) {m : Node} (hm : m ∈ s.consumerSteps n.key) :
    m.impliedNeed.rank ≤ (s.afterValues cfg n).1.rank := by
  rw [afterNeed_eq]
  exact foldl_need_ge_mem _ _ (m.impliedNeed, m.tail) (List.mem_map.2 ⟨m, hm, rfl⟩)

theorem afterNeed_cause (s : KState) (cfg : KConfig) (n : Node) :
    (s.afterValues cfg n).1 = ownNeed s cfg n ∨ ∃ m ∈ s.consumerSteps n.key, m.impliedNeed = (s.afterValues cfg n).1 := by
  rw [afterNeed_eq]
  rcases foldl_need_eq_or (consumerPairs s n.key) (ownNeed s cfg n) with h' | ⟨p, hp, h'⟩
  · exact .inl h'
  · obtain ⟨m, hm, rfl⟩ := List.mem_map.1 hp
    exact .inr ⟨m, hm, h'.symm⟩

theorem afterNeed_optional (s : KState) (cfg : KConfig) (n : Node) (hn : n.need = .optional)
    (hno : (s.regularOutputs n.key).any cfg.targets.contains = false)
    (hcons : ∀ m ∈ s.consumerSteps n.key, m.impliedNeed = .optional) : (s.afterValues cfg n).1 = .optional := by
  rcases afterNeed_cause s cfg n with h | ⟨m, hm, h⟩
  · rw [h, ownNeed_optional hn hno]
  · rw [← h, hcons m hm]

theorem AfterLocal.need {s : KState} {cfg : KConfig} {n : Node} (h : AfterLocal s cfg n) :
    n.impliedNeed = (s.afterValues cfg n).1 := congrArg Prod.fst h

theorem implied_ge_own {s : KState} {cfg : KConfig} {n : Node} (h : AfterLocal s cfg n) :
    (ownNeed s cfg n).rank ≤ n.impliedNeed.rank :=
  h.need ▸ afterNeed_ge_own s cfg n

theorem implied_ge_declared {s : KState} {cfg : KConfig} {n : Node} (h : AfterLocal s cfg n) :
    n.need.rank ≤ n.impliedNeed.rank :=
  Nat.le_trans (ownNeed_ge_declared s cfg n) (implied_ge_own h)

theorem implied_ge_target {s : KState} {cfg : KConfig} {n : Node} (h : AfterLocal s cfg n)
    (ht : (s.regularOutputs n.key).any cfg.targets.contains = true) : Need.target.rank ≤ n.impliedNeed.rank :=
  Nat.le_trans (ownNeed_ge_target ht) (implied_ge_own h)

theorem implied_ge_consumer {s : KState} {cfg : KConfig} {n m : Node} (h : AfterLocal s cfg n)
    (hm : m ∈ s.consumerSteps n.key) : m.impliedNeed.rank ≤ n.impliedNeed.rank :=
  h.need ▸ afterNeed_ge_consumer s cfg n hm

theorem implied_ge_consumer' {s : KState} {cfg : KConfig} {n m : Node} {f c : Key} (h : AfterLocal s cfg n)
    (hf : f ∈ s.sinksOf n.key) (hc : c ∈ s.sinksOf f) (hm : s.find? c = some m)
    (hk : m.key.kind = .step) (hd : m.detached = false) : m.impliedNeed.rank ≤ n.impliedNeed.rank :=
  implied_ge_consumer h (mem_consumerSteps.2 ⟨f, hf, c, hc, hm, hk, hd⟩)

theorem tail_gt_consumer {s : KState} {cfg : KConfig} {n m : Node} (h : AfterLocal s cfg n)
    (hm : m ∈ s.consumerSteps n.key) : m.tail < n.tail := by
  have ht := congrArg Prod.snd h
  rw [afterValues_eq_core, afterCore_snd] at ht
  have := (foldl_tail_ge (consumerPairs s n.key) 0).2 (m.impliedNeed, m.tail) (List.mem_map.2 ⟨m, hm, rfl⟩)
  simp only at this
  omega

theorem implied_cause {s : KState} {cfg : KConfig} {n : Node} (h : AfterLocal s cfg n) :
    n.impliedNeed = ownNeed s cfg n ∨ ∃ m ∈ s.consumerSteps n.key, m.impliedNeed = n.impliedNeed :=
  h.need ▸ afterNeed_cause s cfg n

theorem implied_optional {s : KState} {cfg : KConfig} {n : Node} (h : AfterLocal s cfg n)
    (hn : n.need = .optional) (hno : (s.regularOutputs n.key).any cfg.targets.contains = false)
    (hcons : ∀ m ∈ s.consumerSteps n.key, m.impliedNeed = .optional) : n.impliedNeed = .optional :=
  h.need ▸ afterNeed_optional s cfg n hn hno hcons

/-- In a consistent state the tail time of a step exceeds that of its consumers, so the consumer relation is well
founded, acyclic table or not. -/
theorem consumer_induction {s : KState} {cfg : KConfig} (hc : AfterConsistent s cfg) (P : Node → Prop)
    (step : ∀ n ∈ s.nodes, n.key.kind = .step → n.detached = false → (∀ m ∈ s.consumerSteps n.key, P m) → P n) :
    ∀ n ∈ s.nodes, n.key.kind = .step → n.detached = false → P n := by
  have main : ∀ b, ∀ n ∈ s.nodes, n.tail < b → n.key.kind = .step → n.detached = false → P n := by
    intro b
    induction b with
    | zero => intro n _ hb; exact absurd hb (Nat.not_lt_zero _)
    | succ b ih =>
      intro n hn hb hs hd
      refine step n hn hs hd fun m hm => ?_
      obtain ⟨hmn, h1, h2⟩ := consumer_mem hm
      have := tail_gt_consumer (hc n hn hs hd) hm
      exact ih m hmn (by omega) h1 h2
  exact fun n hn => main (n.tail + 1) n hn (Nat.lt_succ_self _)

theorem afterConsistent_unique (s t : KState) (cfg : KConfig) (hk : KeysUnique s)
    (hf : AfterFrame s t) (hs : AfterConsistent s cfg) (ht : AfterConsistent t cfg) :
    ∀ n ∈ s.nodes, ∀ n' ∈ t.nodes, n'.key = n.key → n.key.kind = .step → n.detached = false →
      n'.impliedNeed = n.impliedNeed ∧ n'.tail = n.tail := by
  have main := consumer_induction hs
    (fun n => ∀ n' ∈ t.nodes, n'.key = n.key → n'.impliedNeed = n.impliedNeed ∧ n'.tail = n.tail) ?_
  · exact fun n hn n' hn' hkey hstep hatt => main n hn hstep hatt n' hn' hkey
  intro n hn hstep hatt ih n' hn' hkey
  obtain ⟨m, hm, he⟩ := find?_view_some hf.view (find?_of_mem hk hn)
  rw [← hkey, find?_of_mem (keysUnique_frame hf hk) hn'] at hm
  cases hm
  have e1 := hs n hn hstep hatt
  have e2 := ht n' hn' (by rw [view_key he]; exact hstep) (by rw [view_detached he]; exact hatt)
  have hval : t.afterValues cfg n' = s.afterValues cfg n :=
    afterValues_view hf.1 hf.view cfg he fun m hm m' hm' => ih m hm m' (find_mem hm') (find_key hm')
  unfold AfterLocal at e1 e2
  rw [hval, ← e1] at e2
  exact Prod.mk.inj e2

theorem updateMetaAfter_unique_solution_weak (s s' t : KState) (cfg : KConfig) (hk : KeysUnique s)
    (hc : CacheInvAfterW s cfg) (h : s.updateMetaAfter cfg = .ok s')
    (hft : AfterFrame s t) (ht : AfterConsistent t cfg) :
    ∀ n ∈ s'.nodes, ∀ m ∈ t.nodes, m.key = n.key → n.key.kind = .step → n.detached = false →
      n.impliedNeed = m.impliedNeed ∧ n.tail = m.tail := by
  obtain ⟨h1, _, h3⟩ := updateMetaAfter_correct_weak s s' cfg hk hc h
  intro n hn m hm hkey hstep hatt
  have := afterConsistent_unique s' t cfg (keysUnique_frame h3 hk) (h3.symm.trans hft) h1 ht
    n hn m hm hkey hstep hatt
  exact ⟨this.1.symm, this.2.symm⟩

def flagAll (s : KState) : KState :=
  { s with nodes := s.nodes.map fun n => if n.key.kind = .step then { n with checkAfter := true } else n }

theorem frame_flagAll (s : KState) : AfterFrame s (flagAll s) := RowMap.afterFrame ⟨_, fun n => by split <;> rfl, rfl⟩

theorem cacheInv_flagAll (s : KState) (cfg : KConfig) : CacheInvAfter (flagAll s) cfg := by
  intro n hn hstep _ hflag
  exfalso
  obtain ⟨m, _, rfl⟩ := List.mem_map.1 hn
  by_cases hm : m.key.kind = .step
  · rw [if_pos hm] at hflag; cases hflag
  · rw [if_neg hm] at hstep; exact hm hstep

def recomputeAfter (s : KState) (cfg : KConfig) : M KState := (flagAll s).updateMetaAfter cfg

theorem recomputeAfter_spec (s : KState) (cfg : KConfig) (hac : Acyclic s) (hk : KeysUnique s) :
    ∃ t, recomputeAfter s cfg = .ok t ∧ AfterFrame s t ∧ AfterConsistent t cfg := by
  have hfr := frame_flagAll s
  have hac' : Acyclic (flagAll s) := hac
  obtain ⟨t, ht⟩ := updateMetaAfter_no_hang (flagAll s) cfg hac'
  obtain ⟨h1, _, h3⟩ := updateMetaAfter_correct (flagAll s) t cfg (keysUnique_frame hfr hk) (cacheInv_flagAll s cfg) ht
  exact ⟨t, ht, hfr.trans h3, h1⟩

/-- `p` is `n` or an attached step that transitively consumes outputs of `n` through attached steps. -/
inductive Feeds (s : KState) : Node → Node → Prop
  | refl (n : Node) : Feeds s n n
  | step {n m p : Node} : m ∈ s.consumerSteps n.key → Feeds s m p → Feeds s n p

theorem Feeds.attached {s : KState} {n p : Node} (h : Feeds s n p) (hn : n ∈ s.nodes)
    (hs : n.key.kind = .step) (hd : n.detached = false) :
    p ∈ s.nodes ∧ p.key.kind = .step ∧ p.detached = false := by
  induction h with
  | refl => exact ⟨hn, hs, hd⟩
  | step hm _ ih =>
    obtain ⟨hmn, h1, h2⟩ := consumer_mem hm
    exact ih hmn h1 h2

theorem implied_ge_feeds {s : KState} {cfg : KConfig} (hc : AfterConsistent s cfg) {n p : Node}
    (h : Feeds s n p) (hn : n ∈ s.nodes) (hs : n.key.kind = .step) (hd : n.detached = false) :
    p.impliedNeed.rank ≤ n.impliedNeed.rank ∧ (ownNeed s cfg p).rank ≤ n.impliedNeed.rank ∧ p.tail ≤ n.tail := by
  induction h with
  | refl => exact ⟨Nat.le_refl _, implied_ge_own (hc _ hn hs hd), Nat.le_refl _⟩
  | step hm _ ih =>
    obtain ⟨hmn, h1, h2⟩ := consumer_mem hm
    have := ih hmn h1 h2
    have hle := implied_ge_consumer (hc _ hn hs hd) hm
    have hlt := tail_gt_consumer (hc _ hn hs hd) hm
    exact ⟨Nat.le_trans this.1 hle, Nat.le_trans this.2.1 hle, by omega⟩

theorem implied_attained {s : KState} {cfg : KConfig} (hc : AfterConsistent s cfg)
    {n : Node} (hn : n ∈ s.nodes) (hs : n.key.kind = .step) (hd : n.detached = false) :
    ∃ p, Feeds s n p ∧ ownNeed s cfg p = n.impliedNeed := by
  refine consumer_induction hc (fun n => ∃ p, Feeds s n p ∧ ownNeed s cfg p = n.impliedNeed) ?_ n hn hs hd
  intro n hn hs hd ih
  rcases implied_cause (hc n hn hs hd) with h | ⟨m, hm, h⟩
  · exact ⟨n, .refl n, h.symm⟩
  · obtain ⟨p, hp, hown⟩ := ih m hm
    exact ⟨p, .step hm hp, hown.trans h⟩

/-- `_implied_need` is the maximum of the own needs of the step and of all attached steps it transitively feeds. -/
theorem implied_closed_form {s : KState} {cfg : KConfig} (hc : AfterConsistent s cfg)
    {n : Node} (hn : n ∈ s.nodes) (hs : n.key.kind = .step) (hd : n.detached = false) :
    (∀ p, Feeds s n p → (ownNeed s cfg p).rank ≤ n.impliedNeed.rank) ∧
    ∃ p, Feeds s n p ∧ ownNeed s cfg p = n.impliedNeed :=
  ⟨fun _ hp => (implied_ge_feeds hc hp hn hs hd).2.1, implied_attained hc hn hs hd⟩

theorem reason_passes_threshold {s : KState} {cfg : KConfig} (hc : AfterConsistent s cfg)
    {n p : Node} (hn : n ∈ s.nodes) (hs : n.key.kind = .step) (hd : n.detached = false)
    (hp : Feeds s n p) (hlt : cfg.threshold.rank < (ownNeed s cfg p).rank) :
    cfg.threshold.rank < n.impliedNeed.rank :=
  Nat.lt_of_lt_of_le hlt (implied_ge_feeds hc hp hn hs hd).2.1

theorem afterConsistent_no_consumer_cycle {s : KState} {cfg : KConfig} (hc : AfterConsistent s cfg)
    {n m : Node} (hn : n ∈ s.nodes) (hs : n.key.kind = .step) (hd : n.detached = false)
    (hm : m ∈ s.consumerSteps n.key) : ¬ Feeds s m n := by
  intro hf
  obtain ⟨hmn, h1, h2⟩ := consumer_mem hm
  have := (implied_ge_feeds hc hf hmn h1 h2).2.2
  have hlt := tail_gt_consumer (hc n hn hs hd) hm
  omega

theorem updateMetaSafe_neutral {s s1 : KState} (h : s.updateMetaSafe = .ok s1) :
    ∃ g, AfterNeutral g ∧ s1 = { s with nodes := s.nodes.map g } := by
  obtain ⟨g, hg, rfl⟩ := updateMetaSafe_rowMap h
  exact ⟨g, afterNeutral_of_erase MetaSafe.eraseSafe (fun _ => ⟨rfl, rfl, rfl, rfl⟩) hg, rfl⟩

theorem updateMeta_correct_weak (s s' : KState) (cfg : KConfig) (hk : KeysUnique s) (hc : CacheInvAfterW s cfg)
    (h : s.updateMeta cfg = .ok s') :
    AfterConsistent s' cfg ∧ (∀ n ∈ s'.nodes, n.key.kind = .step → n.checkAfter = false) ∧ KeysUnique s' := by
  have hk' : KeysUnique s' := (updateMeta_rowMap h).keysUnique (.of_blind _ fun _ => rfl) hk
  obtain ⟨s1, s2, h1, h2, rfl⟩ := updateMeta_ok h
  have hk1 : KeysUnique s1 := (updateMetaSafe_rowMap h1).keysUnique (.of_blind _ fun _ => rfl) hk
  obtain ⟨g, hg, rfl⟩ := updateMetaSafe_neutral h1
  obtain ⟨a, b, _⟩ := updateMetaAfter_correct_weak _ s2 cfg hk1 (hg.cacheInvW hc) h2
  obtain ⟨g3, hg3, e3⟩ := updateMetaReady_rowMap s2
  have hr : AfterNeutral g3 := afterNeutral_of_erase noReady (fun _ => ⟨rfl, rfl, rfl, rfl⟩) hg3
  rw [e3] at hk' ⊢
  exact ⟨hr.consistent a, hr.flags b, hk'⟩

theorem updateMeta_no_after_hang (s s1 : KState) (cfg : KConfig) (hac : Acyclic s)
    (h1 : s.updateMetaSafe = .ok s1) : ∃ s', s.updateMeta cfg = .ok s' := by
  obtain ⟨g, _, rfl⟩ := updateMetaSafe_neutral h1
  obtain ⟨s2, h2⟩ := updateMetaAfter_no_hang _ cfg (show Acyclic { s with nodes := s.nodes.map g } from hac)
  refine ⟨s2.updateMetaReady, ?_⟩
  unfold KState.updateMeta
  simp only [bind, Except.bind, h1, h2]
  rfl

/-- Every dispatched job has a reason: the step handed out by `pop_next_job` is, or transitively feeds through
attached steps, an attached step whose own need (declared, or TARGET because it produces a target of the build)
exceeds the threshold of the build; all read off the state on which the decision is taken. -/
theorem popNext_job_has_reason_weak (s s' : KState) (cfg : KConfig) (k : Key) (d : Dispatch)
    (hk : KeysUnique s) (hc : CacheInvAfterW s cfg) (h : s.popNext cfg (some k) = .ok (s', d)) :
    ∃ s1 n p, s.updateMeta cfg = .ok s1 ∧ AfterConsistent s1 cfg ∧ n ∈ s1.nodes ∧ n.key = k ∧
      Feeds s1 n p ∧ cfg.threshold.rank < (ownNeed s1 cfg p).rank ∧
      (ownNeed s1 cfg p = p.need ∨ (ownNeed s1 cfg p = .target ∧ TargetHit s1 cfg p)) := by
  obtain ⟨s1, hu, ⟨hcn, _⟩ | ⟨_, n, _, hk', hn, hkey, hel, _⟩⟩ := popNext_ok h
  · cases hcn
  · cases hk'
    obtain ⟨hcons, _⟩ := updateMeta_correct_weak s s1 cfg hk hc hu
    obtain ⟨hs, _, hd, _, _, _, hlt, _⟩ := (eligible_iff s1 cfg n).1 hel
    obtain ⟨p, hp, hown⟩ := implied_attained hcons hn hs hd
    exact ⟨s1, n, p, hu, hcons, hn, hkey, hp, hown ▸ hlt, ownNeed_cases s1 cfg p⟩

theorem popNext_job_has_reason (s s' : KState) (cfg : KConfig) (k : Key) (d : Dispatch)
    (hk : KeysUnique s) (hac : Acyclic s) (hc : CacheInvAfter s cfg)
    (h : s.popNext cfg (some k) = .ok (s', d)) :
    ∃ s1 n p, s.updateMeta cfg = .ok s1 ∧ AfterConsistent s1 cfg ∧ n ∈ s1.nodes ∧ n.key = k ∧
      Feeds s1 n p ∧ cfg.threshold.rank < (ownNeed s1 cfg p).rank ∧
      (ownNeed s1 cfg p = p.need ∨ (ownNeed s1 cfg p = .target ∧ TargetHit s1 cfg p)) :=
  popNext_job_has_reason_weak s s' cfg k d hk (cacheInvAfter_imp_weak hc) h

theorem updateMetaAfter_reachable_correct_weak (h : List (KConfig × Req)) (cfg : KConfig)
    (hc : CacheInvAfterW (KState.init.run h) cfg) :
    ∃ s', (KState.init.run h).updateMetaAfter cfg = .ok s' ∧ AfterConsistent s' cfg ∧
      (∀ n ∈ s'.nodes, n.key.kind = .step → n.checkAfter = false) ∧ AfterFrame (KState.init.run h) s' := by
  obtain ⟨s', hs'⟩ := updateMetaAfter_no_hang _ cfg (acyclic_reachable h)
  exact ⟨s', hs', updateMetaAfter_correct_weak _ s' cfg (keysNodup_reachable h) hc hs'⟩

theorem updateMetaAfter_reachable_correct (h : List (KConfig × Req)) (cfg : KConfig)
    (hc : CacheInvAfter (KState.init.run h) cfg) :
    ∃ s', (KState.init.run h).updateMetaAfter cfg = .ok s' ∧ AfterConsistent s' cfg ∧
      (∀ n ∈ s'.nodes, n.key.kind = .step → n.checkAfter = false) ∧ AfterFrame (KState.init.run h) s' :=
  updateMetaAfter_reachable_correct_weak h cfg (cacheInvAfter_imp_weak hc)

def RowKeep (n n' : Node) : Prop :=
  eraseAfter n' = eraseAfter n ∧
  (¬ (n.key.kind = .step ∧ n.detached = false) → n'.impliedNeed = n.impliedNeed ∧ n'.tail = n.tail) ∧
  (n.key.kind ≠ .step → n'.checkAfter = n.checkAfter)

/-- What `_update_meta_after` never writes of a row: all of it but the cached pair of an attached step and
the flag of a step. -/
def keptView (n : Node) : Node :=
  { n with
    impliedNeed := if n.key.kind = .step ∧ n.detached = false then .default else n.impliedNeed
    tail := if n.key.kind = .step ∧ n.detached = false then 0 else n.tail
    checkAfter := if n.key.kind = .step then false else n.checkAfter }

theorem rowKeep_of_kept {n n' : Node} (h : keptView n' = keptView n) : RowKeep n n' := by
  have he : eraseAfter n' = eraseAfter n := (congrArg eraseAfter h :)
  have h1 : (keptView n').impliedNeed = (keptView n).impliedNeed := congrArg Node.impliedNeed h
  have h2 : (keptView n').tail = (keptView n).tail := congrArg Node.tail h
  have h3 : (keptView n').checkAfter = (keptView n).checkAfter := congrArg Node.checkAfter h
  simp only [keptView, eraseAfter_key he, eraseAfter_detached he] at h1 h2 h3
  refine ⟨he, fun hc => ?_, fun hs => ?_⟩
  · rw [if_neg hc, if_neg hc] at h1 h2; exact ⟨h1, h2⟩
  · rw [if_neg hs, if_neg hs] at h3; exact h3

theorem kept_flags (b : Bool) (p : Node → Prop) [DecidablePred p] (hp : ∀ n, p n ↔ n.key.kind = .step) (n : Node) :
    keptView (if p n then { n with checkAfter := b } else n) = keptView n := by
  by_cases hs : p n
  · rw [if_pos hs]; unfold keptView; simp only [(hp n).1 hs, if_true]
  · rw [if_neg hs]

theorem kept_round (s : KState) (cfg : KConfig) (work : List Key) (first : Bool)
    (hw : ∀ n ∈ s.nodes, n.key ∈ work → n.key.kind = .step ∧ n.detached = false) :
    (s.applyAfterUpdates (s.afterUpdates cfg work first)).nodes.map keptView = s.nodes.map keptView := by
  rw [applyAfterUpdates_eq, List.map_map]
  refine List.map_congr_left fun n hn => ?_
  by_cases hwr : n.key ∈ (s.afterUpdates cfg work first).map (·.1)
  · obtain ⟨need, tail, hmem, heq⟩ := updateRow_written hwr
    have hatt := hw n hn (mem_afterUpdates_iff.1 hmem).1
    rw [Function.comp, heq]
    unfold keptView
    simp only [hatt, and_self, if_true]
  · rw [Function.comp, updateRow_not_written hwr]

theorem updateMetaAfter_kept (s s' : KState) (cfg : KConfig) (hk : KeysUnique s)
    (h : s.updateMetaAfter cfg = .ok s') : s'.nodes.map keptView = s.nodes.map keptView := by
  rcases updateMetaAfter_ok h with ⟨_, rfl⟩ | ⟨st, hst, rfl⟩
  · rfl
  obtain ⟨x, ⟨_, hkept, _⟩, _, rfl⟩ := (afterLoop_loop cfg).result
    (fun x => KeysUnique x.1 ∧ x.1.nodes.map keptView = s.nodes.map keptView ∧
      ∀ n ∈ x.1.nodes, n.key ∈ x.2.1 → n.key.kind = .step ∧ n.detached = false)
    (by
      intro x hx _
      dsimp only at hx ⊢
      have hk' := keysUnique_frame (frame_applyAfterUpdates x.1 (x.1.afterUpdates cfg x.2.1 x.2.2)) hx.1
      refine ⟨hk', (kept_round x.1 cfg x.2.1 x.2.2 hx.2.2).trans hx.2.1, fun n hn hn' => ?_⟩
      obtain ⟨_, n', hf, h1, h2⟩ := mem_propagateAfter.1 hn'
      rw [find?_of_mem hk' hn] at hf
      cases hf
      exact ⟨h1, h2⟩)
    (x := (s, afterWork s, true))
    ⟨hk, rfl, fun n hn hn' => by
      obtain ⟨n0, hn0, hkey, h1, h2, _⟩ := mem_afterWork.1 hn'
      rw [eq_of_nodup_map hk hn hn0 hkey.symm]
      exact ⟨h1, h2⟩⟩ hst
  show (x.1.nodes.map _).map keptView = _
  rw [List.map_map, ← hkept]
  exact List.map_congr_left fun n _ => kept_flags false _ (fun _ => decide_eq_true_iff) n

theorem updateMetaAfter_untouched (s s' : KState) (cfg : KConfig) (hk : KeysUnique s)
    (h : s.updateMetaAfter cfg = .ok s') :
    ∀ n ∈ s.nodes, ∀ n' ∈ s'.nodes, n'.key = n.key → RowKeep n n' := by
  intro n hn n' hn' hkey
  obtain ⟨b, hb, e⟩ := mem_of_map_eq keptView (updateMetaAfter_kept s s' cfg hk h) hn'
  rw [eq_of_nodup_map hk hn hb (hkey.symm.trans (congrArg Node.key e :))]
  exact rowKeep_of_kept e

/-- The equation of states needs of the run only that its result is consistent and unflagged: then the
two results agree on the cached pairs of attached steps (uniqueness), on the flags of steps (none),
and on everything else (`keptView`). -/
theorem eq_recomputeAfter_of_consistent (s s' : KState) (cfg : KConfig) (hac : Acyclic s) (hk : KeysUnique s)
    (h : s.updateMetaAfter cfg = .ok s') (hcons' : AfterConsistent s' cfg)
    (hflag' : ∀ n ∈ s'.nodes, n.key.kind = .step → n.checkAfter = false) : recomputeAfter s cfg = .ok s' := by
  obtain ⟨t, ht, hft, hcons⟩ := recomputeAfter_spec s cfg hac hk
  have hfr' := updateMetaAfter_frame s s' cfg h
  have huniq := afterConsistent_unique s' t cfg (keysUnique_frame hfr' hk) (hfr'.symm.trans hft) hcons' hcons
  have hkF := keysUnique_frame (frame_flagAll s) hk
  obtain ⟨_, hflagt, _⟩ := updateMetaAfter_correct (flagAll s) t cfg hkF (cacheInv_flagAll s cfg) ht
  have hkept : s'.nodes.map keptView = t.nodes.map keptView := by
    rw [updateMetaAfter_kept s s' cfg hk h, updateMetaAfter_kept (flagAll s) t cfg hkF ht]
    show _ = (s.nodes.map _).map keptView
    rw [List.map_map]
    exact (List.map_congr_left fun n _ => kept_flags true _ (fun _ => Iff.rfl) n).symm
  have hnodes : s'.nodes = t.nodes := by
    refine nodes_eq_of_view keptView _ _ hkept fun a ha b hb hab => ?_
    obtain ⟨he, hpair, hflag⟩ := rowKeep_of_kept hab
    have hkey : a.key = b.key := eraseAfter_key he
    -- the pair of an attached step is determined by consistency, the flag of a step is down in both; the rest is kept
    have hp : a.impliedNeed = b.impliedNeed ∧ a.tail = b.tail :=
      Classical.byCases (fun hc : b.key.kind = .step ∧ b.detached = false =>
        have h := huniq a ha b hb hkey.symm (hkey ▸ hc.1) (eraseAfter_detached he ▸ hc.2)
        ⟨h.1.symm, h.2.symm⟩) hpair
    have hc : a.checkAfter = b.checkAfter :=
      Classical.byCases (fun hs => by rw [hflag' a ha (hkey ▸ hs), hflagt b hb hs]) hflag
    exact eq_of_eraseAfter he hp.1 hp.2 hc
  rw [ht]
  congr 1
  cases s'; cases t
  simp only [KState.mk.injEq]
  exact ⟨hnodes.symm, hft.1.trans hfr'.1.symm, hft.2.1.trans hfr'.2.1.symm⟩

theorem updateMetaAfter_eq_recomputeAfter_weak (s s' : KState) (cfg : KConfig) (hac : Acyclic s)
    (hk : KeysUnique s) (hc : CacheInvAfterW s cfg) (h : s.updateMetaAfter cfg = .ok s') :
    recomputeAfter s cfg = .ok s' := by
  obtain ⟨h1, h2, _⟩ := updateMetaAfter_correct_weak s s' cfg hk hc h
  exact eq_recomputeAfter_of_consistent s s' cfg hac hk h h1 h2

theorem updateMetaAfter_eq_recomputeAfter (s s' : KState) (cfg : KConfig) (hac : Acyclic s) (hk : KeysUnique s)
    (hc : CacheInvAfter s cfg) (h : s.updateMetaAfter cfg = .ok s') : recomputeAfter s cfg = .ok s' :=
  updateMetaAfter_eq_recomputeAfter_weak s s' cfg hac hk (cacheInvAfter_imp_weak hc) h

theorem updateMetaAfter_eq_recompute (s s' : KState) (cfg : KConfig) (hac : Acyclic s) (hk : KeysUnique s)
    (hc : CacheInvAfter s cfg) (h : s.updateMetaAfter cfg = .ok s') :
    ∃ t, recomputeAfter s cfg = .ok t ∧
      ∀ n ∈ s'.nodes, ∀ m ∈ t.nodes, m.key = n.key → n.key.kind = .step → n.detached = false →
        n.impliedNeed = m.impliedNeed ∧ n.tail = m.tail := by
  refine ⟨s', updateMetaAfter_eq_recomputeAfter s s' cfg hac hk hc h, fun n hn m hm hkey _ _ => ?_⟩
  rw [eq_of_nodup_map (keysUnique_frame (updateMetaAfter_frame s s' cfg h) hk) hm hn hkey]
  exact ⟨rfl, rfl⟩

/-! ## Executable forms (for a driver request or an oracle) -/

theorem afterLocalB_iff (s : KState) (cfg : KConfig) (n : Node) : afterLocalB s cfg n = true ↔ AfterLocal s cfg n :=
  decide_eq_true_iff

theorem afterConsistentB_iff (s : KState) (cfg : KConfig) : afterConsistentB s cfg = true ↔ AfterConsistent s cfg := by
  simp only [afterConsistentB, AfterConsistent, List.all_eq_true, bnot_or_iff, Bool.and_eq_true, decide_eq_true_eq,
    Bool.not_eq_true', afterLocalB_iff, and_imp]

theorem cacheInvAfterB_iff (s : KState) (cfg : KConfig) : cacheInvAfterB s cfg = true ↔ CacheInvAfter s cfg := by
  simp only [cacheInvAfterB, CacheInvAfter, List.all_eq_true, bnot_or_iff, Bool.and_eq_true, decide_eq_true_eq,
    Bool.not_eq_true', afterLocalB_iff, and_imp]

theorem cacheInvAfterWB_iff (s : KState) (cfg : KConfig) : cacheInvAfterWB s cfg = true ↔ CacheInvAfterW s cfg := by
  simp only [cacheInvAfterWB, CacheInvAfterW, List.all_eq_true, bnot_or_iff]
  simp only [Bool.and_eq_true, decide_eq_true_eq, Bool.not_eq_true', Bool.or_eq_true, List.any_eq_true, afterLocalB_iff,
    and_imp]

instance (s : KState) (cfg : KConfig) : Decidable (AfterConsistent s cfg) := decidable_of_iff _ (afterConsistentB_iff s cfg)
instance (s : KState) (cfg : KConfig) : Decidable (CacheInvAfter s cfg) := decidable_of_iff _ (cacheInvAfterB_iff s cfg)
instance (s : KState) (cfg : KConfig) : Decidable (CacheInvAfterW s cfg) := decidable_of_iff _ (cacheInvAfterWB_iff s cfg)

/-! ## Non-vacuity: a three-step example, and why the hypotheses are needed -/

/-- `a → f → b → t`, plus an unrelated optional step `c → g`; `t` is the target of the build.
All three steps are flagged and carry the defaults of a fresh row. -/
def exState : KState :=
  { nodes := [
      { key := rootKey, creator := some rootKey },
      { key := stepKey "a", creator := some rootKey, need := .optional, checkAfter := true },
      { key := fileKey "f", creator := some (stepKey "a"), fstate := .built, fhash := some 1 },
      { key := stepKey "b", creator := some rootKey, need := .optional, checkAfter := true },
      { key := fileKey "t", creator := some (stepKey "b"), fstate := .built, fhash := some 2 },
      { key := stepKey "c", creator := some rootKey, need := .optional, checkAfter := true },
      { key := fileKey "g", creator := some (stepKey "c"), fstate := .built, fhash := some 3 }],
    deps := [
      { src := stepKey "a", snk := fileKey "f" }, { src := fileKey "f", snk := stepKey "b" },
      { src := stepKey "b", snk := fileKey "t" }, { src := stepKey "c", snk := fileKey "g" }] }

def exCfg : KConfig := { targets := ["t"] }

def exCols (s : KState) : List (String × Need × Nat × Bool) :=
  (s.nodes.filter fun n => n.key.kind = .step).map fun n => (n.key.label, n.impliedNeed, n.tail, n.checkAfter)

/-- The run needs two rounds, and the result is what the closed form says: the producer of the target and its
(optional) supplier are TARGET, the unrelated optional step stays OPTIONAL. -/
example : KeysUnique exState ∧ Acyclic exState ∧ CacheInvAfter exState exCfg ∧
    ((exState.updateMetaAfter exCfg).toOption.map exCols) =
      some [("a", .target, 2, false), ("b", .target, 1, false), ("c", .optional, 1, false)] := by
  decide +kernel

/-- The flag discipline is needed: an unflagged stale row survives (this is the shape of the two
stale-`_implied_need` defects), and `_update_meta_after` does not notice. -/
def staleState : KState :=
  { nodes := [
      { key := rootKey, creator := some rootKey },
      { key := stepKey "a", creator := some rootKey, need := .optional, impliedNeed := .plan, checkAfter := false }] }

example : KeysUnique staleState ∧ Acyclic staleState ∧ ¬ CacheInvAfter staleState {} ∧
    staleState.updateMetaAfter {} = .ok staleState ∧ ¬ AfterConsistent staleState {} := by
  exact ⟨by decide +kernel, by decide +kernel, by decide +kernel, rfl, by decide +kernel⟩

/-- Acyclicity is needed for termination: on `a → f → b → g → a` the tail times grow for ever (the
SQL loop of `_update_meta_after` would not end), and no assignment satisfies the local equations. -/
def cycState : KState :=
  { nodes := [
      { key := rootKey, creator := some rootKey },
      { key := stepKey "a", creator := some rootKey, checkAfter := true },
      { key := fileKey "f", creator := some (stepKey "a"), fstate := .built, fhash := some 1 },
      { key := stepKey "b", creator := some rootKey, checkAfter := true },
      { key := fileKey "g", creator := some (stepKey "b"), fstate := .built, fhash := some 2 }],
    deps := [
      { src := stepKey "a", snk := fileKey "f" }, { src := fileKey "f", snk := stepKey "b" },
      { src := stepKey "b", snk := fileKey "g" }, { src := fileKey "g", snk := stepKey "a" }] }

example : KeysUnique cycState ∧ CacheInvAfter cycState {} ∧ ¬ Acyclic cycState ∧
    (match cycState.updateMetaAfter {} with | .error .hang => true | _ => false) = true := by
  decide +kernel

end StepupModel.K.MetaAfter
