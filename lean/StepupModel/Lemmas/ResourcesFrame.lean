import StepupModel.Lemmas.StableW
/-!
# Predicates that are stable under the writes that start no command and change no resource row

The `stepWrite` leaf of `StableG` is `UPDATE step SET state = ?` for *every* new state and its `cache`
leaf covers every payload column, `step_resource` included, so no predicate that limits what the RUNNING
steps hold can be stable in that sense.  `StableRes` is `StableG` with

* `stepWrite` only for a new state other than RUNNING,
* `cache` only for row updates that also keep the `step_resource` rows (`CacheOnlyRes`),
* no guard on `hold`.

Such a predicate survives the writes of `Lemmas/StableW.lean` with `set_state(RUNNING)` ruled out
(`StableRes.toW`), or allowed on the steps that a guard `R` admits if it survives that one write too
(`StableRes.toWR`), so every operation of the kernel model keeps it except for the two writes that are
left out: `Step.set_state(RUNNING)` (`pop_next_job`, request `setState`) and `Step.set_resources`
(`define_step`); the request level is in `Lemmas/Resources.lean`.  Every `Stable` predicate (`StableG` without
a guard on `hold`) is a `StableRes` (`StableG.toRes`).
-/
namespace StepupModel.K

/-- `StableG` (see `Lemmas/Stable.lean` for the other fields) without `Step.set_state(RUNNING)` and
without writes of `step_resource`. -/
structure StableRes (P : KState → Prop) : Prop where
  /-- any update of cache and payload columns other than the resources, on any set of rows -/
  cache : ∀ (s : KState) (p : Node → Bool) (f : Node → Node), CacheOnlyRes f → P s → P (s.modifyWhere p f)
  detached : ∀ (s : KState) (k : Key) (d : Bool), P s → P (s.modify k fun n => { n with detached := d })
  creator : ∀ (s : KState) (k : Key) (c : Option Key) (d : Bool), s.creatorAllowed k c d = true → P s →
    P (s.modify k fun n => { n with creator := c })
  handOverRow : ∀ (s : KState) (k tk : Key), P s → P (s.modify k fun n => { n with creator := some tk })
  fileWrite : ∀ (s : KState) (k : Key) (n n' : Node) (st : FileState) (nh : Option (Option Nat)),
    s.find? k = some n → fileRowWrite n st nh = .ok n' → P s → P (s.modify k fun _ => n')
  fileInit : ∀ (s : KState) (k : Key) (st : FileState), NoHashState st →
    (st = .undeclared → s.isDetached k = true) → P s →
    P (s.modify k fun n => { n with fstate := st, fhash := none })
  /-- `UPDATE step SET state = ?[, deferred = ?]` to a state other than RUNNING -/
  stepWrite : ∀ (s : KState) (k : Key) (n n' : Node) (st : StepState) (d : Option Bool), st ≠ .running →
    s.find? k = some n → stepRowWrite n st d = .ok n' → P s → P (s.modify k fun _ => n')
  stepInit : ∀ (s : KState) (k : Key) (i : StepInit), P s → P (s.initStepRow k i)
  setHash : ∀ (s : KState) (k : Key) (h : Nat), P s → P (s.setHash k h)
  deleteHash : ∀ (s : KState) (k : Key), P s → P (s.deleteHash k)
  bumpDefer : ∀ (s : KState) (k : Key), P s → P (s.modify k fun n => { n with deferCount := n.deferCount + 1 })
  hold : ∀ (s : KState) (k : Key), P s → P (s.modify k fun n => { n with holding := n.holding + 1 })
  release : ∀ (s : KState) (k : Key) (n : Node), s.find? k = some n → n.holding ≠ 0 → P s →
    P (s.modify k fun n => { n with holding := n.holding - 1 })
  recycled : ∀ (s : KState) (k : Key) (need : Need) (shell : Bool), P s →
    P (s.modify k fun n => { n with need := need, shell := shell })
  addDep : ∀ (s : KState) (src snk : Key), s.hasDep src snk = false → depKindOk src.kind snk.kind = true → P s →
    P { s with deps := s.deps ++ [({ src := src, snk := snk } : Dep)] }
  filterDeps : ∀ (s : KState) (p : Dep → Bool), P s → P { s with deps := s.deps.filter fun d => !p d }
  markDyn : ∀ (s : KState) (src snk : Key) (dyn : Bool), P s →
    P { s with deps := s.deps.map fun (d : Dep) => if d.src = src ∧ d.snk = snk then { d with dyn := dyn } else d }
  appendNode : ∀ (s : KState) (k : Key) (c : Option Key), s.find? k = none → s.insertAllowed k c = true → P s →
    P (s.appendNode k c)
  removeNode : ∀ (s : KState) (k : Key), (∀ d ∈ s.deps, d.snk ≠ k) → P s →
    P { s with nodes := s.nodes.filter (·.key ≠ k) }
  queueDelete : ∀ (s : KState) (path : String) (h : Option Nat), P s → P (s.queueDelete path h)
  clearQueue : ∀ (s : KState), P s → P { s with toBeDeleted := [] }

theorem StableG.toRes {P : KState → Prop} (L : Stable P) : StableRes P :=
  { L with
    cache := fun s p f hf hp => L.cache s p f (fun n => (hf n).1) hp
    stepWrite := fun s k n n' st d _ => L.stepWrite s k n n' st d
    hold := fun s k hp => L.hold s k trivial hp }

namespace StableRes
variable {P : KState → Prop}

theorem toW (L : StableRes P) : StableW (fun _ => true) (fun _ _ => True) (fun _ _ => False) P :=
  StableW.ofFine (cache := L.cache) (fileWrite := fun _ => L.fileWrite)
    (keepRole := nofun) (outdate := nofun)
    (stepWrite := fun s k n n' st d _ hr => L.stepWrite s k n n' st d hr) (stepInit := fun _ => L.stepInit)
    (setHash := fun _ => L.setHash) (deleteHash := fun _ => L.deleteHash) (bumpDefer := fun _ => L.bumpDefer)
    (hold := fun _ s k _ => L.hold s k) (release := fun _ => L.release) (recycled := fun _ => L.recycled)
    (addDep := fun s a b _ _ => L.addDep s a b) (filterDeps := fun _ => L.filterDeps)
    (filterStepDeps := fun _ s p _ => L.filterDeps s p) (markDyn := fun _ => L.markDyn)
    (queueDelete := fun _ => L.queueDelete) (clearQueue := fun _ => L.clearQueue) (detached := fun _ => L.detached)
    (creator := fun s k c d _ => L.creator s k c d) (handOverRow := fun _ => L.handOverRow)
    (freshFile := fun _ s k c st hf hins hst hund hp => L.fileInit _ k st hst hund (L.appendNode s k c hf hins hp))
    (appendNode := fun _ s k c _ => L.appendNode s k c) (removeNode := fun _ => L.removeNode)

theorem toWR {R : KState → Key → Prop} (L : StableRes P)
    (run : ∀ (s : KState) (k : Key) (n n' : Node) (d : Option Bool), R s k → s.find? k = some n →
      stepRowWrite n .running d = .ok n' → P s → P (s.modify k fun _ => n')) :
    StableW (fun _ => true) (fun _ _ => True) R P :=
  { L.toW with
    stepWrite := fun s k n n' st d _ hr hf hw hp => by
      by_cases hst : st = .running
      · subst hst; exact run s k n n' d (hr rfl) hf hw hp
      · exact L.stepWrite s k n n' st d hst hf hw hp }

theorem setDetachedRec (L : StableRes P) (s : KState) (k : Key) (d : Bool) (hp : P s) : P (s.setDetachedRec k d) :=
  L.toW.setDetachedRec rfl s k d hp

end StableRes

namespace Resources

/-- The row is a step whose command runs: it holds its resources. -/
def runs (n : Node) : Bool := decide (n.key.kind = .step ∧ n.sstate = .running)

theorem runs_iff (n : Node) : runs n = true ↔ n.key.kind = .step ∧ n.sstate = .running := by
  unfold runs; simp

def Calm (n n' : Node) : Prop := n'.key = n.key ∧ n'.resources = n.resources ∧ (runs n' = true → runs n = true)

theorem Calm.refl (n : Node) : Calm n n := ⟨rfl, rfl, id⟩

theorem calm_of_cache {f : Node → Node} (hf : CacheOnlyRes f) (n : Node) : Calm n (f n) :=
  have hc : CacheOnly f := fun n => (hf n).1
  ⟨hc.key n, (hf n).2, fun hh => by rw [runs, hc.key n, hc.sstate n] at hh; exact hh⟩

theorem calm_idle {n n' : Node} (hk : n'.key = n.key) (hr : n'.resources = n.resources) (hs : n'.sstate ≠ .running) :
    Calm n n' :=
  ⟨hk, hr, fun hh => absurd ((runs_iff n').1 hh).2 hs⟩

theorem runs_newRow (s : KState) (k : Key) (c : Option Key) : runs (newRow s k c) = false := by
  unfold runs newRow; simp

theorem fileRowWrite_frame {n n' : Node} {st : FileState} {nh : Option (Option Nat)}
    (h : fileRowWrite n st nh = .ok n') : Calm n n' := by
  rw [fileRowWrite_eq h]; exact ⟨rfl, rfl, id⟩

theorem stepRowWrite_cols {n n' : Node} {st : StepState} {d : Option Bool}
    (h : stepRowWrite n st d = .ok n') : n'.key = n.key ∧ n'.resources = n.resources ∧ n'.sstate = st := by
  rw [stepRowWrite_eq h]; exact ⟨rfl, rfl, rfl⟩

end Resources

open Resources in
/-- The fields of `StableRes` come down to four obligations on the row list (`hnodes`: `P` reads nothing else). -/
theorem StableRes.ofCalm (P : KState → Prop)
    (hnodes : ∀ s s' : KState, s'.nodes = s.nodes → P s → P s')
    (hmap : MapStable Calm P)
    (hrep : ∀ (s : KState) (k : Key) (n n' : Node), s.find? k = some n → Calm n n' → P s → P (s.modify k fun _ => n'))
    (hdrop : ∀ (s : KState) (p : Node → Bool), P s → P { s with nodes := s.nodes.filter p })
    (happ : ∀ (s : KState) (k : Key) (c : Option Key), s.find? k = none → s.insertAllowed k c = true → P s →
      P (s.appendNode k c)) : StableRes P :=
  have at_k (s : KState) (k : Key) (f : Node → Node) (hf : ∀ n, Calm n (f n)) : P s → P (s.modify k f) :=
    hmap.modify Calm.refl s k f fun n _ _ => hf n
  { cache := fun s p f hf => hmap.modifyWhere Calm.refl s p f fun n _ _ => calm_of_cache hf n
    detached := fun s k _ => at_k s k _ fun _ => Calm.refl _
    creator := fun s k _ _ _ => at_k s k _ fun _ => Calm.refl _
    handOverRow := fun s k _ => at_k s k _ fun _ => Calm.refl _
    fileWrite := fun s k n n' _ _ hf hw => hrep s k n n' hf (fileRowWrite_frame hw)
    fileInit := fun s k _ _ _ => at_k s k _ fun _ => Calm.refl _
    stepWrite := fun s k n n' _ _ hst hf hw =>
      hrep s k n n' hf (calm_idle (stepRowWrite_cols hw).1 (stepRowWrite_cols hw).2.1 ((stepRowWrite_cols hw).2.2 ▸ hst))
    stepInit := fun s k _ => at_k s k _ fun _ => calm_idle rfl rfl nofun
    setHash := fun s k _ => at_k s k _ fun _ => Calm.refl _
    deleteHash := fun s k => at_k s k _ fun n => ite_both (Calm n) (Calm.refl _) (Calm.refl _)
    bumpDefer := fun s k => at_k s k _ fun _ => Calm.refl _
    hold := fun s k => at_k s k _ fun _ => Calm.refl _
    release := fun s k _ _ _ => at_k s k _ fun _ => Calm.refl _
    recycled := fun s k _ _ => at_k s k _ fun _ => Calm.refl _
    addDep := fun s _ _ _ _ => hnodes s _ rfl
    filterDeps := fun s _ => hnodes s _ rfl
    markDyn := fun s _ _ _ => hnodes s _ rfl
    appendNode := happ
    removeNode := fun s _ _ => hdrop s _
    queueDelete := fun s _ _ => hnodes s _ rfl
    clearQueue := fun s => hnodes s _ rfl }

namespace Resources

def Dom (D : Key → List (String × Nat) → Prop) (s : KState) : Prop :=
  ∀ n ∈ s.nodes, runs n = true → D n.key n.resources

variable {D : Key → List (String × Nat) → Prop}

theorem dom_map : MapStable Calm (Dom D) := fun s g hg hp n hn hr => by
  obtain ⟨m, hm, rfl⟩ := List.mem_map.1 hn
  rw [(hg m hm).1, (hg m hm).2.1]
  exact hp m hm ((hg m hm).2.2 hr)

theorem dom_replace {s : KState} (k : Key) {n' : Node} (hdom : runs n' = true → D n'.key n'.resources)
    (hp : Dom D s) : Dom D (s.modify k fun _ => n') := fun m hm => by
  obtain ⟨m0, hm0, rfl⟩ := mem_modify hm
  exact ite_both (fun m : Node => runs m = true → D m.key m.resources) hdom (hp m0 hm0)

theorem dom_append {s : KState} (k : Key) (c : Option Key) (hp : Dom D s) : Dom D (s.appendNode k c) :=
  fun n hn hr => by
    rcases mem_appendNode.1 hn with hn | rfl
    · exact hp n hn hr
    · rw [runs_newRow] at hr; cases hr

theorem stableRes_dom (D : Key → List (String × Nat) → Prop) : StableRes (Dom D) :=
  StableRes.ofCalm _ (fun s s' he hp => by unfold Dom; rw [he]; exact hp) dom_map
    (fun s k n n' hf hc hp => dom_replace k (fun hr => hc.1 ▸ hc.2.1 ▸ hp n (find_mem hf) (hc.2.2 hr)) hp)
    (fun s p hp n hn => hp n (List.mem_filter.1 hn).1)
    (fun s k c _ _ => dom_append k c)

end Resources

end StepupModel.K
