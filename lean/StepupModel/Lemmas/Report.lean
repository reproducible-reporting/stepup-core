import StepupModel.P.Report
/-!
`returnCode` in closed form, by the three ways through `report_unbuilt`: draining; nothing wrong before
the globs (`CleanBeforeGlobs`), where the glob violations alone decide; anything else, where they are not
looked at (C19).
-/
namespace StepupModel.P.Report
open StepupModel.K

def anyFailed (i : Input) : Prop := ∃ r ∈ i.steps, r.state = .failed ∧ r.detached = false

def anyPending (i : Input) : Prop :=
  ∃ r ∈ i.steps, r.state = .pending ∧ i.threshold.rank < r.impliedNeed.rank ∧ r.detached = false

theorem nfailed_pos (i : Input) : 0 < nfailed i ↔ anyFailed i := by
  simp [nfailed, anyFailed, List.length_filter_pos_iff, isFailedRow]

theorem ntotal_pos (i : Input) : 0 < ntotal i ↔ anyPending i := by
  simp [ntotal, anyPending, List.length_filter_pos_iff, isPendingRow, and_assoc]

theorem nfailed_eq_zero (i : Input) : nfailed i = 0 ↔ ¬ anyFailed i := by
  rw [← nfailed_pos, Nat.pos_iff_ne_zero, Decidable.not_not]

theorem ntotal_eq_zero (i : Input) : ntotal i = 0 ↔ ¬ anyPending i := by
  rw [← ntotal_pos, Nat.pos_iff_ne_zero, Decidable.not_not]

/-- Nothing but glob violations is wrong: the condition under which the code looks at them. -/
def CleanBeforeGlobs (i : Input) : Prop :=
  ¬ anyFailed i ∧ i.draining = false ∧ ¬ anyPending i ∧ i.missingTargets = 0 ∧ i.missingDirs = 0 ∧
    i.invalidTargets = 0

theorem returnCode_draining (i : Input) (h : i.draining = true) :
    returnCode i = { failed := decide (0 < nfailed i), drained := true } := by
  simp [returnCode, reportUnbuilt, h]

theorem returnCode_clean (i : Input) (h : CleanBeforeGlobs i) :
    returnCode i = { failed := decide (0 < i.globErrors), warning := decide (0 < i.globWarnings) } := by
  obtain ⟨nf, hd, np, h1, h2, h3⟩ := h
  simp [returnCode, reportUnbuilt, hd, (nfailed_eq_zero i).mpr nf, (ntotal_eq_zero i).mpr np, h1, h2, h3,
    Flags.isZero, Flags.or, reportGlobs]

theorem returnCode_not_clean (i : Input) (hd : i.draining = false) (h : ¬ CleanBeforeGlobs i) :
    returnCode i = { failed := decide (0 < nfailed i) || decide (0 < i.invalidTargets),
                     pending := decide (0 < ntotal i),
                     warning := decide (0 < i.missingTargets) || decide (0 < i.missingDirs) } := by
  simp only [returnCode, reportUnbuilt, hd, Bool.false_eq_true, if_false]
  rw [if_neg]
  intro hz
  simp [Flags.isZero] at hz
  exact h ⟨(nfailed_eq_zero i).mp hz.1.1.1, hd, (ntotal_eq_zero i).mp hz.2, hz.1.2.1, hz.1.2.2, hz.1.1.2⟩

end StepupModel.P.Report
