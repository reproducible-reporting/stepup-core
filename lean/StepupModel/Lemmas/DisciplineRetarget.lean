import StepupModel.Lemmas.DisciplineRequests
/-!
# The flag discipline across a change of the target sets: `reconcile_targets`

`KState.run` lets the configuration vary from request to request; the theorems of
`Lemmas/Discipline.lean` fix the target sets.  A new director with other targets calls
`Workflow.reconcile_targets` before its first dispatch: it flags the steps whose `_implied_need` is
`TARGET` (the old sets may have made it so), the creators of the new exact targets and the producers of the files
under the new target directories.  That is all a change of the target sets owes (`cacheInvW_retarget`), so the
discipline for the old sets becomes the discipline for the new ones (`reconcileTargets_retarget`).  `Struct` and
`Forest` come in because for an exact target it flags the *creator* of the file where the local equation reads the
*producer*: for a regular output they are the same step (`creatorStep_of_regularOutput`).
-/
namespace StepupModel.K.Discipline
open StepupModel.K.MetaAfter StepupModel.K.Sk StepupModel.Generated

theorem afterCore_retarget {cfgO cfgN : KConfig} {need : Need} {outs : List String} {cons : List (Need × Nat)}
    {implied : Need} {tail : Nat} (h : (implied, tail) = afterCore cfgO need outs cons) (hne : implied ≠ .target)
    (hno : targetTerm cfgN need outs = .target → targetTerm cfgO need outs = .target) :
    (implied, tail) = afterCore cfgN need outs cons := by
  have h1 : implied = (afterCore cfgO need outs cons).1 := congrArg Prod.fst h
  rw [afterCore_fst, foldl_need_init] at h1
  refine h.trans (Prod.ext ?_ rfl)
  rw [afterCore_fst, afterCore_fst, foldl_need_init, foldl_need_init]
  rcases targetTerm_cases cfgN need outs with hN | hN
  · rw [hN, hno hN]
  · rcases targetTerm_cases cfgO need outs with hO | hO
    · -- the old term was TARGET and the cached need is not: the consumers and the declared need alone give it
      rw [hO] at h1 ⊢
      rw [hN, max_optional]
      exact (max_eq_or _ _).resolve_right fun hx => hne (h1.trans hx)
    · rw [hN, hO]

theorem cacheInvW_retarget {s : KState} {cfgO cfgN : KConfig} (hw : CacheInvAfterW s cfgO)
    (hfl : ∀ n ∈ s.nodes, n.key.kind = .step → n.detached = false → n.impliedNeed = .target ∨ TargetHit s cfgN n →
      n.checkAfter = true) : CacheInvAfterW s cfgN := by
  intro n hn hs ha hf
  have hcold : ¬ (n.impliedNeed = .target ∨ TargetHit s cfgN n) := fun hx => by
    rw [hfl n hn hs ha hx] at hf; cases hf
  refine (hw n hn hs ha hf).imp (fun hloc => ?_) id
  unfold AfterLocal at hloc ⊢
  rw [afterValues_eq_core] at hloc ⊢
  exact afterCore_retarget hloc (fun hi => hcold (.inl hi)) fun hnew => (hcold (.inr (targetTerm_target.1 hnew))).elim

theorem forbidden_iff (a : FileState) :
    Enums.targetForbiddenStates.contains a = true ↔ (a.role? = some .static ∨ a = .volatile) := by
  cases a <;> simp [Enums.targetForbiddenStates, FileState.role?]

theorem reconcileTarget_rel {st st' : KState} {t : String} (h : st.reconcileTarget t = .ok st') : SoftRel st st' := by
  rcases reconcileTarget_ok h with rfl | ⟨c, rfl⟩
  · exact SoftRel.refl _
  · exact softRel_modify st c (softFn_quiet fun _ => ⟨rfl, fun _ => rfl, id⟩)

theorem reconcileFold_rel (L : List String) (s0 s1 : KState) (h : L.foldlM (fun st t => st.reconcileTarget t) s0 = .ok s1) :
    SoftRel s0 s1 :=
  foldlM_keeps (fun u => SoftRel s0 u) _ L (fun _ _ _ _ ha hb => ha.trans (reconcileTarget_rel hb)) s0 s1 (SoftRel.refl s0) h

theorem reconcileTarget_flags {st st' : KState} {t : String} {f : Node} {c : Key} (hf : st.find? (fileKey t) = some f)
    (hd : f.detached = false) (hnf : ¬ Enums.targetForbiddenStates.contains f.fstate = true)
    (hc : st.creatorStep f.key = some c) (h : st.reconcileTarget t = .ok st') :
    ∀ n' ∈ st'.nodes, n'.key = c → n'.checkAfter = true := by
  unfold KState.reconcileTarget at h
  simp only [hf] at h
  rw [if_neg (by rw [hd]; decide)] at h
  rw [if_neg hnf] at h
  simp only [hc, pure, Except.pure, Except.ok.injEq] at h
  subst h
  intro n' hn' hk'
  obtain ⟨m, _, rfl⟩ := mem_modify hn'
  by_cases hm : m.key = c
  · rw [if_pos hm]
  · rw [if_neg hm] at hk'; exact absurd hk' hm

theorem creatorStep_of_regularOutput {s : KState} {c : Key} {o : String} (hS : Struct s) (hFo : Forest s)
    (hcs : c.kind = .step) (hh : Has s c) (ho : o ∈ s.regularOutputs c) :
    ∃ f, s.find? (fileKey o) = some f ∧ f.detached = false ∧ ¬ Enums.targetForbiddenStates.contains f.fstate = true ∧
      s.creatorStep f.key = some c := by
  obtain ⟨k, ⟨⟨dp, hdm, hsrc, hsnk⟩, f, hfk, hfile, hreg⟩, hko⟩ := mem_regularOutputs.1 ho
  have hkf : k = fileKey o := by
    have h1 : k.kind = .file := find_key hfk ▸ hfile
    cases k; cases h1; cases hko; rfl
  rw [lookupRegularOutput_eq] at hreg
  simp only [Bool.and_eq_true, Bool.not_eq_eq_eq_not, Bool.not_true, decide_eq_true_eq] at hreg
  obtain ⟨hown, hrole⟩ := hS.own dp hdm (hsrc ▸ hcs) f (hsnk ▸ hfk)
  have hfroot : f.key ≠ rootKey := fun he => by rw [he] at hfile; cases hfile
  obtain ⟨c', _, hcc, _⟩ := hFo.attached_creator (find_mem hfk) hfroot hreg.1
  refine ⟨f, hkf ▸ hfk, hreg.1, ?_, ?_⟩
  · rw [forbidden_iff]
    exact fun hx => hx.elim hrole hreg.2
  · rw [find_key hfk]
    exact creatorStep_of_creator hfk (hcc.trans (congrArg some ((hown c' hcc).trans hsrc))) hcs hh

/-- The iterations before the one for `o` are soft changes, which keep what makes that one flag `c`; the iterations
after it keep the flag. -/
theorem reconcileFold_flags (L : List String) {o : String} (ho : o ∈ L) {c : Key} {s0 s1 : KState}
    (hS : Struct s0) (hFo : Forest s0) (hcs : c.kind = .step) (hh : Has s0 c) (hout : o ∈ s0.regularOutputs c)
    (h : L.foldlM (fun st t => st.reconcileTarget t) s0 = .ok s1) : ∀ n' ∈ s1.nodes, n'.key = c → n'.checkAfter = true := by
  obtain ⟨l1, l2, rfl⟩ := List.append_of_mem ho
  rw [List.foldlM_append] at h
  obtain ⟨sa, ha, h⟩ := bind_ok_inv h
  rw [List.foldlM_cons] at h
  obtain ⟨sb, hb, h⟩ := bind_ok_inv h
  have hst := reconcileFold_rel l1 s0 sa ha
  obtain ⟨f, hf, hd, hnf, hc⟩ := creatorStep_of_regularOutput (struct_of_rel hst.struct hS)
    (forest_of_skel (skel_of_soft hst) hFo) hcs (has_soft hst hh) (hst.regularOutputs c ▸ hout)
  intro n' hn' hk'
  obtain ⟨m, hm, hr⟩ := all₂_mem_right (reconcileFold_rel l2 sb s1 h).rows n' hn'
  exact hr.2.2.2.1 (reconcileTarget_flags hf hd hnf hc hb m hm (hr.1 ▸ hk'))

theorem reconcileTargetDirs_flags {s : KState} {cfg : KConfig} {n' : Node} (hn' : n' ∈ (s.reconcileTargetDirs cfg).nodes)
    (hs : n'.key.kind = .step)
    (h : (s.regularOutputs n'.key).any (fun o => cfg.targetDirs.any fun d => underDir d o) = true) :
    n'.checkAfter = true := by
  obtain ⟨o, ho, hod⟩ := List.any_eq_true.1 h
  obtain ⟨k, ⟨⟨dp, hdm, hsrc, hsnk⟩, f, hfk, hfile, hreg⟩, hko⟩ := mem_regularOutputs.1 ho
  unfold KState.reconcileTargetDirs at hn'
  obtain ⟨n1, _, hk1, _, _, hsel⟩ := flagPass_rows hn' (fun _ => rfl) (fun _ => rfl) (fun _ => rfl)
  apply hsel
  simp only [decide_eq_true_eq, ← hk1, hs, true_and]
  rw [List.contains_iff_mem, List.mem_filterMap]
  refine ⟨dp, hdm, ?_⟩
  rw [hsnk, hfk]
  simp only
  rw [if_pos ⟨hfile, hreg, by rw [find_key hfk, hko]; exact hod⟩, hsrc]

theorem reconcileTargets_rel {s s' : KState} {cfg : KConfig} (h : s.reconcileTargets cfg = .ok s') : SoftRel s s' := by
  obtain ⟨s1, e1, rfl⟩ := reconcileTargets_ok h
  exact ((softRel_flagWhere s _).trans (reconcileFold_rel _ _ s1 e1)).trans (softRel_flagWhere s1 _)

theorem reconcileTargets_flags {cfg : KConfig} {s s' : KState} (hS : Struct s) (hFo : Forest s)
    (h : s.reconcileTargets cfg = .ok s') :
    ∀ n' ∈ s'.nodes, n'.key.kind = .step → n'.detached = false → n'.impliedNeed = .target ∨ TargetHit s' cfg n' →
      n'.checkAfter = true := by
  intro n' hn' hs _ hhit
  obtain ⟨s1, e1, rfl⟩ := reconcileTargets_ok h
  have r0 := softRel_flagWhere s fun n => n.key.kind = .step ∧ n.impliedNeed = .target
  have r1 := reconcileFold_rel _ _ s1 e1
  have r2 : SoftRel s1 (s1.reconcileTargetDirs cfg) := softRel_flagWhere s1 _
  -- the rows of `n'` in the earlier states; a flag once set stays
  obtain ⟨n1, hn1, q2⟩ := all₂_mem_right r2.rows n' hn'
  obtain ⟨n0, hn0, q1⟩ := all₂_mem_right r1.rows n1 hn1
  cases hfl : n'.checkAfter with
  | true => rfl
  | false =>
    exfalso
    have c2 := q2.after.cold hfl
    have c1 := q1.after.cold c2.1
    have hkey0 : n0.key = n'.key := q1.1.symm.trans q2.1.symm
    rcases hhit with hi | hex | ⟨_, hdir⟩
    · obtain ⟨_, hp⟩ := flagWhere_cold hn0 c1.1
      rw [c2.2.2.1, c1.2.2.1] at hi
      simp [hkey0, hs, hi] at hp
    · obtain ⟨o, ho, hot⟩ := List.any_eq_true.1 hex
      rw [r2.regularOutputs, r1.regularOutputs, ← hkey0] at ho
      have hS0 := struct_of_rel r0.struct hS
      have := reconcileFold_flags (sortStrs cfg.targets)
        (by unfold sortStrs; rw [List.mem_mergeSort]; simpa using hot) hS0 (forest_of_skel (skel_of_soft r0) hFo)
        (hkey0 ▸ hs) (by unfold Has; rw [find?_of_mem hS0.keys hn0]; rfl) ho e1 n1 hn1 q1.1
      rw [this] at c2; cases c2.1
    · rw [r2.regularOutputs] at hdir
      rw [reconcileTargetDirs_flags hn' hs hdir] at hfl; cases hfl

theorem reconcileTargets_retarget {cfgO cfgN : KConfig} {s s' : KState} (hS : Struct s) (hFo : Forest s)
    (hw : CacheInvAfterW s cfgO) (h : s.reconcileTargets cfgN = .ok s') : CacheInvAfterW s' cfgN :=
  cacheInvW_retarget (cacheInvW_soft cfgO (reconcileTargets_rel h) hw) (reconcileTargets_flags hS hFo h)

end StepupModel.K.Discipline
