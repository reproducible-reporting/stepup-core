import StepupModel.K.Workflow
import StepupModel.Lemmas.Saturate
/-!
# Chains of dependency edges and the recursive-sink computation

`Path deps a b` is a non-empty chain of rows of the dependency table from `a` to `b`;
`AcyclicDeps deps` says that no node reaches itself, `Downstream deps a b` that `b` is `a` or is reached
from it.  `KState.sinkClosure` (`RECURSE_SINKS`, the
query behind `Workflow._supply_files` and `Node.check_sources_acyclic`) is shown to list exactly the
start node and what it reaches (`mem_sinkClosure_iff`): sound because a pass only adds the sink of
an edge whose source is already listed, complete because `deps.length + 1` passes reach the fixed
point (`Sat.iter_closed` of `Lemmas/Saturate.lean`).  The last section is the
graph argument for a checked insertion (`acyclic_append`) and for the batched check of
`_supply_files` (`notDownstream_append`).
-/
namespace StepupModel.K

def Edge (deps : List Dep) (a b : Key) : Prop := ∃ d ∈ deps, d.src = a ∧ d.snk = b

theorem KState.mem_sinksOf {s : KState} {a b : Key} : b ∈ s.sinksOf a ↔ Edge s.deps a b := by
  unfold KState.sinksOf Edge
  simp only [List.mem_map, List.mem_filter, decide_eq_true_eq]
  exact ⟨fun ⟨d, ⟨hd, h1⟩, h2⟩ => ⟨d, hd, h1, h2⟩, fun ⟨d, hd, h1, h2⟩ => ⟨d, ⟨hd, h1⟩, h2⟩⟩

theorem KState.mem_sourcesOf {s : KState} {a b : Key} : a ∈ s.sourcesOf b ↔ Edge s.deps a b := by
  unfold KState.sourcesOf Edge
  simp only [List.mem_map, List.mem_filter, decide_eq_true_eq]
  exact ⟨fun ⟨d, ⟨hd, h1⟩, h2⟩ => ⟨d, hd, h2, h1⟩, fun ⟨d, hd, h1, h2⟩ => ⟨d, ⟨hd, h2⟩, h1⟩⟩

inductive Path (deps : List Dep) : Key → Key → Prop
  | single {a b : Key} : Edge deps a b → Path deps a b
  | cons {a b c : Key} : Edge deps a b → Path deps b c → Path deps a c

def AcyclicDeps (deps : List Dep) : Prop := ∀ k, ¬ Path deps k k

theorem Path.trans {deps : List Dep} {a b c : Key} (h1 : Path deps a b) (h2 : Path deps b c) : Path deps a c := by
  induction h1 with
  | single e => exact .cons e h2
  | cons e _ ih => exact .cons e (ih h2)

theorem Path.snoc {deps : List Dep} {a b c : Key} (h1 : Path deps a b) (e : Edge deps b c) : Path deps a c :=
  h1.trans (.single e)

theorem Edge.mono {l l' : List Dep} (h : ∀ d ∈ l, ∃ d' ∈ l', d'.src = d.src ∧ d'.snk = d.snk) {a b : Key}
    (e : Edge l a b) : Edge l' a b := by
  obtain ⟨d, hd, h1, h2⟩ := e
  obtain ⟨d', hd', h1', h2'⟩ := h d hd
  exact ⟨d', hd', h1'.trans h1, h2'.trans h2⟩

theorem Path.mono {l l' : List Dep} (h : ∀ d ∈ l, ∃ d' ∈ l', d'.src = d.src ∧ d'.snk = d.snk) {a b : Key}
    (p : Path l a b) : Path l' a b := by
  induction p with
  | single e => exact .single (e.mono h)
  | cons e _ ih => exact .cons (e.mono h) ih

/-- The inner step of `RECURSE_SINKS`. -/
def closeStep (acc : List Key) (d : Dep) : List Key :=
  if acc.contains d.src ∧ !acc.contains d.snk then acc ++ [d.snk] else acc

def closePass (deps : List Dep) (acc : List Key) : List Key := deps.foldl closeStep acc

def closure (deps : List Dep) (k : Key) : List Key :=
  (List.range (deps.length + 1)).foldl (fun acc _ => closePass deps acc) [k]

theorem sinkClosure_eq (s : KState) (k : Key) : s.sinkClosure k = closure s.deps k := rfl

def missing (deps : List Dep) (acc : List Key) : Nat := deps.countP fun d => !acc.contains d.snk

theorem missing_append_le (deps : List Dep) (acc ext : List Key) : missing deps (acc ++ ext) ≤ missing deps acc :=
  Sat.missing_append_le deps acc ext

/-- The passes are those of `Lemmas/Saturate.lean`: an edge fires when its source is collected. -/
theorem closure_eq_iter (deps : List Dep) (k : Key) :
    closure deps k = Sat.iter (·.snk) (fun acc (d : Dep) => acc.contains d.src) deps (deps.length + 1) [k] :=
  Sat.foldl_range_eq_iter deps _ _

theorem self_mem_closure (deps : List Dep) (k : Key) : k ∈ closure deps k := by
  rw [closure_eq_iter]; exact Sat.mem_iter_of_mem deps _ (List.mem_singleton.2 rfl)

/-- `b` is `a` or is reached from `a`: what `RECURSE_SINKS` lists and what the cycle check looks for. -/
def Downstream (deps : List Dep) (a b : Key) : Prop := b = a ∨ Path deps a b

theorem Downstream.refl (deps : List Dep) (a : Key) : Downstream deps a a := .inl rfl

theorem Downstream.cons {deps : List Dep} {a b c : Key} (e : Edge deps a b) (h : Downstream deps b c) : Path deps a c :=
  h.elim (fun hc => hc ▸ .single e) (.cons e)

theorem Downstream.snoc {deps : List Dep} {a b c : Key} (h : Downstream deps a b) (e : Edge deps b c) : Path deps a c :=
  h.elim (fun hb => by subst hb; exact .single e) (·.snoc e)

theorem Downstream.trans {deps : List Dep} {a b c : Key} (h1 : Downstream deps a b) (h2 : Downstream deps b c) :
    Downstream deps a c :=
  h1.elim (fun hb => hb ▸ h2) fun p => .inr (h2.elim (fun hc => hc ▸ p) p.trans)

theorem closure_sound (deps : List Dep) (k b : Key) (h : b ∈ closure deps k) : Downstream deps k b := by
  rw [closure_eq_iter] at h
  refine Sat.iter_inv (fun acc => ∀ x ∈ acc, Downstream deps k x) deps ?_ _ [k]
    (fun x hx => .inl (List.mem_singleton.1 hx)) b h
  intro acc d hd hI hsrc _ x hx
  rcases List.mem_append.1 hx with hx | hx
  · exact hI x hx
  · rw [List.mem_singleton.1 hx]
    exact .inr ((hI d.src (List.contains_iff_mem.1 hsrc)).snoc ⟨d, hd, rfl, rfl⟩)

theorem closure_complete (deps : List Dep) (k b : Key) (h : Downstream deps k b) : b ∈ closure deps k := by
  rcases h with rfl | h
  · exact self_mem_closure deps b
  · have hc := Sat.iter_closed (new := (·.snk)) (fire := fun acc (d : Dep) => acc.contains d.src) deps
      (Nat.le_succ deps.length) [k]
    rw [← closure_eq_iter] at hc
    have step : ∀ {a b}, Edge deps a b → a ∈ closure deps k → b ∈ closure deps k := fun e ha => by
      obtain ⟨d, hd, rfl, rfl⟩ := e; exact hc d hd (List.contains_iff_mem.2 ha)
    have : ∀ {a b}, Path deps a b → a ∈ closure deps k → b ∈ closure deps k := fun p => by
      induction p with
      | single e => exact step e
      | cons e _ ih => exact fun ha => ih (step e ha)
    exact this h (self_mem_closure deps k)

theorem mem_closure_iff (deps : List Dep) (a b : Key) : b ∈ closure deps a ↔ b = a ∨ Path deps a b :=
  ⟨closure_sound deps a b, closure_complete deps a b⟩

theorem mem_sinkClosure_iff (s : KState) (a b : Key) : b ∈ s.sinkClosure a ↔ b = a ∨ Path s.deps a b :=
  mem_closure_iff s.deps a b

theorem path_append_edge {deps : List Dep} {e : Dep} {a b : Key} (p : Path (deps ++ [e]) a b) :
    Path deps a b ∨ (Downstream deps a e.src ∧ Downstream deps e.snk b) := by
  have split : ∀ {x y : Key}, Edge (deps ++ [e]) x y → Edge deps x y ∨ (e.src = x ∧ e.snk = y) := by
    rintro x y ⟨d, hd, h1, h2⟩
    rcases List.mem_append.1 hd with hd | hd
    · exact .inl ⟨d, hd, h1, h2⟩
    · rw [List.mem_singleton.1 hd] at h1 h2; exact .inr ⟨h1, h2⟩
  induction p with
  | single ed =>
    rcases split ed with h | ⟨rfl, rfl⟩
    · exact .inl (.single h)
    · exact .inr ⟨.refl _ _, .refl _ _⟩
  | cons ed _ ih =>
    rcases split ed with h | ⟨rfl, rfl⟩
    · exact ih.imp (.cons h) fun r => ⟨.inr (Downstream.cons h r.1), r.2⟩
    · exact .inr ⟨.refl _ _, ih.elim .inr (·.2)⟩

/-- What the cycle check establishes: `src` is not among the recursive sinks of `snk`. -/
def NotDownstream (deps : List Dep) (snk src : Key) : Prop := ¬ Downstream deps snk src

theorem notDownstream_iff (deps : List Dep) (snk src : Key) :
    NotDownstream deps snk src ↔ (closure deps snk).contains src = false := by
  unfold NotDownstream Downstream
  rw [← mem_closure_iff]
  simp

theorem acyclic_append (deps : List Dep) (src snk : Key) (dyn : Bool) (hac : AcyclicDeps deps)
    (hg : NotDownstream deps snk src) : AcyclicDeps (deps ++ [({ src := src, snk := snk, dyn := dyn } : Dep)]) := by
  intro k p
  rcases path_append_edge p with p | ⟨h1, h2⟩
  · exact hac k p
  · exact hg (h2.trans h1)

/-- Why `_supply_files` may check all new inputs once, before inserting any of them. -/
theorem notDownstream_append (deps : List Dep) (snk f g : Key) (dyn : Bool)
    (hf : NotDownstream deps snk f) (hg : NotDownstream deps snk g) :
    NotDownstream (deps ++ [({ src := f, snk := snk, dyn := dyn } : Dep)]) snk g := by
  rintro (h | p)
  · exact hg (.inl h)
  · exact (path_append_edge p).elim (fun p => hg (.inr p)) fun h => hf h.1

/-- Deleting rows and rewriting the `dynamic` flag cannot create a cycle. -/
theorem acyclic_of_subedges {l l' : List Dep} (h : ∀ d ∈ l', ∃ d' ∈ l, d'.src = d.src ∧ d'.snk = d.snk)
    (hac : AcyclicDeps l) : AcyclicDeps l' := fun k p => hac k (p.mono h)

end StepupModel.K
