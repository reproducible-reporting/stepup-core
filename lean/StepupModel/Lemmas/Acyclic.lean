import StepupModel.Lemmas.StableC
/-!
# C09, clause "dependencies are acyclic", for every history

The raw `INSERT INTO dependency` leaf of `Lemmas/Stable.lean` does not carry the cycle check, and acyclicity
is *not* stable under it (`Props.C09.acyclicity_needs_the_check`, on `cycleWitness` below); more than that, a
predicate that is stable in the sense of `Lemmas/Stable.lean` holds after *any* kind-correct, duplicate-free
insertion, so no such predicate can imply acyclicity.  `StableCG` (`Lemmas/StableC.lean`) is the same list of
leaves with the check as a hypothesis of the insertion leaf; the only functions of the model that call
`insertDep` are `addSourceChecked` (from `declareProduct`) and `insertNewEdges` (from `supplyFiles`), and the
walk of `Lemmas/StableW.lean` shows that both call it under the check.  `Acyclic` is stable in that sense
(`stableC_acyclic`, through `StableC.ofDeps`), hence an invariant of every request and every history.
-/
namespace StepupModel.K

/-- C09, clause "dependencies are acyclic". -/
def Acyclic (s : KState) : Prop := ∀ k, ¬ Path s.deps k k

theorem acyclic_iff (s : KState) : Acyclic s ↔ AcyclicDeps s.deps := Iff.rfl

theorem stableC_acyclic : StableC Acyclic := by
  refine StableC.ofDeps AcyclicDeps ?_ ?_ ?_
  · intro l src snk hc _ _ hl
    exact acyclic_append l src snk false hl hc
  · intro l p hl
    exact acyclic_of_subedges (fun d hd => ⟨d, (List.mem_filter.1 hd).1, rfl, rfl⟩) hl
  · intro l src snk dyn hl
    refine acyclic_of_subedges (fun d hd => ?_) hl
    obtain ⟨e, he, rfl⟩ := List.mem_map.1 hd
    refine ⟨e, he, ?_⟩
    split <;> exact ⟨rfl, rfl⟩

theorem init_acyclic : Acyclic KState.init := by
  intro k p
  have hno : ∀ {a b : Key}, ¬ Edge KState.init.deps a b := by
    intro a b e
    obtain ⟨d, hd, _⟩ := e
    simp [KState.init] at hd
  cases p with
  | single e => exact hno e
  | cons e _ => exact hno e

theorem insertDep_acyclic (src snk : Key) (s s' : KState) (hp : Acyclic s)
    (hc : (s.sinkClosure snk).contains src = false) (h : s.insertDep src snk = .ok s') : Acyclic s' :=
  stableC_acyclic.toW.insertDep src snk s s' rfl hc hp h

/-- `Node.add_source` with `check_sources_acyclic` (`file.add_source(step)` for every product). -/
theorem addSourceChecked_acyclic (snk src : Key) (s s' : KState) (hp : Acyclic s)
    (h : s.addSourceChecked snk src = .ok s') : Acyclic s' :=
  stableC_acyclic.toW.addSourceChecked_preserves snk src rfl s s' hp h

/-- The insertions of `Workflow._supply_files`, when none of the new inputs is a recursive sink of
`step` *on the state before the first insertion*. -/
theorem insertNewEdges_acyclic (step : Key) (infos : List Supply) (s s' : KState) (hp : Acyclic s)
    (hc : ∀ i ∈ infos.filter (·.newRel), (s.sinkClosure step).contains i.file = false)
    (h : s.insertNewEdges step infos = .ok s') : Acyclic s' :=
  stableC_acyclic.toW.insertNewEdges_preserves step infos s s' (fun _ _ => rfl) hc hp h

/-- `Workflow._supply_files` (its own check is the hypothesis of `insertNewEdges_acyclic`). -/
theorem supplyFiles_acyclic (cfg : KConfig) (step : Key) (paths : List String) (rn : Bool) (s : KState)
    (r : KState × List Supply) (hp : Acyclic s) (h : s.supplyFiles cfg step paths rn = .ok r) : Acyclic r.1 :=
  (stableC_acyclic.toW.toCall Sub.top).supplyFiles_preserves cfg step paths rn s r hp h

theorem defineStep_acyclic (cfg : KConfig) (creator : Key) (d : StepDecl) (s : KState) (r : KState × List String)
    (hp : Acyclic s) (h : s.defineStep cfg creator d = .ok r) : Acyclic r.1 :=
  stableC_acyclic.toW.defineStep_preserves Sub.top cfg creator d s r (fun _ _ _ s3 _ _ _ _ _ _ => stableC_acyclic.setStepExtras s3 _ _)
    (fun _ s1 _ _ => stableC_acyclic.setStepExtras s1 _ _) hp h

theorem amendStep_acyclic (cfg : KConfig) (step : Key) (inp env out vol : List String) (conc : List Key)
    (s : KState) (r : KState × AmendResult) (hp : Acyclic s)
    (h : s.amendStep cfg step inp env out vol conc = .ok r) : Acyclic r.1 :=
  (stableC_acyclic.toW.toCall Sub.top).amendStep_preserves cfg step inp env out vol conc (fun _ _ => trivial) (fun _ _ => trivial) s r hp h

theorem exec_acyclic (cfg : KConfig) (r : Req) (s : KState) (res : KState × String) (hp : Acyclic s)
    (h : s.exec cfg r = .ok res) : Acyclic res.1 :=
  stableC_acyclic.execInv' cfg r s res trivial hp h

theorem step_acyclic (cfg : KConfig) (r : Req) (s : KState) (hp : Acyclic s) : Acyclic (s.step cfg r) :=
  stableC_acyclic.execInv'.step cfg r s trivial hp

theorem run_acyclic (h : List (KConfig × Req)) (s : KState) (hp : Acyclic s) : Acyclic (s.run h) :=
  stableC_acyclic.execInv'.run' h s hp

/-- After every history of accepted and rejected requests the dependency table is acyclic. -/
theorem acyclic_reachable (h : List (KConfig × Req)) : Acyclic (KState.init.run h) :=
  run_acyclic h _ init_acyclic

/-- No edge whose source is a recursive sink of its sink (what `check_sources_acyclic` would find
if it were run on every row). -/
def KState.acyclicB (s : KState) : Bool := s.deps.all fun d => !(s.sinkClosure d.snk).contains d.src

theorem acyclicB_iff (s : KState) : s.acyclicB = true ↔ Acyclic s := by
  unfold KState.acyclicB
  simp only [List.all_eq_true, Bool.not_eq_true', List.contains_eq_mem, decide_eq_false_iff_not, mem_sinkClosure_iff]
  constructor
  · intro h k p
    cases p with
    | single e => obtain ⟨d, hd, h1, h2⟩ := e; exact h d hd (.inl (h1.trans h2.symm))
    | cons e q => obtain ⟨d, hd, h1, h2⟩ := e; exact h d hd (.inr (h1 ▸ h2 ▸ q))
  · exact fun h d hd hm => h _ (Downstream.cons ⟨d, hd, rfl, rfl⟩ hm)

theorem Acyclic.no_loop {s : KState} (h : Acyclic s) : ∀ d ∈ s.deps, d.src ≠ d.snk := by
  intro d hd heq
  have e : Edge s.deps d.src d.snk := ⟨d, hd, rfl, rfl⟩
  rw [← heq] at e
  exact h _ (.single e)

theorem Acyclic.no_two_cycle {s : KState} (h : Acyclic s) :
    ∀ d ∈ s.deps, ∀ e ∈ s.deps, ¬ (e.src = d.snk ∧ e.snk = d.src) := by
  intro d hd e he hh
  exact h d.src (.cons ⟨d, hd, rfl, rfl⟩ (.single ⟨e, he, hh.1, hh.2⟩))

/-- A file that is an input of a step. -/
def cycleWitness : KState :=
  { KState.init with deps := [{ src := fileKey "f", snk := stepKey "x" }] }

instance (s : KState) : Decidable (Acyclic s) := decidable_of_iff _ (acyclicB_iff s)

example : Acyclic cycleWitness ∧ cycleWitness.deps ≠ [] := by decide

end StepupModel.K
