import StepupModel.Lemmas.WorkflowChain
import StepupModel.Lemmas.SoftChain
/-! The request theorem for a predicate that soft changes of the state keep: the declaring requests from their calls
(`CallL`, `Lemmas/WorkflowChain.lean`), the requests that make only soft changes from one hypothesis
(`Discipline.plainSoftReq`, `Lemmas/SoftChain.lean`), the six operations that are neither as hypotheses.
`softQuiet_of_payload` stands here because this is the first module that sees both `PayloadOnly`
(`Lemmas/WorkflowChain.lean`) and `SoftQuiet` (`Lemmas/SoftChain.lean`): a write of payload columns is quiet. -/
namespace StepupModel.K

theorem softQuiet_of_payload {f : Node → Node} (hf : PayloadOnly f) : ∀ n, SoftQuiet n (f n) :=
  softQuiet_of_erase (e := Node.noPayload) (fun n => (hf n).1) fun _ => rfl

/-- Every accepted request keeps `P`, for a predicate that survives the plain soft requests (`hsoft`: one
application of `Discipline.exec_plainSoft_rel` for a predicate kept by soft changes), the calls of the declaring
requests, and the six operations that are neither; `G` is what `reset_for_rerun` has to be granted. -/
theorem exec_of_soft_call {D : Key → String → FileState → Prop} {R : KState → Key → Key → Prop}
    {C : Key → StepInit → Prop} {P : KState → Prop} {G : KState → Key → Prop} (T : CallL D R C P)
    (hsoft : ∀ cfg r, Discipline.plainSoftReq r = true ∨ r = .reconcile → ∀ s res, P s → s.exec cfg r = .ok res → P res.1)
    (hpop : ∀ cfg c s s' d, P s → s.popNext cfg c = .ok (s', d) → P s')
    (hmeta : ∀ cfg, Preserves P (fun s => s.updateMeta cfg))
    (hreset : ∀ k s s', G s k → P s → s.resetForRerun k = .ok s' → P s')
    (hfail : ∀ cfg k wd, Preserves P (fun s => s.completeFailure cfg k wd))
    (hdet : ∀ k, Preserves P (fun s => s.detach k)) (hdd : Preserves P (fun s => s.deleteDetached))
    (cfg : KConfig) (r : Req) (s : KState) (res : KState × String) (hr : CallOK D R C s r)
    (hg : ∀ k, r = .resetRerun k → G s k) (hp : P s) (h : s.exec cfg r = .ok res) : P res.1 := by
  have soft := fun hs => hsoft cfg r hs s res hp h
  refine exec_of_call T cfg r s res hr hp h fun hnd => ?_
  cases r with
  | define | amend | static | tree | declStatic => cases hnd
  | pop c => obtain ⟨a, ha, e⟩ := pairOut_ok h; exact e ▸ hpop cfg c s a.1 a.2 hp ha
  | updateMeta => exact hmeta cfg s _ hp (unitOut_ok h)
  | resetRerun k => exact hreset k s _ (hg k rfl) hp (unitOut_ok h)
  | completed k nh wd =>
    cases nh with
    | some hh => exact soft (.inl rfl)
    | none =>
      obtain ⟨a, ha, e⟩ := pairOut_ok h
      rcases markCompleted_ok (show s.markCompleted cfg k none wd = .ok (a.1, a.2) from ha) with ⟨_, h1⟩ | ⟨_, e2, _⟩
      · exact e ▸ hfail cfg k wd s a.1 hp h1
      · cases e2
  | detach k => exact hdet k s _ hp (unitOut_ok h)
  | deleteDetached => exact hdd s _ hp (unitOut_ok h)
  | reconcile => exact soft (.inr rfl)
  | _ => exact soft (.inl rfl)

end StepupModel.K
