import StepupModel.Lemmas.StableC
/-!
# I4: the operations that are built from the context-free writes

`Leaf P` lists the primitive writes of `Lemmas/Stable.lean` under which the invariant of
`Lemmas/SuccOutputsBase.lean` is stable without knowing the context: every write of `StableG` except
`fileWrite`, `fileInit`, `handOverRow`; the `creator` write for a cut link or a row that is no file, the step
state write for a state other than SUCCEEDED, the new edge out of a file.  These are the leaves of
`Lemmas/StableW.lean` for the kinds of write `succA` (`Leaf.toW`), so every operation that performs no other kind
keeps such an invariant.  `Mid` adds the file write of `mark_step_pending`, hence the propagation (`Mid.toW`).
`leafJ`, `midJ` (`Lemmas/SuccOutputsBase.lean`) are the instances.
-/
namespace StepupModel.K.SuccOut

structure Leaf (P : KState → Prop) : Prop where
  cache : ∀ (s : KState) (p : Node → Bool) (f : Node → Node), CacheOnly f → P s → P (s.modifyWhere p f)
  detached : ∀ (s : KState) (k : Key) (d : Bool), P s → P (s.modify k fun n => { n with detached := d })
  creator : ∀ (s : KState) (k : Key) (c : Option Key) (d : Bool), s.creatorAllowed k c d = true →
    (c = none ∨ k.kind ≠ .file) → P s → P (s.modify k fun n => { n with creator := c })
  stepWrite : ∀ (s : KState) (k : Key) (n n' : Node) (st : StepState) (d : Option Bool),
    s.find? k = some n → stepRowWrite n st d = .ok n' → st ≠ .succeeded → P s → P (s.modify k fun _ => n')
  stepInit : ∀ (s : KState) (k : Key) (i : StepInit), P s → P (s.initStepRow k i)
  setHash : ∀ (s : KState) (k : Key) (h : Nat), P s → P (s.setHash k h)
  deleteHash : ∀ (s : KState) (k : Key), P s → P (s.deleteHash k)
  bumpDefer : ∀ (s : KState) (k : Key), P s → P (s.modify k fun n => { n with deferCount := n.deferCount + 1 })
  hold : ∀ (s : KState) (k : Key), P s → P (s.modify k fun n => { n with holding := n.holding + 1 })
  release : ∀ (s : KState) (k : Key) (n : Node), s.find? k = some n → n.holding ≠ 0 → P s →
    P (s.modify k fun n => { n with holding := n.holding - 1 })
  recycled : ∀ (s : KState) (k : Key) (need : Need) (shell : Bool), P s →
    P (s.modify k fun n => { n with need := need, shell := shell })
  addDep : ∀ (s : KState) (src snk : Key), s.hasDep src snk = false → depKindOk src.kind snk.kind = true →
    src.kind = .file → P s → P { s with deps := s.deps ++ [({ src := src, snk := snk } : Dep)] }
  filterDeps : ∀ (s : KState) (p : Dep → Bool), P s → P { s with deps := s.deps.filter fun d => !p d }
  markDyn : ∀ (s : KState) (src snk : Key) (dyn : Bool), P s →
    P { s with deps := s.deps.map fun (d : Dep) => if d.src = src ∧ d.snk = snk then { d with dyn := dyn } else d }
  appendNode : ∀ (s : KState) (k : Key) (c : Option Key), s.find? k = none → s.insertAllowed k c = true → P s →
    P (s.appendNode k c)
  removeNode : ∀ (s : KState) (k : Key), (∀ d ∈ s.deps, d.snk ≠ k) → P s →
    P { s with nodes := s.nodes.filter (·.key ≠ k) }
  queueDelete : ∀ (s : KState) (path : String) (h : Option Nat), P s → P (s.queueDelete path h)
  clearQueue : ∀ (s : KState), P s → P { s with toBeDeleted := [] }

/-- The kinds of write of `Lemmas/StableW.lean` that `Leaf` covers, with (`o`) or without the file write of
`mark_step_pending`. -/
def succA (o : Bool) : WClass → Bool
  | .outdate => o
  | .writeFile | .keepRole | .stepSucceed | .adoptFile | .handOver | .freshFile | .depOut => false
  | _ => true

theorem succA_stepW {o : Bool} {st : StepState} (h : st ≠ .succeeded) : succA o (stepW st) = true := by
  cases st with
  | succeeded => exact absurd rfl h
  | _ => rfl

namespace Leaf
variable {P : KState → Prop}

theorem toWith (L : Leaf P) (o : Bool) (hout : o = true → OutdateStable P) :
    StableW (succA o) (fun _ _ => True) (fun _ _ => True) P :=
  StableW.ofFine (cache := fun s p f hf => L.cache s p f fun n => (hf n).1) (fileWrite := absent)
    (keepRole := absent) (outdate := fun ho _ => hout ho)
    (stepWrite := fun s k n n' st d hs _ hf hw => L.stepWrite s k n n' st d hf hw (stepW_cases rfl hs))
    (stepInit := fun _ => L.stepInit) (setHash := fun _ => L.setHash) (deleteHash := fun _ => L.deleteHash)
    (bumpDefer := fun _ => L.bumpDefer) (hold := fun _ s k _ => L.hold s k) (release := fun _ => L.release)
    (recycled := fun _ => L.recycled) (addDep := fun s a b ha _ hd hk => L.addDep s a b hd hk (depW_cases rfl ha))
    (filterDeps := fun _ => L.filterDeps) (filterStepDeps := fun _ s p _ => L.filterDeps s p)
    (markDyn := fun _ => L.markDyn) (queueDelete := fun _ => L.queueDelete) (clearQueue := fun _ => L.clearQueue)
    (detached := fun _ => L.detached) (creator := fun s k c d hc ha => L.creator s k c d ha (creatorW_cases rfl hc))
    (handOverRow := absent) (freshFile := absent) (appendNode := fun _ s k c _ => L.appendNode s k c)
    (removeNode := fun _ => L.removeNode)

theorem toW (L : Leaf P) : StableW (succA false) (fun _ _ => True) (fun _ _ => True) P := L.toWith false nofun

theorem flagReadySinks (L : Leaf P) (s : KState) (k : Key) (h : P s) : P (s.flagReadySinks k) :=
  L.cache s _ _ (fun _ => rfl) h

theorem flagDepEndpoints (L : Leaf P) (s : KState) (a b : Key) (hp : P s) : P (s.flagDepEndpoints a b) :=
  L.cache _ _ _ (fun _ => rfl) hp

theorem setDetachedRec (L : Leaf P) (s : KState) (k : Key) (d : Bool) (hp : P s) : P (s.setDetachedRec k d) :=
  L.toW.setDetachedRec rfl s k d hp

end Leaf

structure Mid (P : KState → Prop) : Prop where
  leaf : Leaf P
  outdate : OutdateStable P

namespace Mid
variable {P : KState → Prop}

theorem toW (M : Mid P) : StableW (succA true) (fun _ _ => True) (fun _ _ => True) P := M.leaf.toWith true fun _ => M.outdate

end Mid

end StepupModel.K.SuccOut
