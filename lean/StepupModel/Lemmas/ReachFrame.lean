import StepupModel.Lemmas.StableInst
import StepupModel.Lemmas.ReachSkel
/-!
# Frame: the operations that never write `creator` or `detached`

Of the 21 primitive writes listed by `StableG` (`Lemmas/Stable.lean`), five touch the
`(key, creator, detached)` triple of a row or the set of rows (`detached`, `creator`, `handOverRow`,
`appendNode`, `removeNode`).  `FrameL` is the structure without these five leaves; it gives the leaves of
`Lemmas/StableW.lean` for the kinds of write `frameA` (`FrameL.toW`), so every operation that performs no
other kind keeps every such predicate.  `frameL_of_skel` is the frame lemma for the creator forest `KState.skel`, the
list of the triples of a state: a predicate of that list which allows one row per key only is such a predicate,
because these writes leave the list as it is.
-/
namespace StepupModel.K

def Node.tri (n : Node) : Tri := (n.key, n.creator, n.detached)

def KState.skel (s : KState) : List Tri := s.nodes.map Node.tri

section
open Sk

theorem mem_skel_of_mem {s : KState} {n : Node} (h : n ∈ s.nodes) : n.tri ∈ s.skel :=
  List.mem_map.2 ⟨n, h, rfl⟩

theorem mem_skel {s : KState} {t : Tri} : t ∈ s.skel ↔ ∃ n ∈ s.nodes, n.tri = t := List.mem_map

theorem skel_keys (s : KState) : s.skel.map (·.1) = s.nodes.map (·.key) := by
  unfold KState.skel
  rw [List.map_map]
  rfl

theorem nodes_uniq (s : KState) (h : Sk.Nodup s.skel) {m n : Node} (hm : m ∈ s.nodes) (hn : n ∈ s.nodes)
    (hk : m.key = n.key) : m = n := by
  unfold Sk.Nodup at h
  rw [skel_keys] at h
  exact eq_of_nodup_map h hm hn hk

theorem skNodup_iff (s : KState) : Sk.Nodup s.skel ↔ KeysNodup s := by
  rw [keysNodup_iff]
  unfold Sk.Nodup
  rw [skel_keys]

theorem find?_row {s : KState} {k : Key} {n : Node} (h : s.find? k = some n) : (k, n.creator, n.detached) ∈ s.skel :=
  find_key h ▸ mem_skel_of_mem (find_mem h)

theorem has_iff_skel (s : KState) (k : Key) : s.has k = true ↔ Has s.skel k := by
  unfold KState.has KState.find? Has KState.skel
  rw [List.find?_isSome]
  constructor
  · rintro ⟨n, hn, hk⟩
    exact ⟨n.tri, List.mem_map.2 ⟨n, hn, rfl⟩, of_decide_eq_true hk⟩
  · rintro ⟨t, ht, hk⟩
    obtain ⟨n, hn, rfl⟩ := List.mem_map.1 ht
    exact ⟨n, hn, decide_eq_true hk⟩

theorem find?_none_iff (s : KState) (k : Key) : s.find? k = none ↔ ¬ Has s.skel k := by
  rw [← has_iff_skel]
  unfold KState.has
  cases s.find? k <;> simp

theorem find?_some_has {s : KState} {k : Key} {n : Node} (h : s.find? k = some n) : Has s.skel k :=
  ⟨_, find?_row h, rfl⟩

theorem find?_of_row {s : KState} (hn : Sk.Nodup s.skel) {k : Key} {c : Option Key} {d : Bool}
    (h : (k, c, d) ∈ s.skel) : ∃ n, s.find? k = some n ∧ n.creator = c ∧ n.detached = d := by
  cases hf : s.find? k with
  | none => exact absurd ⟨_, h, rfl⟩ ((find?_none_iff s k).1 hf)
  | some n =>
    have := Sk.uniq hn (find?_row hf) h rfl
    simp only [Prod.mk.injEq, true_and] at this
    exact ⟨n, rfl, this.1, this.2⟩

end

/-- `StableG` of `Lemmas/Stable.lean` without the five leaves that write `creator`, `detached` or
the set of rows (and without a guard on `hold`). -/
structure FrameL (P : KState → Prop) : Prop where
  cache : ∀ (s : KState) (p : Node → Bool) (f : Node → Node), CacheOnly f → P s → P (s.modifyWhere p f)
  fileWrite : ∀ (s : KState) (k : Key) (n n' : Node) (st : FileState) (nh : Option (Option Nat)),
    s.find? k = some n → fileRowWrite n st nh = .ok n' → P s → P (s.modify k fun _ => n')
  fileInit : ∀ (s : KState) (k : Key) (st : FileState), NoHashState st →
    (st = .undeclared → s.isDetached k = true) → P s →
    P (s.modify k fun n => { n with fstate := st, fhash := none })
  stepWrite : ∀ (s : KState) (k : Key) (n n' : Node) (st : StepState) (d : Option Bool),
    s.find? k = some n → stepRowWrite n st d = .ok n' → P s → P (s.modify k fun _ => n')
  stepInit : ∀ (s : KState) (k : Key) (i : StepInit), P s → P (s.initStepRow k i)
  setHash : ∀ (s : KState) (k : Key) (h : Nat), P s → P (s.setHash k h)
  deleteHash : ∀ (s : KState) (k : Key), P s → P (s.deleteHash k)
  bumpDefer : ∀ (s : KState) (k : Key), P s → P (s.modify k fun n => { n with deferCount := n.deferCount + 1 })
  hold : ∀ (s : KState) (k : Key), P s → P (s.modify k fun n => { n with holding := n.holding + 1 })
  release : ∀ (s : KState) (k : Key) (n : Node), s.find? k = some n → n.holding ≠ 0 → P s →
    P (s.modify k fun n => { n with holding := n.holding - 1 })
  recycled : ∀ (s : KState) (k : Key) (need : Need) (shell : Bool), P s →
    P (s.modify k fun n => { n with need := need, shell := shell })
  addDep : ∀ (s : KState) (src snk : Key), s.hasDep src snk = false → depKindOk src.kind snk.kind = true → P s →
    P { s with deps := s.deps ++ [({ src := src, snk := snk } : Dep)] }
  filterDeps : ∀ (s : KState) (p : Dep → Bool), P s → P { s with deps := s.deps.filter fun d => !p d }
  markDyn : ∀ (s : KState) (src snk : Key) (dyn : Bool), P s →
    P { s with deps := s.deps.map fun (d : Dep) => if d.src = src ∧ d.snk = snk then { d with dyn := dyn } else d }
  queueDelete : ∀ (s : KState) (path : String) (h : Option Nat), P s → P (s.queueDelete path h)
  clearQueue : ∀ (s : KState), P s → P { s with toBeDeleted := [] }

/-- The kinds of write that touch neither the `(key, creator, detached)` triple of a row nor the set of rows. -/
def frameA : WClass → Bool
  | .detached | .cut | .adopt | .adoptFile | .handOver | .freshFile | .appendNode | .removeNode => false
  | _ => true

namespace FrameL
variable {P : KState → Prop}

/-- The leaves of `FrameL` are those of `StableW` (`Lemmas/StableW.lean`) for the kinds `frameA`, before their triggers
are bundled and without guards: every operation that performs no other kind of write keeps `P`. -/
theorem toW (L : FrameL P) : StableW frameA (fun _ _ => True) (fun _ _ => True) P :=
  StableW.ofFine (cache := fun s p f hf => L.cache s p f fun n => (hf n).1) (fileWrite := fun _ => L.fileWrite)
    (keepRole := nofun) (outdate := nofun)
    (stepWrite := fun s k n n' st d _ _ => L.stepWrite s k n n' st d) (stepInit := fun _ => L.stepInit)
    (setHash := fun _ => L.setHash) (deleteHash := fun _ => L.deleteHash) (bumpDefer := fun _ => L.bumpDefer)
    (hold := fun _ s k _ => L.hold s k) (release := fun _ => L.release) (recycled := fun _ => L.recycled)
    (addDep := fun s a b _ _ => L.addDep s a b) (filterDeps := fun _ => L.filterDeps)
    (filterStepDeps := fun _ s p _ => L.filterDeps s p) (markDyn := fun _ => L.markDyn)
    (queueDelete := fun _ => L.queueDelete) (clearQueue := fun _ => L.clearQueue) (detached := absent)
    (creator := fun _ k c _ h => absurd h (creatorW_const (A := frameA) rfl rfl rfl k.kind c ▸ nofun)) (handOverRow := absent) (freshFile := absent)
    (appendNode := absent) (removeNode := absent)

theorem setStepExtras (L : FrameL P) (s : KState) (sk : Key) (d : StepDecl) (hp : P s) : P (s.setStepExtras sk d) :=
  modify_of_where L.cache s sk _ (fun _ => rfl) hp

/-- `INSERT INTO dependency` without the cycle check. -/
theorem insertDep_preserves (L : FrameL P) (a b : Key) : Preserves P (fun s => s.insertDep a b) := by
  intro s s' hp h
  obtain ⟨hdup, hkind, rfl⟩ := insertDep_ok h
  exact L.cache _ _ _ (fun _ => rfl) (L.addDep s a b hdup hkind hp)

/-- `INSERT INTO file` of `Trellis.create`, on a recycled or on a fresh row. -/
theorem initRow_preserves (L : FrameL P) (k : Key) (init : Init) (existed : Bool) (hi : InitOK init) :
    Preserves P (fun s => s.initRow k init existed) := by
  intro s s' hp h
  cases init with
  | root => cases h; exact hp
  | tree => cases h; exact hp
  | step i => cases h; exact L.stepInit _ _ _ hp
  | file st =>
    obtain ⟨s1, h1, h⟩ := initFileRow_ok (show s.initFileRow k st existed = .ok s' from h)
    have hp1 : P s1 := by
      rcases writeInitialFile_ok h1 with ⟨_, h1⟩ | ⟨hex, hu, rfl⟩
      · exact L.toW.setFileState_preserves rfl k _ s s1 hp h1
      · subst hex
        rw [keptState_fresh] at hu ⊢
        exact L.cache _ _ _ (fun _ => rfl) (L.fileInit s k st hi hu hp)
    rcases h with ⟨_, h⟩ | ⟨_, rfl⟩
    · exact L.toW.markFileOutdated_preserves (by decide) k s1 s' hp1 h
    · exact hp1

theorem beforeDelete_preserves (L : FrameL P) (n : Node) : Preserves P (fun s => s.beforeDelete n) := by
  intro s s' hp h
  obtain ⟨s1, d, rfl, _, h1⟩ := beforeDelete_ok s s' n h
  refine L.toW.markDir rfl _ _ ?_
  rcases h1 with ⟨rfl, _⟩ | ⟨r, rfl, _⟩
  · exact hp
  · exact L.queueDelete _ _ _ hp

end FrameL

theorem skel_modifyWhere (s : KState) (p : Node → Bool) (f : Node → Node) (hf : ∀ n, (f n).tri = n.tri) :
    (s.modifyWhere p f).skel = s.skel := map_view_modifyWhere s p f Node.tri hf

theorem skel_modify (s : KState) (k : Key) (f : Node → Node) (hf : ∀ n ∈ s.nodes, n.key = k → (f n).tri = n.tri) :
    (s.modify k f).skel = s.skel := map_view_modify s k f Node.tri hf

theorem fileRowWrite_tri (n n' : Node) (st : FileState) (nh : Option (Option Nat))
    (h : fileRowWrite n st nh = .ok n') : n'.tri = n.tri := by
  rw [fileRowWrite_eq h]; rfl

theorem stepRowWrite_tri (n n' : Node) (st : StepState) (d : Option Bool)
    (h : stepRowWrite n st d = .ok n') : n'.tri = n.tri := by
  rw [stepRowWrite_eq h]; rfl

theorem skel_modify_row {s : KState} (hnd : Sk.Nodup s.skel) {k : Key} {n n' : Node} (hf : s.find? k = some n)
    (ht : n'.tri = n.tri) : (s.modify k fun _ => n').skel = s.skel := by
  refine skel_modify s k _ (fun m hmem hm => ?_)
  rw [nodes_uniq s hnd hmem (find_mem hf) (hm.trans (find_key hf).symm)]
  exact ht

/-- `hn` (one row per key) is what `fileWrite` and `stepWrite` need: they replace whatever row a key selects by the
row computed from the one `find?` returns (`skel_modify_row`). -/
theorem frameL_of_skel {P : KState → Prop} (hn : ∀ s, P s → Sk.Nodup s.skel)
    (hs : ∀ s s', s'.skel = s.skel → P s → P s') : FrameL P :=
  { PlainL.ofMain (P := P) fun _ _ h _ => hs _ _ (map_eq_of_comp Node.main (fun m => (m.1, m.2.1, m.2.2.1)) h) with
    fileWrite := fun s _ n n' st nh hf hw hp => hs _ _ (skel_modify_row (hn s hp) hf (fileRowWrite_tri n n' st nh hw)) hp
    fileInit := fun s k _ _ _ => hs _ _ (skel_modify s k _ fun _ _ _ => rfl)
    stepWrite := fun s _ n n' st d hf hw hp => hs _ _ (skel_modify_row (hn s hp) hf (stepRowWrite_tri n n' st d hw)) hp
    stepInit := fun s k _ => hs _ _ (skel_modify s k _ fun _ _ _ => rfl)
    addDep := fun s _ _ _ _ => hs s _ rfl
    filterDeps := fun s _ => hs s _ rfl
    markDyn := fun s _ _ _ => hs s _ rfl }

theorem frameL_skel (X : List Tri) (hX : Sk.Nodup X) : FrameL (fun s => s.skel = X) :=
  frameL_of_skel (fun _ hp => hp ▸ hX) (fun _ _ h hp => h.trans hp)

end StepupModel.K
