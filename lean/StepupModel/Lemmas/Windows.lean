import StepupModel.B.Windows
/-!
The association lists of `B/Windows.lean` (the scheduler's start and stop times): `lookup` after `set`, `erase`, `dropOlder`; `minTime` (C03).
-/
namespace StepupModel.B.Windows

theorem lookup_cons (k' v : Nat) (t : Table) (k : Nat) :
    lookup ((k', v) :: t) k = if k' = k then some v else lookup t k := rfl

theorem lookup_dropOlder (t : Table) (oldest k v : Nat) (h : lookup t k = some v) (hv : oldest ≤ v) :
    lookup (dropOlder t oldest) k = some v := by
  induction t with
  | nil => cases h
  | cons a as ih =>
    obtain ⟨ak, av⟩ := a
    rw [lookup_cons] at h
    unfold dropOlder
    by_cases hk : ak = k
    · rw [if_pos hk] at h
      cases h
      rw [if_neg (Nat.not_lt.2 hv), lookup_cons, if_pos hk]
    · rw [if_neg hk] at h
      split
      · exact ih h
      · rw [lookup_cons, if_neg hk]; exact ih h

theorem lookup_erase_ne (t : Table) (i k : Nat) (h : k ≠ i) : lookup (erase t i) k = lookup t k := by
  induction t with
  | nil => rfl
  | cons a as ih =>
    obtain ⟨ak, av⟩ := a
    unfold erase
    rw [lookup_cons]
    split
    · rename_i ha
      rw [if_neg (ha ▸ Ne.symm h)]; exact ih
    · rw [lookup_cons, ih]

theorem lookup_erase_self (t : Table) (i : Nat) : lookup (erase t i) i = none := by
  induction t with
  | nil => rfl
  | cons a as ih =>
    obtain ⟨ak, av⟩ := a
    unfold erase
    split
    · exact ih
    · rename_i ha
      rw [lookup_cons, if_neg ha]; exact ih

theorem lookup_append (t u : Table) (k : Nat) :
    lookup (t ++ u) k = match lookup t k with | some v => some v | none => lookup u k := by
  induction t with
  | nil => rfl
  | cons a as ih =>
    obtain ⟨ak, av⟩ := a
    rw [List.cons_append, lookup_cons, lookup_cons]
    split
    · rfl
    · exact ih

theorem lookup_set_self (t : Table) (i v : Nat) : lookup (set t i v) i = some v := by
  unfold set
  rw [lookup_append, lookup_erase_self, lookup_cons, if_pos rfl]

theorem lookup_set_ne (t : Table) (i v k : Nat) (h : k ≠ i) : lookup (set t i v) k = lookup t k := by
  unfold set
  rw [lookup_append, lookup_erase_ne t i k h]
  cases lookup t k with
  | some w => rfl
  | none => exact if_neg (Ne.symm h)

theorem mem_of_lookup (t : Table) (k v : Nat) (h : lookup t k = some v) : (k, v) ∈ t := by
  induction t with
  | nil => cases h
  | cons a as ih =>
    obtain ⟨ak, av⟩ := a
    rw [lookup_cons] at h
    split at h
    · rename_i hk
      cases h; cases hk
      exact List.mem_cons_self
    · exact List.mem_cons_of_mem _ (ih h)

theorem minTime_cons (k v : Nat) (t : Table) :
    minTime ((k, v) :: t) = match minTime t with | none => some v | some m => some (if v ≤ m then v else m) := rfl

theorem minTime_eq (t : Table) : minTime t = (t.map (·.2)).min? := by
  induction t with
  | nil => rfl
  | cons a as ih =>
    obtain ⟨k, v⟩ := a
    rw [minTime_cons, ih, List.map_cons, List.min?_cons]
    cases (as.map (·.2)).min? with
    | none => rfl
    | some m => exact congrArg some (Nat.min_def ..).symm

theorem minTime_some_of_mem (t : Table) (e : Nat × Nat) (h : e ∈ t) : ∃ m, minTime t = some m := by
  rw [minTime_eq]
  exact Option.isSome_iff_exists.1 (List.isSome_min?_of_mem (List.mem_map_of_mem h))

theorem minTime_le (t : Table) (m : Nat) (h : minTime t = some m) : ∀ e ∈ t, m ≤ e.2 := fun _ he =>
  (List.min?_eq_some_iff.1 (minTime_eq t ▸ h)).2 _ (List.mem_map_of_mem he)

end StepupModel.B.Windows
