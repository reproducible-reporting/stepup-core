import StepupModel.Lemmas.SuccOutputsOps
import StepupModel.Lemmas.SuccOutputsWitness
import StepupModel.Lemmas.WorkflowChain
import StepupModel.Lemmas.Reach
/-!
# I4 "every attached output of a SUCCEEDED step is BUILT or VOLATILE" over request histories

`exec_JK`: every accepted request (all 24 kinds) keeps the invariant `JK` of `Lemmas/SuccOutputsOps.lean`,
the side conditions of `ReqOKS` granted (each judged on the state in which the request is issued):

* `set_state(k, SUCCEEDED)` needs the outputs of `k` finished (`SetSucceededOK`);
* `completed(k, new_hash)` needs the outputs of `k` hashed: none PLANNED (`CompletedOK`);
* `reset_for_rerun(k)` and `amend(k, ...)` need `k` not SUCCEEDED.

Every other request is unconditional (raw `detach` of an output file, `update_file_hashes` with any cause,
`mark_pending`, `completed` without a hash, ... included).  Each of the four conditions is needed:
`Lemmas/SuccOutputsWitness.lean`.  At the end: in each witness state of `Lemmas/SuccOutputsWitness.lean` the
invariant `Inv4` holds (so every request that satisfies `ReqOKS` keeps I4 there, by `exec_JK`), and the offending
request is one that `ReqOKS` refuses.
-/
namespace StepupModel.K.SuccOut
open StepupModel.K.MetaAfter StepupModel.K.Discipline StepupModel.K.Ever

/-- The oracle's statement needs the local invariant of the creator links as well: an attached file has a creator,
which rules out the "no creator" case of `(own)`. -/
theorem succOutputsOK_of_JK {s : KState} (hp : Inv4 s) (hc : CreatorOK s) : SuccOutputsOK s := by
  intro n hn hkind hsucc d hd hsrc f hf hfk hfile hdet
  have hku := hp.keys
  have hfind : s.find? d.snk = some f := hfk ▸ find?_of_mem hku hf
  obtain ⟨f', hf', hown, _, hdone⟩ := hp.1.1 d hd (hfk ▸ hfile) trivial
  rw [hfind] at hf'; cases hf'
  obtain ⟨c, _, hcr, _, _⟩ := hc.file_creator hf hfile hdet
  rcases hown with ho | ho
  · rw [ho] at hcr; cases hcr
  · refine hdone ho (fun h => h) ⟨hsrc ▸ hkind, ?_⟩
    rw [hsrc, sstateOf_of_find (find?_of_mem hku hn), hsucc]

theorem inv4_init : Inv4 KState.init := by
  refine ⟨⟨fun d hd => ?_, fun _ h => h.elim⟩, init_keysNodup⟩
  simp [KState.init] at hd

theorem resetForRerun_JK (k : Key) (s s' : KState) (hp : Inv4 s) (hk : ¬ Succ s k)
    (h : s.resetForRerun k = .ok s') : Inv4 s' := by
  refine hp.withN (· = k) (fun q hq => hq ▸ hk) fun hp1 => ?_
  have L := jkW All NoW fun q => NoN q ∨ q = k
  have hdet := L.detach_preserves (by decide)
  exact resetForRerun_of (L.dropDynamicInputs (by decide) s k (delW_of (by decide) _) hp1)
    (fun t b b' hb hw => hdet t _ b' (L.deleteDeps rfl b _ hb) hw) (detachAll_of hdet) (outdateBuilt_JK k (.inr rfl)) h

theorem revertOptional_JK (s s' : KState) (hp : Inv4 s) (h : s.revertOptional = .ok s') : Inv4 s' := by
  -- the steps that are not SUCCEEDED at the start stay so
  refine hp.withN (¬ Succ s ·) (fun q hq => hq) fun hp0 => ?_
  unfold KState.revertOptional at h
  refine foldlM_keeps _ (fun st (n : Node) => st.revertStep n) _ (fun st n st' hn hst hw => ?_) s s' hp0 h
  refine revertStep_JK n (fun hpend => .inr fun hs => ?_) st st' hst hw
  have hmem := (List.mem_filter.1 hn).1
  have := hs.2
  rw [sstateOf_of_find (find?_of_mem hp.keys hmem), hpend] at this
  cases this

/-- The guard on a declaration: a static file, an output of a step that is not SUCCEEDED (`N`), or a volatile
output. -/
def DeclOKS (N : Key → Prop) (step : Key) (_ : String) (st : FileState) : Prop :=
  st = .unconfirmed ∨ N step ∨ st = .volatile

theorem callJK (N : Key → Prop) : CallL (DeclOKS N) (fun _ _ _ => True) (fun _ _ => True) (JK All NoW N) where
  payload := (jkW All NoW N).payload rfl
  setDynamic := (jkW All NoW N).setDynamic rfl
  insertDep := fun a b ha s s' => (jkW All NoW N).insertDep a b s s' (by rw [depW_file ha]; rfl)
  declareStatic := fun cfg c p _ s s' h hd =>
    createFile_JK (fileKey p) (some c) .unconfirmed (.inr (.inl rfl)) s s' h (declareFile_create hd)
  declareProduct := fun cfg step p st hst hD => declareProduct_JK cfg step p st hst (by
    rcases hD with rfl | hD
    · rcases hst with h | h <;> cases h
    · exact hD)
  adopt := fun s s' p t _ h hc => createFile_JK (fileKey p) (some t) .unconfirmed (.inr (.inl rfl)) s s' h hc
  placeholder := fun p => createFile_JK (fileKey p) none .undeclared (.inl rfl)
  createStep := fun label c i _ =>
    (jkW All NoW N).createRow_preserves (by decide) (stepKey label) (some c) (.step i) nofun nofun
  stepExtras := fun _ _ _ s sk d => setStepExtras_JK sk d
  recycleStep := fun label c d n s s' _ hp h =>
    (jkW All NoW N).recycleStep_preserves (by decide) _ c d n s s' rfl (fun _ s3 _ _ => setStepExtras_JK _ d) hp h
  treeCreateHandOver := treeCreateHandOver_of (fun _ h => h.keys)
    (fun p c => (jkW All NoW N).createRow_preserves (by decide) _ _ .tree nofun nofun)
    (fun s tk hs hst h => ⟨handOver_J tk hs s h.1 (fun k hk m hm hprod => by
      unfold IsProduct at hprod
      rw [hst k hk m hm] at hprod
      rcases hprod with h | h <;> cases h), stable_keysNodup.toW.handOver rfl s tk hs h.2⟩)
  ofTree := fun _ _ _ _ => .inl rfl
  ofUnder := fun _ _ _ _ => .inl rfl

/-- `Workflow.define_step`: the step row is PENDING when its products are declared. -/
theorem defineStep_JK (cfg : KConfig) (creator : Key) (d : StepDecl) (s : KState)
    (r : KState × List String) (hp : Inv4 s) (h : s.defineStep cfg creator d = .ok r) : Inv4 r.1 := by
  obtain ⟨label, _, ⟨n, _, _, _, hr⟩ | ⟨_, hc⟩⟩ := defineStep_ok h
  · exact (callJK NoN).recycleStep label creator _ n s r.1 trivial hp hr
  · let N1 : Key → Prop := fun q => NoN q ∨ q = stepKey label
    refine ((callJK N1).createStep_preserves cfg _ creator _ s r (fun s1 h1 => ?_)
      (fun _ _ => .inr (.inl (.inr rfl))) (fun _ _ => .inr (.inr rfl)) hc).weaken
      (fun _ h => h) (fun _ _ h => h) (fun _ h => .inl h)
    have h0 := (callJK NoN).createStep label creator _ trivial s s1 hp h1
    exact setStepExtras_JK _ _ ⟨h0.1.addN _ (fun q hq => hq ▸ create_step_not_succ hp.keys h1), h0.2⟩

theorem amendStep_JK (cfg : KConfig) (step : Key) (inp env out vol : List String) (conc : List Key) (s : KState)
    (r : KState × AmendResult) (hp : Inv4 s) (hk : ¬ Succ s step)
    (h : s.amendStep cfg step inp env out vol conc = .ok r) : Inv4 r.1 := by
  exact hp.withN (· = step) (fun q hq => hq ▸ hk) fun hp1 =>
    (callJK _).amendStep_preserves cfg step inp env out vol conc (fun _ _ => .inr (.inl (.inr rfl)))
      (fun _ _ => .inr (.inr rfl)) s r hp1 h

/-- The side conditions (see the header). -/
def ReqOKS (s : KState) : Req → Prop
  | .setState k st => st = .succeeded → SetSucceededOK s k
  | .completed k (some _) _ => CompletedOK s k
  | .resetRerun k => ¬ Succ s k
  | .amend k .. => ¬ Succ s k
  | _ => True

theorem exec_JK (cfg : KConfig) (r : Req) (s : KState) (res : KState × String) (hr : ReqOKS s r)
    (hp : Inv4 s) (h : s.exec cfg r = .ok res) : Inv4 res.1 := by
  have L := jkW All NoW NoN
  have T := callJK NoN
  cases r with
  | define c d => obtain ⟨a, ha, e⟩ := pairOut_ok h; exact e ▸ defineStep_JK cfg c d s a hp ha
  | amend k inp env out vol conc =>
    obtain ⟨a, ha, e⟩ := pairOut_ok h; exact e ▸ amendStep_JK cfg k inp env out vol conc s a hp hr ha
  | static c ps => obtain ⟨a, ha, e⟩ := pairOut_ok h; exact e ▸ T.declareStaticFiles_preserves cfg c ps (fun _ _ => .inl rfl) s a hp ha
  | tree c p => obtain ⟨a, ha, e⟩ := pairOut_ok h; exact e ▸ T.registerStaticTree_preserves cfg c p s a hp ha
  | declStatic c ts fs ps =>
    obtain ⟨a, ha, e⟩ := pairOut_ok h; exact e ▸ T.declareStaticRequest_preserves cfg c ts fs ps (fun _ _ => .inl rfl) s a hp ha
  | hashes u c => exact updateFileHashes_JK u c s _ hp (unitOut_ok h)
  | nglob k p ms => exact L.registerNglob_preserves rfl k p ms s _ hp (unitOut_ok h)
  | pop c => obtain ⟨a, ha, e⟩ := pairOut_ok h; exact e ▸ L.popNext_preserves (by decide) cfg c s a.1 a.2 (fun _ _ _ _ _ _ _ _ _ _ _ _ => trivial) hp ha
  | updateMeta => exact L.updateMeta_preserves (by decide) cfg s _ hp (unitOut_ok h)
  | resetRerun k => exact resetForRerun_JK k s _ hp hr (unitOut_ok h)
  | completed k nh wd =>
    obtain ⟨a, ha, e⟩ := pairOut_ok h
    rw [← e]
    rcases markCompleted_ok (b := a.2) ha with ⟨_, h1⟩ | ⟨hh, rfl, h1⟩
    · exact completeFailure_JK cfg k wd s a.1 hp h1
    · exact completeSuccess_JK cfg k hh s a.1 hp hr h1
  | setState k stt => exact setStepState_JK hp hr (unitOut_ok h)
  | deleteHash k => exact Except.ok.inj (unitOut_ok h) ▸ L.deleteHash rfl s k hp
  | markPending k => exact L.markStepPending'_preserves (by decide) k s _ hp (unitOut_ok h)
  | hold k => exact L.hold_preserves (by decide) k s _ trivial hp (unitOut_ok h)
  | release k => exact L.release_preserves (by decide) k s _ hp (unitOut_ok h)
  | detach k => exact L.detach_preserves (by decide) k s _ hp (unitOut_ok h)
  | revertOptional => exact revertOptional_JK s _ hp (unitOut_ok h)
  | deleteDetached => exact L.deleteDetached_preserves (by decide) s _ hp (unitOut_ok h)
  | clearQueue => exact Except.ok.inj (unitOut_ok h) ▸ L.clearQueue rfl s hp
  | resetInterrupted => exact L.resetInterrupted_preserves (by decide) s _ hp (unitOut_ok h)
  | rescanEnv => exact L.rescanEnvVars_preserves (by decide) cfg s _ hp (unitOut_ok h)
  | reconcile => exact L.reconcileTargets_preserves rfl cfg s _ hp (unitOut_ok h)
  | checkConsistency => exact L.checkConsistency_preserves (by decide) s _ hp (unitOut_ok h)

theorem step_JK (cfg : KConfig) (r : Req) (s : KState) (hr : ReqOKS s r) (hp : Inv4 s) :
    Inv4 (s.step cfg r) :=
  step_of_exec hp fun res => exec_JK cfg r s res hr hp

/-- `Guarded ReqOKS` (`Lemmas/Inv.lean`), written out as a recursion. -/
def HistOKS : KState → List (KConfig × Req) → Prop
  | _, [] => True
  | s, cr :: rest => ReqOKS s cr.2 ∧ HistOKS (s.step cr.1 cr.2) rest

theorem run_JK (h : List (KConfig × Req)) (s : KState) (hp : Inv4 s) (hh : HistOKS s h) : Inv4 (s.run h) :=
  run_of_step (H := HistOKS) (fun s cr _ hh hp => ⟨step_JK cr.1 cr.2 s hh.1 hp, hh.2⟩) h s hp hh

theorem reachable_JK (h : List (KConfig × Req)) (hh : HistOKS KState.init h) : Inv4 (KState.init.run h) :=
  run_JK h KState.init inv4_init hh

/-- I4 after every guarded history (accepted and rejected requests, changing configurations). -/
theorem succOutputs_after_every_history (h : List (KConfig × Req)) (hg : HistOKS KState.init h) :
    SuccOutputsOK (KState.init.run h) :=
  succOutputsOK_of_JK (reachable_JK h hg) (creatorOK_reachable h)

theorem succOutputsOKB_after_every_history (h : List (KConfig × Req)) (hg : HistOKS KState.init h) :
    succOutputsOKB (KState.init.run h) = true :=
  (succOutputsOKB_iff _).2 (succOutputs_after_every_history h hg)

theorem histOKS_nil (s : KState) : HistOKS s [] := trivial

theorem histOKS_cons_free (s : KState) (cfg : KConfig) (r : Req) (rest : List (KConfig × Req))
    (hr : ReqOKS s r) (h : HistOKS (s.step cfg r) rest) : HistOKS s ((cfg, r) :: rest) := ⟨hr, h⟩

def wEdge : Dep := { src := stepKey "A", snk := fileKey "o" }

theorem inv4_of_one_edge (s : KState) (f : Node) (hd : s.deps = [wEdge]) (hf : s.find? (fileKey "o") = some f)
    (hc : f.creator = some (stepKey "A")) (hp : IsProduct f.fstate) (hs : Succ s (stepKey "A") → Done f.fstate)
    (hk : (s.nodes.map (·.key)).Nodup) : Inv4 s := by
  refine ⟨⟨fun d hdm _ _ => ?_, fun _ h => h.elim⟩, (keysNodup_iff s).2 hk⟩
  rw [hd, List.mem_singleton] at hdm
  subst hdm
  exact ⟨f, hf, .inr hc, hp, fun _ _ h => hs h⟩

def wRowPlanned : Node := { key := fileKey "o", creator := some (stepKey "A"), fstate := .planned }
def wRowBuilt : Node := { key := fileKey "o", creator := some (stepKey "A"), fstate := .built, fhash := some 5 }

theorem find_wState1 : wState1.find? (fileKey "o") = some wRowPlanned := by rfl
theorem find_wState2 : wState2.find? (fileKey "o") = some wRowPlanned := by rfl
theorem find_wState3 : wState3.find? (fileKey "o") = some wRowBuilt := by rfl

theorem inv4_wState1 : Inv4 wState1 :=
  inv4_of_one_edge wState1 wRowPlanned rfl find_wState1 rfl (by decide) (fun h => by have := h.2; revert this; decide) (by decide)

theorem inv4_wState2 : Inv4 wState2 :=
  inv4_of_one_edge wState2 wRowPlanned rfl find_wState2 rfl (by decide) (fun h => by have := h.2; revert this; decide) (by decide)

theorem inv4_wState3 : Inv4 wState3 :=
  inv4_of_one_edge wState3 wRowBuilt rfl find_wState3 rfl (by decide) (fun _ => .inl rfl) (by decide)

theorem guard_refuses_set_state : ¬ ReqOKS wState1 (.setState (stepKey "A") .succeeded) := by
  intro h
  have := h rfl wEdge (by decide) rfl wRowPlanned find_wState1 rfl
  rcases this with h | h <;> cases h

theorem guard_refuses_completed : ¬ ReqOKS wState2 (.completed (stepKey "A") (some 7) false) := by
  intro h
  exact h wEdge (by decide) rfl wRowPlanned find_wState2 rfl rfl

theorem succ_wState3 : Succ wState3 (stepKey "A") := ⟨rfl, by decide⟩

theorem guard_refuses_amend : ¬ ReqOKS wState3 (.amend (stepKey "A") [] [] ["o2"] [] []) := fun h => h succ_wState3

theorem guard_refuses_reset : ¬ ReqOKS wState4 (.resetRerun (stepKey "A")) := fun h => h succ_wState3

end StepupModel.K.SuccOut
