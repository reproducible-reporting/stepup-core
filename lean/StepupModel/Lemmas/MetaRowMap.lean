import StepupModel.Lemmas.Rows
import StepupModel.Lemmas.OpCases
import StepupModel.Lemmas.AfterLoop
/-!
# The metadata refresh rewrites rows in place

Each stage of `KState.updateMeta` (the three refreshes at the head of `Scheduler.pop_next_job`) returns its input
with one function applied to every row, and that function changes
only the stage's own cached columns (`RowMap`, `updateMeta_rowMap`).  What a module needs of a refresh, that it keeps
a view of the rows or a predicate with a leaf for cache rewrites, is a projection of this (`RowMap.view`,
`RowMap.sameView`, `StableW.rowMap`).  The projections in use stand with their users: `updateMeta_dcore` (KProp.lean),
`MetaSafe.updateMeta_struct` (MetaSafeReach.lean), `ReadyDisc.updateMeta_sameGraph` (ReadyDiscipline.lean).
-/
namespace StepupModel.K

/-- The row without the three columns that `_update_meta_safe` writes. -/
def MetaSafe.eraseSafe (n : Node) : Node := { n with safe := false, safeNH := false, checkSafe := false }

/-- The row without the three columns that `_update_meta_after` writes. -/
def MetaAfter.eraseAfter (n : Node) : Node := { n with impliedNeed := .default, tail := 0, checkAfter := false }

/-- The row without the two columns that `_update_meta_ready` writes. -/
def noReady (n : Node) : Node := { n with ready := false, checkReady := false }

/-- The row without the cached columns of the first two stages of `updateMeta`. -/
def Node.eraseSA (n : Node) : Node :=
  { n with safe := false, safeNH := false, checkSafe := false, impliedNeed := .default, tail := 0, checkAfter := false }

/-- The row without the eight cached columns that `updateMeta` writes. -/
def Node.uncached (n : Node) : Node :=
  { n with safe := false, safeNH := false, checkSafe := false, impliedNeed := .default, tail := 0, checkAfter := false,
           ready := false, checkReady := false }

theorem updateMetaSafe_rowMap {s s' : KState} (h : s.updateMetaSafe = .ok s') : RowMap MetaSafe.eraseSafe s s' := by
  obtain ⟨_, rfl⟩ | ⟨rows, _, rfl⟩ := MetaSafe.updateMetaSafe_ok h
  · exact .refl _
  · rw [← MetaSafe.writeBack_eq]
    exact (RowMap.modifyWhere s _ _ fun n => by unfold MetaSafe.setBest; split <;> rfl).trans
      (RowMap.modifyWhere _ _ _ fun _ => rfl)

theorem applyAfterUpdates_rowMap (s : KState) (u : List (Key × Need × Nat)) :
    RowMap MetaAfter.eraseAfter s (s.applyAfterUpdates u) :=
  RowMap.modifyWhere s _ _ fun n => by split <;> rfl

theorem updateMetaAfter_rowMap {s s' : KState} {cfg : KConfig} (h : s.updateMetaAfter cfg = .ok s') :
    RowMap MetaAfter.eraseAfter s s' := by
  obtain ⟨_, rfl⟩ | ⟨st, hl, rfl⟩ := MetaAfter.updateMetaAfter_ok h
  · exact .refl _
  · exact (afterLoop_invariant (P := RowMap MetaAfter.eraseAfter s) (fun t u ht => ht.trans (applyAfterUpdates_rowMap t u))
      (.refl s) hl).trans (RowMap.modifyWhere _ _ _ fun _ => rfl)

theorem updateMetaReady_rowMap (s : KState) : RowMap noReady s s.updateMetaReady :=
  RowMap.modifyWhere s _ _ fun _ => rfl

/-- The first two stages of `updateMeta` (for predicates that read `_ready`). -/
theorem updateMeta_rowMap' {s s' : KState} {cfg : KConfig} (h : s.updateMeta cfg = .ok s') :
    ∃ s2, RowMap Node.eraseSA s s2 ∧ s' = s2.updateMetaReady := by
  obtain ⟨s1, s2, h1, h2, rfl⟩ := updateMeta_ok h
  exact ⟨s2, ((updateMetaSafe_rowMap h1).mono (.of_blind _ fun _ => rfl)).trans
    ((updateMetaAfter_rowMap h2).mono (.of_blind _ fun _ => rfl)), rfl⟩

theorem updateMeta_rowMap {s s' : KState} {cfg : KConfig} (h : s.updateMeta cfg = .ok s') : RowMap Node.uncached s s' := by
  obtain ⟨s2, h12, rfl⟩ := updateMeta_rowMap' h
  exact (h12.mono (.of_blind _ fun _ => rfl)).trans ((updateMetaReady_rowMap s2).mono (.of_blind _ fun _ => rfl))

end StepupModel.K
