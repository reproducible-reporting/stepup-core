import StepupModel.Lemmas.Ownership
import StepupModel.Lemmas.OwnershipProducts
/-!
# C08 ownership: the side condition of a recycling `define` is needed (F21, kernel-checked)

`treesDisjoint_after_every_history` / `treeOwnsBeneath_after_every_history` exclude one thing that the director
does: a `define` that recycles a detached step (`try_recycle`) whose product subtree conflicts with what was
declared while it was detached (`DefineOK`, `RecycleClean`).  Three histories made only of requests the director
issues; for each: the state the model reaches (a literal, compared with the model's own run of the history by the
`#guard` lines, which are evaluation checks and not theorems), (O1) and (O4) hold in it, ONE `define` is accepted,
and (O4) resp. (O1) fails afterwards; the guard refuses exactly that request.  The same histories replay on the
implementation with the same answers and the same database (`harness/witness/ownership_*.txt`,
`harness/kreplay.py`; the oracle on the real database: `harness/witness/ownership_oracle.py`).  All three are
instances of the known finding F21 (`ownership-file-under-static:tree-reattached-by-recycle`,
`ownership-file-under-static:file-reattached-by-recycle`, `ownership-nested-static-trees:tree-reattached-by-recycle`).
-/
namespace StepupModel.K.Own

def wCfg : KConfig := {}
def wPlan : Key := stepKey "./plan.py"

def wPre : List (KConfig × Req) := [
  (wCfg, .define rootKey { cmd := "./plan.py", need := .plan, safe := true }),
  (wCfg, .pop (some wPlan))]

/-! Evaluating `define` on a literal state: `String.splitOn` (in `stepLabel`) is defined by well-founded recursion and does not reduce in `decide`; the label
of the step is computed by unfolding its equation, and the recycling branch of `define_step` is exposed as the
operation `recycleStep`, which `decide +kernel` evaluates. -/

theorem split_S : "S".splitOn "  # wd=" = ["S"] := by
  rw [String.splitOn.eq_1]
  have h0 : ("  # wd=" == "") = false := by decide +kernel
  rw [h0]
  simp only [Bool.false_eq_true, if_false]
  rw [String.splitOnAux.eq_1]
  have h1 : String.Pos.Raw.atEnd "S" 0 = false := by decide +kernel
  rw [h1]
  simp only [Bool.false_eq_true, if_false]
  have h2 : (String.Pos.Raw.get "S" 0 == String.Pos.Raw.get "  # wd=" 0) = false := by decide +kernel
  rw [h2]
  simp only [Bool.false_eq_true, if_false]
  rw [String.splitOnAux.eq_1]
  have h3 : String.Pos.Raw.atEnd "S" (String.Pos.Raw.next "S" ((0 : String.Pos.Raw).unoffsetBy 0)) = true := by
    decide +kernel
  rw [h3]
  simp only [if_true]
  decide +kernel

theorem stepLabel_S : stepLabel "S" "." = some "S" := by
  unfold stepLabel
  rw [split_S]
  decide +kernel

def wDecl : StepDecl := { cmd := "S" }

theorem normDecl_wDecl : normDecl wDecl = wDecl := by
  simp [normDecl, wDecl, normPaths, sortStrs, dedupSorted]

theorem defineGuard_S (s : KState) (hg : s.attachedGlobs = []) : s.defineGuard wCfg wPlan wDecl = .ok (stepKey "S") :=
  defineGuard_plain (by decide) rfl rfl rfl rfl hg stepLabel_S

/-- Everything a witness needs of its state, as one Boolean for `decide +kernel` (`recycleBreaks_spec`). -/
def recycleBreaks (Q : KState → Prop) [DecidablePred Q] (s : KState) : Bool :=
  decide (s.attachedGlobs = []) && match s.find? (stepKey "S") with
    | some n => n.detached && s.canRecycle (stepKey "S") wDecl && okAnd (fun a => !decide (Q a)) (s.recycleStep (stepKey "S") wPlan wDecl n)
    | none => false

theorem recycleBreaks_spec {Q : KState → Prop} [DecidablePred Q] {s : KState} (h : recycleBreaks Q s = true) :
    ∃ s', s.exec wCfg (.define wPlan wDecl) = .ok s' ∧ ¬ Q s'.1 := by
  unfold recycleBreaks at h
  cases hf : s.find? (stepKey "S") with
  | none => rw [hf] at h; simp at h
  | some n =>
    rw [hf] at h
    simp only [Bool.and_eq_true, decide_eq_true_eq] at h
    obtain ⟨hg, ⟨hd, hc⟩, h⟩ := h
    rw [exec_define_recycle normDecl_wDecl (defineGuard_S s hg) hf hd hc]
    obtain ⟨s1, hr, hq⟩ := okAnd_not h
    rw [hr]
    exact ⟨(s1, _), rfl, hq⟩

/-- The same for "`ReqOKO` refuses `define plan "S"`" (`recycleRefused_spec`). -/
def recycleRefused (s : KState) : Bool :=
  match s.find? (stepKey "S") with
  | some n => n.detached && s.canRecycle (stepKey "S") wDecl && !s.isDetached wPlan && !decide (RecycleClean s (stepKey "S"))
  | none => false

theorem recycleRefused_spec {s : KState} (h : recycleRefused s = true) : ¬ ReqOKO s (.define wPlan wDecl) := by
  unfold recycleRefused at h
  cases hf : s.find? (stepKey "S") with
  | none => rw [hf] at h; cases h
  | some n =>
    rw [hf] at h
    simp only [Bool.and_eq_true, Bool.not_eq_true', decide_eq_false_iff_not] at h
    exact fun hr => h.2 (hr "S" stepLabel_S n hf h.1.1.1 (by rw [normDecl_wDecl]; exact h.1.1.2) h.1.2)

def wHist1 : List (KConfig × Req) := wPre ++ [
  (wCfg, .define wPlan { cmd := "S" }),
  (wCfg, .pop (some (stepKey "S"))),
  (wCfg, .tree (stepKey "S") "d"),
  (wCfg, .resetRerun wPlan),
  (wCfg, .amend wPlan [] [] ["d/g"] [] [])]

def wState1 : KState :=
  { nodes := [
      { key := { kind := .root, label := "" }, creator := some { kind := .root, label := "" } },
      { key := { kind := .step, label := "./plan.py" }, creator := some { kind := .root, label := "" }, sstate := .running,
        need := .plan, safe := true, safeNH := true, impliedNeed := .plan, checkAfter := true, ready := true,
        checkReady := false },
      { key := { kind := .step, label := "S" }, detached := true, sstate := .running, safe := true, checkSafe := true,
        safeNH := true, checkAfter := true, ready := true, checkReady := false },
      { key := { kind := .st, label := "d/" }, creator := some { kind := .step, label := "S" }, detached := true },
      { key := { kind := .file, label := "d/g" }, creator := some { kind := .step, label := "./plan.py" },
        fstate := .planned }],
    deps := [{ src := { kind := .step, label := "./plan.py" }, snk := { kind := .file, label := "d/g" }, dyn := true }] }

#guard reprStr wState1 == reprStr (KState.init.run wHist1)

/-- F21, tree over file: `try_recycle` re-attaches S with its tree `d/`, and the attached output `d/g` that the plan
declared in the meantime lies under an attached static tree that does not own it
(`harness/witness/ownership_tree_recycled.txt`). -/
theorem recycled_tree_over_file_breaks_O4 : TreesDisjoint wState1 ∧ TreeOwnsBeneath wState1 ∧
    ∃ s', wState1.exec wCfg (.define wPlan wDecl) = .ok s' ∧ ¬ TreeOwnsBeneath s'.1 :=
  ⟨by decide +kernel, by decide +kernel, recycleBreaks_spec (by decide +kernel)⟩

theorem guard_refuses_1 : ¬ ReqOKO wState1 (.define wPlan wDecl) :=
  recycleRefused_spec (by decide +kernel)

def wHist2 : List (KConfig × Req) := wPre ++ [
  (wCfg, .define wPlan { cmd := "S" }),
  (wCfg, .pop (some (stepKey "S"))),
  (wCfg, .tree (stepKey "S") "d"),
  (wCfg, .resetRerun wPlan),
  (wCfg, .tree wPlan "d/e")]

def wState2 : KState :=
  { nodes := [
      { key := { kind := .root, label := "" }, creator := some { kind := .root, label := "" } },
      { key := { kind := .step, label := "./plan.py" }, creator := some { kind := .root, label := "" }, sstate := .running,
        need := .plan, safe := true, safeNH := true, impliedNeed := .plan, ready := true, checkReady := false },
      { key := { kind := .step, label := "S" }, detached := true, sstate := .running, safe := true, checkSafe := true,
        safeNH := true, checkAfter := true, ready := true, checkReady := false },
      { key := { kind := .st, label := "d/" }, creator := some { kind := .step, label := "S" }, detached := true },
      { key := { kind := .st, label := "d/e/" }, creator := some { kind := .step, label := "./plan.py" } }],
    deps := [] }

#guard reprStr wState2 == reprStr (KState.init.run wHist2)

/-- F21, nested trees: the recycled tree `d/` comes back around the tree `d/e/` that the plan registered while `d/`
was detached (`harness/witness/ownership_nested_trees.txt`). -/
theorem recycled_tree_nested_breaks_O1 : TreesDisjoint wState2 ∧ TreeOwnsBeneath wState2 ∧
    ∃ s', wState2.exec wCfg (.define wPlan wDecl) = .ok s' ∧ ¬ TreesDisjoint s'.1 :=
  ⟨by decide +kernel, by decide +kernel, recycleBreaks_spec (by decide +kernel)⟩

theorem guard_refuses_2 : ¬ ReqOKO wState2 (.define wPlan wDecl) :=
  recycleRefused_spec (by decide +kernel)

/-- `amend S` after `reset_for_rerun plan`: the process of the detached step S is still running. -/
def wHist3 : List (KConfig × Req) := wPre ++ [
  (wCfg, .define wPlan { cmd := "T" }),
  (wCfg, .define wPlan { cmd := "S" }),
  (wCfg, .pop (some (stepKey "T"))),
  (wCfg, .pop (some (stepKey "S"))),
  (wCfg, .tree (stepKey "T") "d"),
  (wCfg, .resetRerun wPlan),
  (wCfg, .amend (stepKey "S") [] [] ["d/o"] [] []),
  (wCfg, .define wPlan { cmd := "T" })]

def wState3 : KState :=
  { nodes := [
      { key := { kind := .root, label := "" }, creator := some { kind := .root, label := "" } },
      { key := { kind := .step, label := "./plan.py" }, creator := some { kind := .root, label := "" }, sstate := .running,
        need := .plan, safe := true, safeNH := true, impliedNeed := .plan, ready := true, checkReady := false },
      { key := { kind := .step, label := "T" }, creator := some { kind := .step, label := "./plan.py" }, sstate := .running,
        safe := true, checkSafe := true, safeNH := true, checkAfter := true, ready := true, checkReady := false },
      { key := { kind := .step, label := "S" }, detached := true, sstate := .running, safe := true, checkSafe := true,
        safeNH := true, checkAfter := true, ready := true, checkReady := false },
      { key := { kind := .st, label := "d/" }, creator := some { kind := .step, label := "T" } },
      { key := { kind := .file, label := "d/o" }, creator := some { kind := .step, label := "S" }, detached := true,
        fstate := .planned }],
    deps := [{ src := { kind := .step, label := "S" }, snk := { kind := .file, label := "d/o" }, dyn := true }] }

#guard reprStr wState3 == reprStr (KState.init.run wHist3)

/-- F21, file under tree: the recycling `define` of S re-attaches its output `d/o` under the attached static
tree `d/` of T (`harness/witness/ownership_file_recycled.txt`). -/
theorem recycled_file_under_tree_breaks_O4 : TreesDisjoint wState3 ∧ TreeOwnsBeneath wState3 ∧
    ∃ s', wState3.exec wCfg (.define wPlan wDecl) = .ok s' ∧ ¬ TreeOwnsBeneath s'.1 :=
  ⟨by decide +kernel, by decide +kernel, recycleBreaks_spec (by decide +kernel)⟩

theorem guard_refuses_3 : ¬ ReqOKO wState3 (.define wPlan wDecl) :=
  recycleRefused_spec (by decide +kernel)

/-- The guard does not refuse recycling as such: the `define` that recycled T with its tree (the last request of
`wHist3`) was clean. -/
def wState3a : KState :=
  { nodes := [
      { key := { kind := .root, label := "" }, creator := some { kind := .root, label := "" } },
      { key := { kind := .step, label := "./plan.py" }, creator := some { kind := .root, label := "" }, sstate := .running,
        need := .plan, safe := true, safeNH := true, impliedNeed := .plan, ready := true, checkReady := false },
      { key := { kind := .step, label := "T" }, detached := true, sstate := .running,
        safe := true, checkSafe := true, safeNH := true, checkAfter := true, ready := true, checkReady := false },
      { key := { kind := .step, label := "S" }, detached := true, sstate := .running, safe := true, checkSafe := true,
        safeNH := true, checkAfter := true, ready := true, checkReady := false },
      { key := { kind := .st, label := "d/" }, creator := some { kind := .step, label := "T" }, detached := true },
      { key := { kind := .file, label := "d/o" }, creator := some { kind := .step, label := "S" }, detached := true,
        fstate := .planned }],
    deps := [{ src := { kind := .step, label := "S" }, snk := { kind := .file, label := "d/o" }, dyn := true }] }

theorem guard_accepts_clean_recycle : RecycleClean wState3a (stepKey "T") := by decide +kernel


/-! Declarations in the name of a static tree.  The model's `static`, `declare_static` and `amend` take any node as
the declarer; `_declare_file` skips the owning-tree check when the declarer is a tree.  The director resolves the
declarer of these requests as the step whose process sent them, and the harness protocol resolves it as a step (or the
root), so these are requests of the model only (on the real `Workflow`: `harness/witness/ownership_tree_declarer.py`);
they are why `ReqOKO` has its three other clauses. -/

def wHist4 : List (KConfig × Req) := wPre ++ [
  (wCfg, .tree wPlan "a"),
  (wCfg, .tree wPlan "b")]

def wState4 : KState :=
  { nodes := [
      { key := { kind := .root, label := "" }, creator := some { kind := .root, label := "" } },
      { key := { kind := .step, label := "./plan.py" }, creator := some { kind := .root, label := "" }, sstate := .running,
        need := .plan, safe := true, checkSafe := true, safeNH := true, impliedNeed := .plan, ready := true,
        checkReady := false },
      { key := { kind := .st, label := "a/" }, creator := some { kind := .step, label := "./plan.py" } },
      { key := { kind := .st, label := "b/" }, creator := some { kind := .step, label := "./plan.py" } }],
    deps := [] }

#guard reprStr wState4 == reprStr (KState.init.run wHist4)

/-- `static` in the name of the tree `a/` for a path under the tree `b/`: accepted, and `b/x` lies under `b/` but is
owned by `a/`. -/
theorem static_by_tree_breaks_O4 : TreesDisjoint wState4 ∧ TreeOwnsBeneath wState4 ∧
    ¬ ReqOKO wState4 (.static (treeKey "a/") ["b/x"]) ∧
    ∃ s', wState4.exec wCfg (.static (treeKey "a/") ["b/x"]) = .ok s' ∧ ¬ TreeOwnsBeneath s'.1 :=
  ⟨by decide +kernel, by decide +kernel, by unfold ReqOKO; decide +kernel, okAnd_not (by decide +kernel)⟩

theorem declStatic_by_tree_breaks_O4 : ¬ ReqOKO wState4 (.declStatic (treeKey "a/") [] ["b/x"] []) ∧
    ∃ s', wState4.exec wCfg (.declStatic (treeKey "a/") [] ["b/x"] []) = .ok s' ∧ ¬ TreeOwnsBeneath s'.1 :=
  ⟨by unfold ReqOKO; decide +kernel, okAnd_not (by decide +kernel)⟩

/-- `amend` addressed to the tree `a/`: accepted, the PLANNED output `b/x` is created by a static tree (O5 fails:
`ProductByStep`) and lies under `b/` (O4 fails). -/
theorem amend_of_tree_breaks_O4_O5 : ProductByStep wState4 ∧
    ¬ ReqOKO wState4 (.amend (treeKey "a/") [] [] ["b/x"] [] []) ∧
    (∃ s', wState4.exec wCfg (.amend (treeKey "a/") [] [] ["b/x"] [] []) = .ok s' ∧ ¬ TreeOwnsBeneath s'.1) ∧
    (∃ s', wState4.exec wCfg (.amend (treeKey "a/") [] [] ["b/x"] [] []) = .ok s' ∧ ¬ ProductByStep s'.1) :=
  have ⟨s', h, hn⟩ := okAnd_not (Q := fun a : KState × String => TreeOwnsBeneath a.1 ∨ ProductByStep a.1)
    (r := wState4.exec wCfg (.amend (treeKey "a/") [] [] ["b/x"] [] [])) (by decide +kernel)
  ⟨by decide +kernel, by unfold ReqOKO; decide +kernel, ⟨s', h, fun ht => hn (.inl ht)⟩, ⟨s', h, fun hp => hn (.inr hp)⟩⟩

#print axioms recycled_tree_over_file_breaks_O4
#print axioms recycled_tree_nested_breaks_O1
#print axioms recycled_file_under_tree_breaks_O4
#print axioms guard_refuses_1
#print axioms guard_refuses_2
#print axioms guard_refuses_3
#print axioms static_by_tree_breaks_O4
#print axioms declStatic_by_tree_breaks_O4
#print axioms amend_of_tree_breaks_O4_O5

end StepupModel.K.Own
