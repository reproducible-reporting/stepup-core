import StepupModel.Lemmas.JobLoop
/-! Invariants of the `Builder.job_loop` model over every event sequence: the job limit; the loop returns only
when idle; every started job is accounted for; completions are reported once; the inner loop terminates
within `njob + 4` passes; a parked loop has nothing it could start (no lost wake-up). -/
namespace StepupModel.B.JobLoop
open StepupModel.B.Build (Blind)

def JobLimit (n : Nat) (jl : JL) : Prop := jl.running.length ≤ n ∧ jl.njob = n

theorem pass_jobLimit {s : JL} {a : Act} {r : JL × Ctl} {n : Nat} (p : Pass s a r) (h : JobLimit n s) :
    JobLimit n r.1 := by
  obtain ⟨_, _, _, _, _, _, _, _, e⟩ := p.eq
  have hf := p.free
  unfold JobLimit at h ⊢
  rw [e]
  refine ⟨?_, h.2⟩
  show (s.running ++ a.starts).length ≤ n
  rw [List.length_append]
  cases a with
  | hash i => have := hf nofun; show _ + 1 ≤ n; omega
  | step j => have := hf nofun; show _ + 1 ≤ n; omega
  | raise | idle | full => exact h.1

theorem blind_jobLimit (n : Nat) : Blind (JobLimit n) where
  offers := fun _ _ h => h
  wake := fun _ _ h => h
  status := fun _ _ h => h
  iter := fun jl h => (pass_iter jl).elim fun _ p => pass_jobLimit p h
  apply := fun jl e h => by
    unfold JobLimit at h ⊢
    rw [(apply_frame jl e).1]
    rcases apply_tasks jl e with ⟨hr, -⟩ | ⟨j, ok, -, -, hr, -⟩
    · rw [hr]; exact h
    · rw [hr]; exact ⟨Nat.le_trans List.length_erase_le h.1, h.2⟩

theorem run_jobLimit (njob : Nat) (evs : List Ev) :
    (run njob evs).running.length ≤ njob ∧ (run njob evs).njob = njob :=
  run_blind (blind_jobLimit njob) njob evs ⟨Nat.zero_le _, rfl⟩

theorem pass_status {s : JL} {a : Act} {r : JL × Ctl} (p : Pass s a r) : r.1.status = s.status := by
  obtain ⟨_, _, _, _, _, _, _, _, e⟩ := p.eq; rw [e]

theorem iter_status (s : JL) : (iter s).1.status = s.status := (pass_iter s).elim fun _ p => pass_status p

theorem pass_ret {s : JL} {a : Act} {r : JL × Ctl} (p : Pass s a r) (h : r.2 = .ret) :
    r.1.running = [] ∧ r.1.done = [] := by
  cases p with
  | raise | hash | step => cases h
  | idle => exact tail_ret _ h
  | full => exact tail_ret _ h

theorem iter_ret (s : JL) (h : (iter s).2 = .ret) : (iter s).1.running = [] ∧ (iter s).1.done = [] :=
  (pass_iter s).elim fun _ p => pass_ret p h

namespace Pass

theorem ret {s : JL} {a : Act} {r : JL × Ctl} (p : Pass s a r) (h : r.2 = .ret) (hn : 1 ≤ s.njob) :
    a = .idle := by
  have hr := (pass_ret p h).1
  obtain ⟨_, _, _, _, _, _, _, _, e⟩ := p.eq
  cases p with
  | raise | hash | step => cases h
  | idle => rfl
  | full h1 hlt =>
    obtain ⟨_, _, _, _, _, rfl⟩ := handleDone_eq h1
    rw [e] at hr
    simp only [Act.starts, List.append_nil] at hr
    rw [hr] at hlt
    exact absurd hn hlt

theorem wait_free {s : JL} {a : Act} {r : JL × Ctl} (p : Pass s a r) (h : r.2 = .wait)
    (hf : r.1.running.length < r.1.njob) : a = .idle := by
  obtain ⟨_, _, _, _, _, _, _, _, e⟩ := p.eq
  cases p with
  | raise | hash | step => cases h
  | idle => rfl
  | full h1 hlt =>
    obtain ⟨_, _, _, _, _, rfl⟩ := handleDone_eq h1
    rw [e] at hf
    simp only [Act.starts, List.append_nil] at hf
    exact absurd hf hlt

end Pass

def RetIdle (s : JL) : Prop := s.status = .returned → s.running = [] ∧ s.done = []

theorem settleN_ret (fuel : Nat) (s : JL) (hw : s.status = .waiting) : RetIdle (settleN fuel s) := by
  have hst := iter_status s
  have hret := iter_ret s
  fun_induction settleN fuel s with
  | case1 s => intro hr; rw [hw] at hr; cases hr
  | case2 fuel s s' e ih => rw [e] at hst; exact ih (hst.trans hw) (iter_status s') (iter_ret s')
  | case3 fuel s s' e => intro hr; cases hr
  | case4 fuel s s' e => rw [e] at hret; exact fun _ => hret rfl
  | case5 fuel s s' e => intro hr; cases hr

theorem apply_retIdle (s : JL) (e : Ev) (h : RetIdle s) : RetIdle (apply s e) := by
  intro hr
  rcases apply_status s e with hs | ⟨-, -, hs⟩
  · obtain ⟨h1, h2⟩ := h (hs ▸ hr)
    rcases apply_tasks s e with ⟨q1, q2⟩ | ⟨j, ok, -, hj, -⟩
    · exact ⟨q1.trans h1, q2.trans h2⟩
    · rw [h1] at hj; cases hj
  · rw [hs] at hr; cases hr

theorem apply_status_ret (s : JL) (e : Ev) (h : (apply s e).status = .returned) : s.status = .returned := by
  rcases apply_status s e with hs | ⟨-, -, hs⟩
  · exact hs ▸ h
  · rw [hs] at h; cases h

theorem step_retIdle (s : JL) (e : Ev) (h : RetIdle s) : RetIdle (step s e) := by
  have ha := apply_retIdle s e h
  unfold step
  rcases settle_cases (apply s e) (e = .start ∧ (s.status = .idle ∨ s.status = .returned)) with
    ⟨hs, -⟩ | ⟨hw, -, hs⟩ | ⟨hw, -, -, hs⟩
  · rw [hs]; exact ha
  · rw [hs]; exact settleN_ret _ _ hw
  · rw [hs]; exact settleN_ret _ _ hw

theorem run_retIdle (njob : Nat) (evs : List Ev) : RetIdle (run njob evs) :=
  run_inv njob evs (fun h => nomatch h) step_retIdle

/-- A job that the loop started is running, waits to be retired, or was handled: nothing is lost
and nothing is counted twice. -/
def Accounted (s : JL) : Prop :=
  ∀ j, s.started.count j = s.handled.count j + (s.done.map Prod.fst).count j + s.running.count j

theorem handleDone_count (x : Job) {l : List (Job × Bool)} {s s1 : JL} {b : Bool} (h : handleDone s l = (s1, b)) :
    s1.handled.count x + (s1.done.map Prod.fst).count x = s.handled.count x + (l.map Prod.fst).count x := by
  fun_induction handleDone s l with
  | case1 s => cases h; rfl
  | case2 s j ok rest _ =>
    cases h
    simp only [List.map_cons, List.count_cons, List.count_append, List.map_reverse, List.count_reverse,
      List.count_nil]
    omega
  | case3 s j ok rest _ ih =>
    obtain ⟨r, e⟩ := retire_eq s j
    rw [ih h, e]
    simp only [List.count_append, List.map_cons, List.count_cons, List.count_nil]
    omega

theorem handleDone_accounted {s s1 : JL} {b : Bool} (h1 : handleDone s s.done.reverse = (s1, b))
    (h : Accounted s) : Accounted s1 := by
  intro x
  have hx := h x
  have hc := handleDone_count x h1
  rw [List.map_reverse, List.count_reverse] at hc
  obtain ⟨hrun, -, -, -, -, -, hstarted, -⟩ := handleDone_frame h1
  rw [hrun, hstarted]
  omega

theorem pass_accounted {s : JL} {a : Act} {r : JL × Ctl} (p : Pass s a r) (h : Accounted s) : Accounted r.1 := by
  obtain ⟨s1, b, q, c, w, o, h1, -, e⟩ := p.staged
  intro x
  have hx := handleDone_accounted h1 h x
  rw [e]
  simp only [List.count_append]
  omega

theorem blind_accounted : Blind Accounted where
  offers := fun _ _ h => h
  wake := fun _ _ h => h
  status := fun _ _ h => h
  iter := fun jl h => (pass_iter jl).elim fun _ p => pass_accounted p h
  apply := fun jl e h x => by
    have hx := h x
    obtain ⟨-, hstarted, hhandled, -⟩ := apply_frame jl e
    rw [hstarted, hhandled]
    rcases apply_tasks jl e with ⟨hr, hd⟩ | ⟨j, ok, -, hj, hr, hd, -⟩
    · rw [hr, hd]; exact hx
    · have := count_erase_add hj x
      rw [hr, hd, List.map_append, List.count_append]
      simp only [List.map_cons, List.map_nil] at this ⊢
      omega

theorem accounted_mem {s : JL} (h : Accounted s) (j : Job) :
    j ∈ s.started ↔ j ∈ s.handled ∨ j ∈ s.done.map Prod.fst ∨ j ∈ s.running := by
  have := h j
  simp only [← List.count_pos_iff]
  omega

theorem run_accounted (njob : Nat) (evs : List Ev) : Accounted (run njob evs) :=
  run_blind blind_accounted njob evs (fun _ => rfl)

/-- `record_job_completed(i)` was called at most as often as a task of step job `i` was handled,
and exactly as often while no task has raised. -/
def Reported (s : JL) : Prop :=
  ∀ i, s.retired.count i ≤ s.handled.count (.step i) ∧
    (s.draining = false → s.retired.count i = s.handled.count (.step i))

theorem reported_of_eq {s t : JL} (h : Reported s) (h1 : t.retired = s.retired) (h2 : t.handled = s.handled)
    (h3 : t.draining = s.draining) : Reported t := by
  intro i; rw [h1, h2, h3]; exact h i

theorem reported_retired {s : JL} (h : Reported s) (hd : s.draining = false) {i : Nat}
    (hh : Job.step i ∈ s.handled) : i ∈ s.retired := by
  rw [← List.count_pos_iff] at hh ⊢
  rw [(h i).2 hd]; exact hh

theorem retired_not_in_flight {s : JL} (hacc : Accounted s) (hrep : Reported s) {i : Nat}
    (h1 : s.started.count (.step i) ≤ 1) (hr : i ∈ s.retired) :
    Job.step i ∉ s.running ∧ Job.step i ∉ s.done.map Prod.fst := by
  have h2 := List.count_pos_iff.2 hr
  have h3 := (hrep i).1
  have h4 := hacc (.step i)
  simp only [← List.count_pos_iff]
  omega

theorem retire_reported (s : JL) (j : Job) (h : Reported s) : Reported (retire s j) := by
  intro i
  obtain ⟨h1, h2⟩ := h i
  cases j with
  | step k =>
    simp only [retire, List.count_append, List.count_cons, List.count_nil, Nat.zero_add, beq_iff_eq,
      Job.step.injEq]
    by_cases hk : k = i
    · simp only [hk, if_true]; exact ⟨Nat.succ_le_succ h1, fun hd => congrArg (· + 1) (h2 hd)⟩
    · simp only [hk, if_false]; exact ⟨h1, h2⟩
  | hash k =>
    simp only [retire, List.count_append, List.count_cons, List.count_nil, Nat.zero_add, beq_iff_eq,
      reduceCtorEq, if_false]
    exact ⟨h1, h2⟩

theorem handleDone_reported {l : List (Job × Bool)} {s s1 : JL} {b : Bool} (h : handleDone s l = (s1, b))
    (hr : Reported s) : Reported s1 := by
  fun_induction handleDone s l with
  | case1 s => cases h; exact hr
  | case2 s j ok rest _ =>
    cases h
    intro i
    exact ⟨Nat.le_trans (hr i).1 (by rw [List.count_append]; exact Nat.le_add_right _ _), fun hd => nomatch hd⟩
  | case3 s j ok rest _ ih => exact ih h (retire_reported s j hr)

theorem pass_reported {s : JL} {a : Act} {r : JL × Ctl} (p : Pass s a r) (h : Reported s) : Reported r.1 := by
  obtain ⟨s1, b, q, c, w, o, h1, -, e⟩ := p.staged
  exact reported_of_eq (handleDone_reported h1 h) (by rw [e]) (by rw [e]) (by rw [e])

theorem blind_reported : Blind Reported where
  offers := fun _ _ h => h
  wake := fun _ _ h => h
  status := fun _ _ h => h
  iter := fun jl h => (pass_iter jl).elim fun _ p => pass_reported p h
  apply := fun jl e h =>
    have ⟨_, _, hhandled, hretired, _, hdraining⟩ := apply_frame jl e
    reported_of_eq h hretired hhandled hdraining

theorem run_reported (njob : Nat) (evs : List Ev) : Reported (run njob evs) :=
  run_blind blind_reported njob evs (fun _ => ⟨Nat.le_refl _, fun _ => rfl⟩)

/-- Bound on the number of further passes that do not park: the free slots, one pass if the wake event is
set, two if there is something to retire. -/
def mu (s : JL) : Nat := (s.njob - s.running.length) + s.wake.toNat + 2 * (!s.done.isEmpty).toNat

theorem mu_le (s : JL) : mu s ≤ s.njob + 3 :=
  show _ ≤ s.njob + 1 + 2 * 1 from Nat.add_le_add (Nat.add_le_add (Nat.sub_le _ _) (Bool.toNat_le _)) (Nat.mul_le_mul_left 2 (Bool.toNat_le _))

/-- A parked loop: the wake event is clear, and if a slot is free the scheduler has no job on offer
and every queued hash job has already been claimed by a promoted runner. -/
def Parked (s : JL) : Prop :=
  s.wake = false ∧ (s.running.length < s.njob → s.offers = [] ∧ ∀ i ∈ s.queue, i ∈ s.claimed)

theorem pass_again_mu {s : JL} {a : Act} {r : JL × Ctl} (p : Pass s a r) (h : r.2 = .again) : mu r.1 < mu s := by
  have base : ∀ {s1}, handleDone s s.done.reverse = (s1, false) → mu s1 ≤ mu s := by
    intro s1 h1
    obtain ⟨hd, -, hwk⟩ := handleDone_ok h1
    unfold mu
    rw [(handleDone_frame h1).1, (handleDone_frame h1).2.1, hd]
    cases he : s.done with
    | nil => rw [hwk (by rw [he]; rfl)]; exact Nat.le_refl _
    | cons a l =>
      have := Bool.toNat_le s1.wake
      show _ + _ + 0 ≤ _ + _ + 2
      omega
  have start : ∀ (t : JL) (j : Job), t.running.length < t.njob → mu (startJob t j) < mu t := by
    intro t j hlt
    unfold mu startJob
    rw [List.length_append]
    exact Nat.add_lt_add_right (Nat.add_lt_add_right (Nat.sub_succ_lt_self _ _ hlt) _) _
  have clear : ∀ (t : JL), (tail t).2 = .again → mu (tail t).1 < mu t := by
    intro t ht
    obtain ⟨tw, te⟩ := tail_again t ht
    rw [te]; unfold mu; rw [tw]
    exact Nat.add_lt_add_right (Nat.lt_succ_self _) _
  cases p with
  | raise => cases h
  | hash h1 hlt h2 | step h1 hlt h2 _ =>
    have hb := base h1
    obtain ⟨q, c, rfl⟩ := popHash_eq h2
    exact Nat.lt_of_lt_of_le (start _ _ hlt) hb
  | idle h1 _ h2 _ =>
    have hb := base h1
    obtain ⟨q, c, rfl⟩ := popHash_eq h2
    exact Nat.lt_of_lt_of_le (clear _ h) hb
  | full h1 _ => exact Nat.lt_of_lt_of_le (clear _ h) (base h1)

theorem pass_wait_parked {s : JL} {a : Act} {r : JL × Ctl} (p : Pass s a r) (h : r.2 = .wait) : Parked r.1 := by
  cases p with
  | raise | hash | step => cases h
  | idle h1 _ h2 h3 =>
    obtain ⟨tw, te, -⟩ := tail_wait _ h
    rw [te]
    exact ⟨tw, fun _ => ⟨List.head?_eq_none_iff.1 h3, fun i hi => by rw [(popHash_none h2).1] at hi; cases hi⟩⟩
  | full h1 hlt =>
    obtain ⟨tw, te, -⟩ := tail_wait _ h
    rw [te]
    exact ⟨tw, fun hl => absurd hl hlt⟩

theorem pass_wait_busy {s : JL} {a : Act} {r : JL × Ctl} (p : Pass s a r) (h : r.2 = .wait) : r.1.done = [] ∧ r.1.running ≠ [] := by
  cases p with
  | raise | hash | step => cases h
  | idle h1 _ h2 _ =>
    obtain ⟨-, te, hb⟩ := tail_wait _ h
    obtain ⟨_, _, rfl⟩ := popHash_eq h2
    have hd := (handleDone_ok h1).1
    rw [te]; exact ⟨hd, fun hr => hb ⟨hr, hd⟩⟩
  | full h1 _ =>
    obtain ⟨-, te, hb⟩ := tail_wait _ h
    rw [te]; exact ⟨(handleDone_ok h1).1, fun hr => hb ⟨hr, (handleDone_ok h1).1⟩⟩

theorem pass_draining {s : JL} {a : Act} {r : JL × Ctl} (p : Pass s a r) (h : a ≠ .raise) :
    r.1.draining = s.draining := by
  obtain ⟨s1, b, q, c, w, o, h1, hb, e⟩ := p.staged
  cases b with
  | true => exact absurd (hb.1 rfl) h
  | false => rw [e]; exact (handleDone_ok h1).2.1

theorem pass_running_mono {s : JL} {a : Act} {r : JL × Ctl} (p : Pass s a r) : ∀ j ∈ s.running, j ∈ r.1.running := by
  obtain ⟨_, _, _, _, _, _, _, _, e⟩ := p.eq
  rw [e]; exact fun j hj => List.mem_append_left _ hj

theorem settleN_parked (fuel : Nat) (s : JL) (hm : mu s < fuel) :
    (settleN fuel s).status = .waiting → Parked (settleN fuel s) := by
  have hp := pass_iter s
  fun_induction settleN fuel s with
  | case1 s => omega
  | case2 fuel s s' e ih =>
    rw [e] at hp
    obtain ⟨_, hp⟩ := hp
    have hmu := pass_again_mu hp rfl
    dsimp only at hmu
    exact ih (by omega) (pass_iter s')
  | case3 fuel s s' e => rw [e] at hp; exact fun _ => hp.elim fun _ hp => pass_wait_parked hp rfl
  | case4 fuel s s' e => intro h; cases h
  | case5 fuel s s' e => intro h; cases h

/-- The fuel `njob + 4` of `settle` is never exhausted (`mu_le`): more fuel gives the same result. -/
theorem settleN_fuel_enough (fuel : Nat) : ∀ (s : JL) (k : Nat), mu s < fuel →
    settleN (fuel + k) s = settleN fuel s := by
  induction fuel with
  | zero => intro s k h; omega
  | succ n ih =>
    intro s k hm
    obtain ⟨_, hp⟩ := pass_iter s
    have hmu := pass_again_mu hp
    rw [show n + 1 + k = (n + k) + 1 by omega]
    simp only [settleN]
    generalize iter s = r at hmu
    obtain ⟨s1, c⟩ := r
    cases c
    · exact ih s1 k (by have := hmu rfl; simp only at this; omega)
    all_goals rfl

def ParkedInv (s : JL) : Prop := s.status = .waiting → Parked s

theorem apply_parked (s : JL) (e : Ev) (h : Parked s) (hw : (apply s e).wake = false) : Parked (apply s e) := by
  cases e with
  | start => rw [apply_start]; by_cases hc : s.status = .idle ∨ s.status = .returned <;> simp only [hc, if_true, if_false] <;> exact h
  | offer j => cases hw
  | submit p => show Parked (submit s p).1; rw [submit_quiet hw]; exact h
  | promote p =>
    obtain ⟨c, q, e, hc⟩ := apply_promote s p
    rw [e] at hw ⊢
    rw [submit_quiet hw] at hc ⊢
    exact ⟨h.1, fun hl => ⟨(h.2 hl).1, fun x hx => hc x ((h.2 hl).2 x hx)⟩⟩
  | fin j =>
    have e : apply s (.fin j) = resolveFor s j := moveDone_quiet hw
    obtain ⟨p, f, e'⟩ := resolveFor_eq s j
    rw [e, e']
    exact h
  | fail j =>
    cases j with
    | step i => show Parked (moveDone s _ false); rw [moveDone_quiet hw]; exact h
    | hash i => exact h

theorem step_parkedInv (s : JL) (e : Ev) (h : ParkedInv s) : ParkedInv (step s e) := by
  intro hst
  unfold step at hst ⊢
  rcases settle_cases (apply s e) (e = .start ∧ (s.status = .idle ∨ s.status = .returned)) with
    ⟨hs, hq⟩ | ⟨-, -, hs⟩ | ⟨-, -, -, hs⟩
  · -- the loop did not run: it was parked before, and the event has not set the wake event
    rw [hs] at hst ⊢
    obtain ⟨hf, hw⟩ := hq hst
    rcases apply_status s e with he | ⟨he, hi, -⟩
    · exact apply_parked s e (h (he ▸ hst)) hw
    · rw [decide_eq_false_iff_not] at hf; exact absurd ⟨he, hi⟩ hf
  · rw [hs] at hst ⊢
    exact settleN_parked _ _ (by have := mu_le (apply s e); omega) hst
  · rw [hs] at hst ⊢
    exact settleN_parked _ _ (by have := mu_le { apply s e with wake := false }; simp only at this; omega) hst

theorem run_parkedInv (njob : Nat) (evs : List Ev) : ParkedInv (run njob evs) :=
  run_inv njob evs (fun h => nomatch h) step_parkedInv

end StepupModel.B.JobLoop
