import StepupModel.Lemmas.StableReq
/-!
# Predicates that are stable under the primitive writes *with the cycle check on insertions*

`StableG` (`Lemmas/Stable.lean`) has as its `addDep` leaf `INSERT INTO dependency` under the guards
of the schema only (UNIQUE, kinds), so no predicate that forbids cycles can be stable in that sense.
The code never inserts an edge unchecked: `Workflow._supply_files` and `Node.add_source` first ask
`RECURSE_SINKS` whether the new source is among the recursive sinks of the new sink.  `StableCG`
is `StableG` with that check as one more hypothesis of the `addDep` leaf
(`(s.sinkClosure snk).contains src = false`, on the state the row is inserted in); every `StableG`
is a `StableCG` (`StableG.toC`), and every `StableCG` survives the writes with their triggers
(`StableCG.toW`).
-/
namespace StepupModel.K

/-- `StableG` (see `Lemmas/Stable.lean` for the other fields and for the guard `G` of `hold`) with
the cycle check of the code as a hypothesis of the `addDep` leaf.  `StableC P` below is the case
without a guard on `hold`. -/
structure StableCG (G : KState → Key → Prop) (P : KState → Prop) : Prop where
  /-- any update of cache and payload columns, on any set of rows -/
  cache : ∀ (s : KState) (p : Node → Bool) (f : Node → Node), CacheOnly f → P s → P (s.modifyWhere p f)
  /-- `UPDATE node SET detached = ?` on one row -/
  detached : ∀ (s : KState) (k : Key) (d : Bool), P s → P (s.modify k fun n => { n with detached := d })
  /-- `UPDATE node SET creator = ?` once the creator triggers and CHECKs have accepted it -/
  creator : ∀ (s : KState) (k : Key) (c : Option Key) (d : Bool), s.creatorAllowed k c d = true → P s →
    P (s.modify k fun n => { n with creator := c })
  /-- the plain `UPDATE node SET creator = ?` of `register_static_tree` -/
  handOverRow : ∀ (s : KState) (k tk : Key), P s → P (s.modify k fun n => { n with creator := some tk })
  /-- `UPDATE file SET state = ?[, hash = ?]` with CHECK and triggers (`fileRowWrite`) -/
  fileWrite : ∀ (s : KState) (k : Key) (n n' : Node) (st : FileState) (nh : Option (Option Nat)),
    s.find? k = some n → fileRowWrite n st nh = .ok n' → P s → P (s.modify k fun _ => n')
  /-- `INSERT INTO file` for a fresh row: a declarable state, no hash -/
  fileInit : ∀ (s : KState) (k : Key) (st : FileState), NoHashState st →
    (st = .undeclared → s.isDetached k = true) → P s →
    P (s.modify k fun n => { n with fstate := st, fhash := none })
  /-- `UPDATE step SET state = ?[, deferred = ?]` with CHECK and triggers (`stepRowWrite`) -/
  stepWrite : ∀ (s : KState) (k : Key) (n n' : Node) (st : StepState) (d : Option Bool),
    s.find? k = some n → stepRowWrite n st d = .ok n' → P s → P (s.modify k fun _ => n')
  /-- `Step.initialize_row` -/
  stepInit : ∀ (s : KState) (k : Key) (i : StepInit), P s → P (s.initStepRow k i)
  setHash : ∀ (s : KState) (k : Key) (h : Nat), P s → P (s.setHash k h)
  deleteHash : ∀ (s : KState) (k : Key), P s → P (s.deleteHash k)
  bumpDefer : ∀ (s : KState) (k : Key), P s → P (s.modify k fun n => { n with deferCount := n.deferCount + 1 })
  hold : ∀ (s : KState) (k : Key), G s k → P s → P (s.modify k fun n => { n with holding := n.holding + 1 })
  release : ∀ (s : KState) (k : Key) (n : Node), s.find? k = some n → n.holding ≠ 0 → P s →
    P (s.modify k fun n => { n with holding := n.holding - 1 })
  /-- `Step.after_recycle` -/
  recycled : ∀ (s : KState) (k : Key) (need : Need) (shell : Bool), P s →
    P (s.modify k fun n => { n with need := need, shell := shell })
  /-- `INSERT INTO dependency` after the cycle check of `_supply_files` / `check_sources_acyclic`
  (the source is not a recursive sink of the sink), UNIQUE and `dependency_check_kinds_ins` -/
  addDep : ∀ (s : KState) (src snk : Key), (s.sinkClosure snk).contains src = false →
    s.hasDep src snk = false → depKindOk src.kind snk.kind = true → P s →
    P { s with deps := s.deps ++ [({ src := src, snk := snk } : Dep)] }
  /-- `DELETE FROM dependency WHERE ...` -/
  filterDeps : ∀ (s : KState) (p : Dep → Bool), P s → P { s with deps := s.deps.filter fun d => !p d }
  /-- `INSERT INTO / DELETE FROM dynamic_dep` -/
  markDyn : ∀ (s : KState) (src snk : Key) (dyn : Bool), P s →
    P { s with deps := s.deps.map fun (d : Dep) => if d.src = src ∧ d.snk = snk then { d with dyn := dyn } else d }
  /-- `INSERT INTO node` of a label that has no row yet, creator kind accepted -/
  appendNode : ∀ (s : KState) (k : Key) (c : Option Key), s.find? k = none → s.insertAllowed k c = true → P s →
    P (s.appendNode k c)
  /-- `DELETE FROM node` of a row that is the sink of no edge any more -/
  removeNode : ∀ (s : KState) (k : Key), (∀ d ∈ s.deps, d.snk ≠ k) → P s →
    P { s with nodes := s.nodes.filter (·.key ≠ k) }
  queueDelete : ∀ (s : KState) (path : String) (h : Option Nat), P s → P (s.queueDelete path h)
  clearQueue : ∀ (s : KState), P s → P { s with toBeDeleted := [] }

abbrev StableC (P : KState → Prop) : Prop := StableCG (fun _ _ => True) P

theorem StableG.toC {G : KState → Key → Prop} {P : KState → Prop} (L : StableG G P) : StableCG G P :=
  { L with addDep := fun s src snk _ => L.addDep s src snk }

namespace StableCG
variable {G : KState → Key → Prop} {P : KState → Prop}

theorem toW (L : StableCG G P) : StableW (fun _ => true) G (fun _ _ => True) P :=
  StableW.ofFine (cache := fun s p f hf => L.cache s p f fun n => (hf n).1) (fileWrite := fun _ => L.fileWrite)
    (keepRole := nofun) (outdate := nofun) (stepWrite := fun s k n n' st d _ _ => L.stepWrite s k n n' st d)
    (stepInit := fun _ => L.stepInit)
    (setHash := fun _ => L.setHash) (deleteHash := fun _ => L.deleteHash) (bumpDefer := fun _ => L.bumpDefer)
    (hold := fun _ => L.hold) (release := fun _ => L.release) (recycled := fun _ => L.recycled)
    (addDep := fun s a b _ => L.addDep s a b) (filterDeps := fun _ => L.filterDeps)
    (filterStepDeps := fun _ s p _ => L.filterDeps s p) (markDyn := fun _ => L.markDyn)
    (queueDelete := fun _ => L.queueDelete) (clearQueue := fun _ => L.clearQueue) (detached := fun _ => L.detached)
    (creator := fun s k c d _ => L.creator s k c d) (handOverRow := fun _ => L.handOverRow)
    (freshFile := fun _ s k c st hf hins hst hund hp => L.fileInit _ k st hst hund (L.appendNode s k c hf hins hp))
    (appendNode := fun _ s k c _ => L.appendNode s k c) (removeNode := fun _ => L.removeNode)

theorem setStepExtras (L : StableCG G P) (s : KState) (sk : Key) (d : StepDecl) (hp : P s) : P (s.setStepExtras sk d) :=
  modify_of_where L.cache s sk _ (fun _ => rfl) hp

theorem setDetachedRec (L : StableCG G P) (s : KState) (k : Key) (d : Bool) (hp : P s) : P (s.setDetachedRec k d) :=
  L.toW.setDetachedRec rfl s k d hp

/-- `Trellis.create` for any initialiser.  A file key with an initialiser of another class (no call site
of the model) is the one case the writes with triggers do not cover: there the fresh branch is the bare
`INSERT INTO node`. -/
theorem create_preserves (L : StableCG G P) (k : Key) (creator : Option Key) (init : Init) (hi : InitOK init) :
    Preserves P (fun s => s.create k creator init) := by
  intro s s' hp h
  by_cases hk : KindOK k init
  · exact L.toW.create_preserves Sub.top k creator init rfl rfl Sub.top hi hk s s' hp h
  · obtain ⟨n, _, _, _, hr⟩ | ⟨hf, hins, hr⟩ := create_ok h
    · exact L.toW.recycleCore_preserves Sub.top k n creator init rfl rfl Sub.top s s' hp hr
    · have ha := L.appendNode s k creator hf hins hp
      cases init with
      | file st => exact absurd trivial hk
      | root => cases hr; exact ha
      | tree => cases hr; exact ha
      | step i => cases hr; exact L.stepInit _ _ _ ha

end StableCG

theorem StableCG.execInv {G : KState → Key → Prop} {P : KState → Prop} (L : StableCG G P) :
    ExecInv (fun s r => ∀ k, r = .hold k → G s k) P := L.toW.execInv L.setStepExtras

theorem StableCG.execInv' {P : KState → Prop} (L : StableC P) : ExecInv (fun _ _ => True) P :=
  L.execInv.weaken fun _ _ _ _ _ => trivial

theorem reachable_stableCG {G : KState → Key → Prop} {P : KState → Prop} (L : StableCG G P) (h0 : P KState.init)
    (h : List (KConfig × Req)) (hg : HoldsGuarded G KState.init h) : P (KState.init.run h) :=
  L.execInv.run h _ h0 ((holdsGuarded_iff G _ h).1 hg)

theorem StableC.ofDeps (Q : List Dep → Prop)
    (hadd : ∀ (l : List Dep) (src snk : Key), NotDownstream l snk src →
      (l.any fun d => d.src = src ∧ d.snk = snk) = false → depKindOk src.kind snk.kind = true → Q l →
      Q (l ++ [({ src := src, snk := snk } : Dep)]))
    (hfilter : ∀ (l : List Dep) (p : Dep → Bool), Q l → Q (l.filter fun d => !p d))
    (hmap : ∀ (l : List Dep) (src snk : Key) (dyn : Bool), Q l →
      Q (l.map fun (d : Dep) => if d.src = src ∧ d.snk = snk then { d with dyn := dyn } else d)) :
    StableC (fun s => Q s.deps) where
  cache _ _ _ _ hp := hp
  detached _ _ _ hp := hp
  creator _ _ _ _ _ hp := hp
  handOverRow _ _ _ hp := hp
  fileWrite _ _ _ _ _ _ _ _ hp := hp
  fileInit _ _ _ _ _ hp := hp
  stepWrite _ _ _ _ _ _ _ _ hp := hp
  stepInit _ _ _ hp := hp
  setHash _ _ _ hp := hp
  deleteHash _ _ hp := hp
  bumpDefer _ _ hp := hp
  hold _ _ _ hp := hp
  release _ _ _ _ _ hp := hp
  recycled _ _ _ _ hp := hp
  addDep s src snk hc hno hk hp := hadd s.deps src snk ((notDownstream_iff s.deps snk src).2 hc) hno hk hp
  filterDeps s p hp := hfilter s.deps p hp
  markDyn s src snk dyn hp := hmap s.deps src snk dyn hp
  appendNode _ _ _ _ _ hp := hp
  removeNode _ _ _ hp := hp
  queueDelete _ _ _ hp := hp
  clearQueue _ hp := hp

namespace StableG
variable {G : KState → Key → Prop} {P : KState → Prop}

theorem setDetachedRec (L : StableG G P) (s : KState) (k : Key) (d : Bool) (hp : P s) : P (s.setDetachedRec k d) :=
  L.toC.setDetachedRec s k d hp

theorem toW (L : StableG G P) : StableW (fun _ => true) G (fun _ _ => True) P := L.toC.toW

end StableG

theorem StableG.insertDep_preserves {G : KState → Key → Prop} {P : KState → Prop} (L : StableG G P) (a b : Key) :
    Preserves P (fun s => s.insertDep a b) := by
  intro s s' hp h
  obtain ⟨hdup, hkind, rfl⟩ := insertDep_ok h
  exact L.cache _ _ _ (fun _ => rfl) (L.addDep s a b hdup hkind hp)

theorem exec_stable {P : KState → Prop} (L : Stable P) (cfg : KConfig) (r : Req) (s : KState) (res : KState × String)
    (hp : P s) (h : s.exec cfg r = .ok res) : P res.1 :=
  L.toC.execInv' cfg r s res trivial hp h

theorem step_stable {P : KState → Prop} (L : Stable P) (cfg : KConfig) (r : Req) (s : KState) (hp : P s) :
    P (s.step cfg r) := L.toC.execInv'.step cfg r s trivial hp

/-- Every predicate that is stable under the primitive writes and holds of the empty workflow is an invariant of
every history of accepted and rejected requests. -/
theorem reachable_stable {P : KState → Prop} (L : Stable P) (h0 : P KState.init) (h : List (KConfig × Req)) :
    P (KState.init.run h) := L.toC.execInv'.run' h _ h0

end StepupModel.K
