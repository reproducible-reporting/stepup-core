import StepupModel.Lemmas.MetaSafe
/-!
# The flag discipline of `_update_meta_safe`: debt calculus and the transfer lemma

`MetaSafe.CacheInvSafeW s`: every step that is neither flagged `_check_safe` nor below a flagged step
satisfies its two local equations.  What is needed to show that the writers of the model maintain it:

* `WS F s`: the discipline (`CacheInvSafeW`, hence `W`) with a *debt* `F` (keys that count as flagged); `WS NoDebt s` is
  `CacheInvSafeW s` (`ws_nodebt_iff`).  A composite operation that rewrites what an equation reads before it
  raises the flag runs through states that obey the discipline only up to a debt.
* `ws_transfer`: the one place where creator chains are walked.  Every unflagged step row of the new state
  is either *fresh* (no step creator, both columns true, no unflagged product) or the unchanged
  *continuation* (`Cont`) of an unflagged row of the old state.
-/
namespace StepupModel.K.SafeDisc
open StepupModel.K.MetaSafe

def FlagF (F : Key → Prop) (n : Node) : Prop := n.checkSafe = true ∨ F n.key

def TouchedF (F : Key → Prop) (s : KState) (n : Node) : Prop :=
  ∃ a ∈ s.nodes, a.key.kind = .step ∧ FlagF F a ∧ AncOrSelf s a n

def WS (F : Key → Prop) (s : KState) : Prop :=
  ∀ n ∈ s.nodes, n.key.kind = .step → ¬ TouchedF F s n → BothLocal s n

def NoDebt : Key → Prop := fun _ => False

theorem touchedF_nodebt_iff (s : KState) (n : Node) : TouchedF NoDebt s n ↔ Touched s n := by
  unfold TouchedF Touched
  constructor
  · rintro ⟨a, ha, hs, hf, hanc⟩
    rcases hf with hf | hf
    · exact ⟨a, mem_flagged.2 ⟨ha, hs, hf⟩, hanc⟩
    · exact hf.elim
  · rintro ⟨a, ha, hanc⟩
    obtain ⟨h1, h2, h3⟩ := mem_flagged.1 ha
    exact ⟨a, h1, h2, .inl h3, hanc⟩

theorem ws_nodebt_iff (s : KState) : WS NoDebt s ↔ CacheInvSafeW s := by
  unfold WS CacheInvSafeW
  constructor
  · intro h n hn hs ht
    exact h n hn hs (fun hx => ht ((touchedF_nodebt_iff s n).1 hx))
  · intro h n hn hs ht
    exact h n hn hs (fun hx => ht ((touchedF_nodebt_iff s n).2 hx))

theorem ws_of_consistent {s : KState} (h : SafeConsistent s) : WS NoDebt s := fun n hn hs _ => h n hn hs

/-- The discipline together with "one row per key": what the operations are shown to preserve. -/
def P (F : Key → Prop) (s : KState) : Prop := KeysUnique s ∧ WS F s

/-- `n'` (a row of the new state) is the unchanged continuation of the unflagged row `n` of the old one. -/
structure Cont (F : Key → Prop) (s s' : KState) (n n' : Node) : Prop where
  mem : n ∈ s.nodes
  key : n.key = n'.key
  unfl : ¬ FlagF F n
  safe : n.safe = n'.safe
  safeNH : n.safeNH = n'.safeNH
  act : n.sstate.active = n'.sstate.active
  hold0 : (n.holding == 0) = (n'.holding == 0)
  creator : n.creator = n'.creator
  res : ∀ c, n'.creator = some c → c.kind = .step → s'.find? c = none → s.find? c = none

/-- Correct by itself: no step creator, both columns true, and every step it created is flagged. -/
def Fresh (F' : Key → Prop) (s' : KState) (n' : Node) : Prop :=
  stepCreator s' n' = none ∧ n'.safe = true ∧ n'.safeNH = true ∧
  ∀ p ∈ s'.nodes, p.key.kind = .step → p.creator = some n'.key → FlagF F' p

section transfer
variable {F F' : Key → Prop} {s s' : KState}

theorem Cont.stepCreator (hk : KeysUnique s)
    (hrel : ∀ n' ∈ s'.nodes, n'.key.kind = .step → ¬ FlagF F' n' → Fresh F' s' n' ∨ ∃ n, Cont F s s' n n')
    {n n' : Node} (hn' : n' ∈ s'.nodes) (hst' : n'.key.kind = .step) (hnf' : ¬ FlagF F' n') (hc : Cont F s s' n n') :
    (stepCreator s' n' = none ∧ stepCreator s n = none) ∨
      ∃ c', stepCreator s' n' = some c' ∧ c' ∈ s'.nodes ∧ c'.key.kind = .step ∧
        (FlagF F' c' ∨ (¬ FlagF F' c' ∧ ∃ c, stepCreator s n = some c ∧ Cont F s s' c c')) := by
  cases hcr' : n'.creator with
  | none => exact .inl ⟨stepCreator_none_of_creator hcr', stepCreator_none_of_creator (hc.creator.trans hcr')⟩
  | some ck =>
    have hcr : n.creator = some ck := hc.creator.trans hcr'
    by_cases hks : ck.kind = .step
    · rw [stepCreator_eq_find hcr' hks, stepCreator_eq_find hcr hks]
      cases hf' : s'.find? ck with
      | none => exact .inl ⟨rfl, hc.res ck hcr' hks hf'⟩
      | some c' =>
        have hc'key := find_key hf'
        have hc'step : c'.key.kind = .step := hc'key ▸ hks
        refine .inr ⟨c', rfl, find_mem hf', hc'step, ?_⟩
        by_cases hfl : FlagF F' c'
        · exact .inl hfl
        · rcases hrel c' (find_mem hf') hc'step hfl with hfr | ⟨c0, hc0⟩
          -- a fresh row has flagged all the steps it created
          · exact absurd (hfr.2.2.2 n' hn' hst' (hc'key ▸ hcr')) hnf'
          · refine .inr ⟨hfl, c0, ?_, hc0⟩
            rw [← hc'key, ← hc0.key]; exact find?_of_mem hk hc0.mem
    · exact .inl ⟨stepCreator_none_of_kind hcr' hks, stepCreator_none_of_kind hcr hks⟩

theorem touchedF_transfer (hk : KeysUnique s)
    (hrel : ∀ n' ∈ s'.nodes, n'.key.kind = .step → ¬ FlagF F' n' → Fresh F' s' n' ∨ ∃ n, Cont F s s' n n')
    {a n : Node} (hanc : AncOrSelf s a n) (haf : FlagF F a) :
    ∀ n' ∈ s'.nodes, n'.key.kind = .step → ¬ FlagF F' n' → Cont F s s' n n' → TouchedF F' s' n' := by
  induction hanc with
  | refl => intro n' _ _ _ hc; exact absurd haf hc.unfl
  | up hsc hanc ih =>
    intro n' hn' hst' hnf' hc
    rcases hc.stepCreator hk hrel hn' hst' hnf' with ⟨_, h0⟩ | ⟨c', hsc', hm', hs', hfl | ⟨hfl, c0, h0, hc0⟩⟩
    · rw [hsc] at h0; cases h0
    · exact ⟨c', hm', hs', hfl, .up hsc' (.refl c')⟩
    · cases hsc.symm.trans h0
      obtain ⟨a', ha', has', haf', hanc'⟩ := ih c' hm' hs' hfl hc0
      exact ⟨a', ha', has', haf', .up hsc' hanc'⟩

theorem ws_transfer (hk : KeysUnique s)
    (hrel : ∀ n' ∈ s'.nodes, n'.key.kind = .step → ¬ FlagF F' n' → Fresh F' s' n' ∨ ∃ n, Cont F s s' n n')
    (hw : WS F s) : WS F' s' := by
  intro n' hn' hst' hnt
  have hnf : ¬ FlagF F' n' := fun h => hnt ⟨n', hn', hst', h, AncOrSelf.refl n'⟩
  rcases hrel n' hn' hst' hnf with hfr | ⟨n, hc⟩
  · exact (bothLocal_none hfr.1).2 ⟨hfr.2.1, hfr.2.2.1⟩
  · have hnt0 : ¬ TouchedF F s n := fun ⟨a, ha, has, haf, hanc⟩ =>
      hnt (touchedF_transfer hk hrel hanc haf n' hn' hst' hnf hc)
    have hb := hw n hc.mem (hc.key ▸ hst') hnt0
    rcases hc.stepCreator hk hrel hn' hst' hnf with ⟨h1, h2⟩ | ⟨c', h1, hm', hs', hfl | ⟨_, c, h2, hc0⟩⟩
    · rw [bothLocal_none h1, ← hc.safe, ← hc.safeNH]
      exact (bothLocal_none h2).1 hb
    · exact absurd ⟨c', hm', hs', hfl, .up h1 (.refl c')⟩ hnt
    · rw [bothLocal_some h1, ← hc.safe, ← hc.safeNH, ← hc0.safe, ← hc0.safeNH, ← hc0.act, ← hc0.hold0]
      exact (bothLocal_some h2).1 hb

end transfer

theorem cont_self {F : Key → Prop} {s s' : KState} {n : Node} (hn : n ∈ s.nodes) (hu : ¬ FlagF F n)
    (hres : ∀ c, n.creator = some c → c.kind = .step → s'.find? c = none → s.find? c = none) : Cont F s s' n n :=
  ⟨hn, rfl, hu, rfl, rfl, rfl, rfl, rfl, hres⟩

theorem ws_mono {F F' : Key → Prop} {s : KState}
    (h : ∀ n ∈ s.nodes, n.key.kind = .step → FlagF F n → FlagF F' n) (hw : WS F s) : WS F' s := by
  intro n hn hs ht
  refine hw n hn hs ?_
  rintro ⟨a, ha, has, haf, hanc⟩
  exact ht ⟨a, ha, has, h a ha has haf, hanc⟩

theorem P.mono {F F' : Key → Prop} {s : KState}
    (h : ∀ n ∈ s.nodes, n.key.kind = .step → FlagF F n → FlagF F' n) (hp : P F s) : P F' s :=
  ⟨hp.1, ws_mono h hp.2⟩

theorem P.dropNonStep {F : Key → Prop} {s : KState} {k : Key} (hk : k.kind ≠ .step)
    (hp : P (fun x => F x ∨ x = k) s) : P F s := by
  refine hp.mono ?_
  intro n _ hs hf
  rcases hf with hf | hf | hf
  · exact .inl hf
  · exact .inr hf
  · rw [hf] at hs; exact absurd hs hk

theorem P.dropFlagged {F : Key → Prop} {s : KState} {k : Key}
    (hfl : ∀ n ∈ s.nodes, n.key = k → n.key.kind = .step → n.checkSafe = true)
    (hp : P (fun x => F x ∨ x = k) s) : P F s := by
  refine hp.mono ?_
  intro n hn hs hf
  rcases hf with hf | hf | hf
  · exact .inl hf
  · exact .inr hf
  · exact .inl (hfl n hn hf hs)

theorem P.addDebt {F : Key → Prop} {s : KState} (D : Key → Prop) (hp : P F s) : P (fun x => F x ∨ D x) s :=
  hp.mono fun _ _ _ hf => hf.elim .inl fun h => .inr (.inl h)

/-- What a row rewrite may do outside the debt `D`: keep the key, and a step row ends up flagged or was
unflagged and keeps everything the local equations read. -/
def SRowD (D : Key → Prop) (n n' : Node) : Prop :=
  n'.key = n.key ∧ (n.key.kind = .step → D n.key ∨ n'.checkSafe = true ∨
    (n.checkSafe = false ∧ n'.safe = n.safe ∧ n'.safeNH = n.safeNH ∧ n'.sstate.active = n.sstate.active ∧
      (n'.holding == 0) = (n.holding == 0) ∧ n'.creator = n.creator))

abbrev SRow (n n' : Node) : Prop := SRowD NoDebt n n'

theorem SRowD.refl (D : Key → Prop) (n : Node) : SRowD D n n := by
  refine ⟨rfl, fun _ => ?_⟩
  cases h : n.checkSafe with
  | true => exact .inr (.inl rfl)
  | false => exact .inr (.inr ⟨rfl, rfl, rfl, rfl, rfl, rfl⟩)

theorem P.map {F : Key → Prop} {s s' : KState} (D : Key → Prop) (g : Node → Node) (hnodes : s'.nodes = s.nodes.map g)
    (hrow : ∀ n ∈ s.nodes, SRowD D n (g n)) (hp : P F s) : P (fun x => F x ∨ D x) s' := by
  have hkeys : ∀ n ∈ s.nodes, (g n).key = n.key := fun n hn => (hrow n hn).1
  have hk' : KeysUnique s' := by
    unfold KeysUnique
    rw [hnodes, map_view_map (·.key) g _ hkeys]
    exact hp.1
  refine ⟨hk', ws_transfer hp.1 ?_ hp.2⟩
  intro n' hn' hst' hnf'
  rw [hnodes] at hn'
  obtain ⟨n, hn, rfl⟩ := List.mem_map.1 hn'
  right
  have hkey := hkeys n hn
  have hst : n.key.kind = .step := by rw [← hkey]; exact hst'
  rcases (hrow n hn).2 hst with hd | hfl | ⟨h0, h1, h2, h3, h4, h5⟩
  · exact absurd (.inr (.inr (by rw [hkey]; exact hd))) hnf'
  · exact absurd (.inl hfl) hnf'
  · refine ⟨n, hn, hkey.symm, ?_, h1.symm, h2.symm, h3.symm, h4.symm, h5.symm, ?_⟩
    · rintro (hx | hx)
      · rw [h0] at hx; cases hx
      · exact hnf' (.inr (.inl (by rw [hkey]; exact hx)))
    · exact fun c _ _ => find?_none_of_look (v := fun _ => ()) c (look_map g hnodes hkeys c fun _ _ _ => rfl)

theorem P.soft {F : Key → Prop} {s s' : KState} (g : Node → Node) (hnodes : s'.nodes = s.nodes.map g)
    (hrow : ∀ n ∈ s.nodes, SRow n (g n)) (hp : P F s) : P F s' := by
  refine (hp.map NoDebt g hnodes hrow).mono ?_
  intro n _ _ hf
  rcases hf with hf | hf | hf
  · exact .inl hf
  · exact .inr hf
  · exact hf.elim

theorem P.sameNodes {F : Key → Prop} {s s' : KState} (h : s'.nodes = s.nodes) (hp : P F s) : P F s' :=
  hp.soft id (by rw [h, List.map_id]) fun n _ => SRowD.refl _ n

theorem P.mapStable {F : Key → Prop} : MapStable SRow (P F) := fun _ g hg hp => hp.soft g rfl hg

theorem P.modify {F : Key → Prop} {s : KState} (k : Key) (f : Node → Node)
    (hf : ∀ n ∈ s.nodes, n.key = k → SRow n (f n)) (hp : P F s) : P F (s.modify k f) :=
  P.mapStable.modify (SRowD.refl _) s k f hf hp

theorem P.modifyDebt {F : Key → Prop} {s : KState} (k : Key) (f : Node → Node)
    (hf : ∀ n ∈ s.nodes, n.key = k → (f n).key = k) (hp : P F s) : P (fun x => F x ∨ x = k) (s.modify k f) := by
  refine hp.map (fun x => x = k) (fun n => if n.key = k then f n else n) rfl ?_
  intro n hn
  by_cases h : n.key = k
  · simp only [h, if_true]
    exact ⟨by rw [hf n hn h, h], fun _ => .inl h⟩
  · simp only [h, if_false]
    exact ⟨rfl, fun hs => ((SRowD.refl NoDebt n).2 hs).elim (fun x => x.elim) .inr⟩

theorem P.modifyIn {F : Key → Prop} {s : KState} (k : Key) (f : Node → Node) (hk : F k)
    (hf : ∀ n ∈ s.nodes, n.key = k → (f n).key = k) (hp : P F s) : P F (s.modify k f) :=
  (hp.modifyDebt k f hf).mono fun _ _ _ h => h.elim .inl fun h => .inr (h.elim id fun e => e ▸ hk)

/-- A fresh row pays its own debt. -/
theorem P.dropFresh {F : Key → Prop} {s : KState} {k : Key}
    (hrow : ∀ n ∈ s.nodes, n.key = k → n.key.kind = .step → n.checkSafe = false →
      stepCreator s n = none ∧ n.safe = true ∧ n.safeNH = true)
    (hnop : ∀ p ∈ s.nodes, p.key.kind = .step → p.creator ≠ some k)
    (hp : P (fun x => F x ∨ x = k) s) : P F s := by
  refine ⟨hp.1, ws_transfer hp.1 ?_ hp.2⟩
  intro n' hn' hst' hnf'
  by_cases hk : n'.key = k
  · left
    have hcs : n'.checkSafe = false := by
      cases h : n'.checkSafe with
      | false => rfl
      | true => exact absurd (.inl h) hnf'
    obtain ⟨h1, h2, h3⟩ := hrow n' hn' hk hst' hcs
    exact ⟨h1, h2, h3, fun p hp' hps hpc => absurd (by rw [← hk]; exact hpc) (hnop p hp' hps)⟩
  · right
    refine ⟨n', cont_self hn' ?_ (fun c _ _ h => h)⟩
    rintro (hx | hx | hx)
    · exact hnf' (.inl hx)
    · exact hnf' (.inr hx)
    · exact hk hx

/-- `INSERT INTO node`: the new key goes into the debt. -/
theorem P.append {F : Key → Prop} {s : KState} {k : Key} (c : Option Key) (hnew : s.find? k = none) (hp : P F s) :
    P (fun x => F x ∨ x = k) (s.appendNode k c) := by
  have hk' : KeysUnique (s.appendNode k c) := by
    unfold KeysUnique at *
    show ((s.nodes ++ [newRow s k c]).map (·.key)).Nodup
    rw [List.map_append, List.nodup_append]
    refine ⟨hp.1, by simp, ?_⟩
    intro a ha b hb
    simp only [List.map_cons, List.map_nil, List.mem_singleton] at hb
    subst hb
    obtain ⟨x, hx, rfl⟩ := List.mem_map.1 ha
    exact key_ne_of_find?_none hnew hx
  refine ⟨hk', ws_transfer hp.1 ?_ hp.2⟩
  intro n' hn' hst' hnf'
  rcases mem_appendNode.1 hn' with h | rfl
  · right
    refine ⟨n', cont_self h (fun hx => hnf' (hx.elim .inl fun y => .inr (.inl y))) fun q _ _ hf => ?_⟩
    rw [find?_appendNode] at hf
    exact (Option.or_eq_none_iff.1 hf).1
  · exact absurd (.inr (.inr rfl)) hnf'

/-- `DELETE FROM node` of the rows of a key that no other row names as its creator. -/
theorem P.remove {F : Key → Prop} {s s' : KState} {k : Key} (hnodes : s'.nodes = s.nodes.filter (·.key ≠ k))
    (hnop : ∀ p ∈ s.nodes, p.creator = some k → p.key = k) (hp : P F s) : P F s' := by
  have hk' : KeysUnique s' := by
    unfold KeysUnique at *
    rw [hnodes]
    exact (List.filter_sublist.map _).nodup hp.1
  refine ⟨hk', ws_transfer hp.1 ?_ hp.2⟩
  intro n' hn' hst' hnf'
  rw [hnodes] at hn'
  obtain ⟨hn, hne⟩ := List.mem_filter.1 hn'
  simp only [decide_eq_true_eq] at hne
  right
  refine ⟨n', cont_self hn hnf' ?_⟩
  intro c hc _
  exact find?_none_of_look (v := fun _ => ()) c (look_filter hnodes c fun h => hne (hnop n' hn (by rw [hc, h])))

end StepupModel.K.SafeDisc
