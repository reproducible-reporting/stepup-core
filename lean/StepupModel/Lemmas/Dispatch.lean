import StepupModel.K.Scheduler
import StepupModel.Lemmas.Do
import StepupModel.Lemmas.K
/-!
The dispatch decision of `K/Scheduler.lean` in closed form: the two regenerated truth tables as
Boolean expressions, `KState.eligible` as a conjunction, `KState.popNext` by cases of its result.
-/
namespace StepupModel.K
open StepupModel.Generated

/-- The table is a product: PENDING, not deferred, ready, one of five (`_safe`, `_has_hash`,
`_safe_ignoring_hold`) triples and one of three needs. -/
theorem dispatchRows_eq : dispatchRows =
    [(false, true, true), (true, false, false), (true, false, true), (true, true, false), (true, true, true)].flatMap
      fun x => [Need.default, .target, .plan].map fun n => (StepState.pending, x.1, x.2.1, x.2.2, false, n, true) := rfl

/-- `STEP_DISPATCH_WHERE` on any row. -/
theorem dispatchRows_contains (st : StepState) (safe hh snh deferred : Bool) (need : Need) (ready : Bool) :
    dispatchRows.contains (st, safe, hh, snh, deferred, need, ready) =
      (decide (st = .pending) && (safe || (hh && snh)) && !deferred && decide (need ≠ .optional) && ready) := by
  have hs : (safe, hh, snh) ∈ [(false, true, true), (true, false, false), (true, false, true), (true, true, false),
      (true, true, true)] ↔ (safe || (hh && snh)) = true := by
    cases safe <;> cases hh <;> cases snh <;> decide
  have hn : need ∈ [Need.default, .target, .plan] ↔ need ≠ .optional := by cases need <;> decide
  rw [Bool.eq_iff_iff, List.contains_iff_mem, dispatchRows_eq]
  simp only [List.mem_flatMap, List.mem_map, Bool.and_eq_true, decide_eq_true_eq, Bool.not_eq_true', ← hs, ← hn]
  constructor
  · rintro ⟨x, hx, n, hn, h⟩
    cases h
    exact ⟨⟨⟨⟨rfl, hx⟩, rfl⟩, hn⟩, rfl⟩
  · rintro ⟨⟨⟨⟨rfl, hx⟩, rfl⟩, hn⟩, rfl⟩
    exact ⟨_, hx, _, hn, rfl⟩

/-- The WHERE clause of `SELECT_NEXT_STEP` on the cached columns, spelled out. -/
theorem eligible_iff (s : KState) (cfg : KConfig) (n : Node) :
    s.eligible cfg n = true ↔
      n.key.kind = .step ∧ n.sstate = .pending ∧ n.detached = false ∧ n.deferred = false ∧ n.ready = true ∧
      n.impliedNeed ≠ .optional ∧ cfg.threshold.rank < n.impliedNeed.rank ∧
      (n.safe = true ∨ (n.hasHash = true ∧ n.safeNH = true)) ∧
      (n.hasHash = true ∨ s.resourceUnavailable cfg n = false) := by
  unfold KState.eligible
  rw [dispatchRows_contains]
  simp only [Bool.and_eq_true, Bool.or_eq_true, decide_eq_true_eq, Bool.not_eq_true']
  constructor
  · rintro ⟨⟨⟨⟨hk, ⟨⟨⟨hst, hsafe⟩, hdef⟩, hneed⟩, hready⟩, hthr⟩, hdet⟩, hres⟩
    exact ⟨hk, hst, hdet, hdef, hready, hneed, hthr, hsafe, hres⟩
  · rintro ⟨hk, hst, hdet, hdef, hready, hneed, hthr, hsafe, hres⟩
    exact ⟨⟨⟨⟨hk, ⟨⟨⟨hst, hsafe⟩, hdef⟩, hneed⟩, hready⟩, hthr⟩, hdet⟩, hres⟩

/-- A step dispatched to run its command (no stored hash) can use neither escape of the WHERE clause. -/
theorem eligible_run {s : KState} {cfg : KConfig} {n : Node} (h : s.eligible cfg n = true)
    (hrun : n.hasHash = false) : n.safe = true ∧ s.resourceUnavailable cfg n = false :=
  have e := (eligible_iff s cfg n).1 h
  ⟨e.2.2.2.2.2.2.2.1.resolve_right (fun hh => nomatch hrun.symm.trans hh.1),
    e.2.2.2.2.2.2.2.2.resolve_left (fun hh => nomatch hrun.symm.trans hh)⟩

/-- `UNAVAILABLE_INPUT_WHERE` on its complete domain (`dyn`: an amended input, not a declared one). -/
theorem lookupUnavailable_eq (st : FileState) (dyn detached : Bool) :
    lookupUnavailable st dyn detached =
      (st = .volatile || (dyn && !detached && (st = .planned || st = .outdated)) ||
        (!dyn && (detached || !(st = .built || st = .confirmed)))) := by
  cases st <;> cases dyn <;> cases detached <;> decide +kernel

theorem inputBlocks_eq (s : KState) (d : Dep) :
    s.inputBlocks d =
      ((s.find? d.src).map fun n => decide (n.key.kind = .file) && lookupUnavailable n.fstate d.dyn n.detached).getD false := by
  unfold KState.inputBlocks
  cases s.find? d.src <;> rfl

/-- The columns of a source row that `UNAVAILABLE_INPUT_WHERE` reads (the kind is in the key). -/
def ReadyDisc.view (n : Node) : FileState × Bool := (n.fstate, n.detached)

theorem inputBlocks_look {s s' : KState} {d : Dep} (h : s'.look ReadyDisc.view d.src = s.look ReadyDisc.view d.src) :
    s'.inputBlocks d = s.inputBlocks d := by
  have e : ∀ t : KState, t.inputBlocks d = ((t.look ReadyDisc.view d.src).map fun v =>
      decide (d.src.kind = .file) && lookupUnavailable v.1 d.dyn v.2).getD false := fun t => by
    rw [inputBlocks_eq, KState.look, Option.map_map]
    congr 1
    exact Option.map_congr fun n hf => by rw [Function.comp_apply, find_key (s := t) hf]; rfl
  rw [e, e, h]

theorem computeReady_congr {s s' : KState} {t : Key}
    (hd : s'.deps.filter (·.snk = t) = s.deps.filter (·.snk = t))
    (hb : ∀ d ∈ s.deps, d.snk = t → s'.inputBlocks d = s.inputBlocks d) :
    s'.computeReady t = s.computeReady t := by
  unfold KState.computeReady
  rw [← List.any_filter, ← List.any_filter, hd]
  congr 1
  rw [Bool.eq_iff_iff, List.any_eq_true, List.any_eq_true]
  refine exists_congr fun d => and_congr_right fun hm => ?_
  rw [hb d (List.mem_filter.1 hm).1 (of_decide_eq_true (List.mem_filter.1 hm).2)]

theorem computeReady_look {s s' : KState} {t : Key}
    (hd : s'.deps.filter (·.snk = t) = s.deps.filter (·.snk = t))
    (hv : ∀ d ∈ s.deps, d.snk = t → s'.look ReadyDisc.view d.src = s.look ReadyDisc.view d.src) :
    s'.computeReady t = s.computeReady t :=
  computeReady_congr hd fun d hm ht => inputBlocks_look (hv d hm ht)

theorem computeReady_updateMetaReady (s : KState) (k : Key) : s.updateMetaReady.computeReady k = s.computeReady k :=
  computeReady_look rfl fun d _ _ => look_modifyWhere s _ _ ReadyDisc.view d.src (fun _ => rfl) fun _ => rfl

theorem updateMetaReady_flagged (s : KState) (n : Node) (hn : n ∈ s.nodes) (hk : n.key.kind = .step)
    (hflag : n.checkReady = true) :
    { n with ready := s.computeReady n.key, checkReady := false } ∈ s.updateMetaReady.nodes :=
  List.mem_map.2 ⟨n, hn, if_pos (by simp [hk, hflag])⟩

namespace ReadyDisc

/-- No edge into `k` has an unavailable source, read off the graph (not the cache). -/
def NoUnavailableInput (s : KState) (k : Key) : Prop := ∀ d ∈ s.deps, d.snk = k → s.inputBlocks d = false

theorem computeReady_true_iff (s : KState) (k : Key) : s.computeReady k = true ↔ NoUnavailableInput s k := by
  unfold KState.computeReady NoUnavailableInput
  rw [Bool.not_eq_true', List.any_eq_false]
  constructor
  · intro h d hd hk
    have := h d hd
    simp only [hk, decide_true, Bool.true_and] at this
    cases hb : s.inputBlocks d with
    | false => rfl
    | true => exact absurd hb this
  · intro h d hd
    by_cases hk : d.snk = k
    · simp [hk, h d hd hk]
    · simp [hk]

theorem lookupUnavailable_false {st : FileState} {dyn detached : Bool} (h : lookupUnavailable st dyn detached = false) :
    st ≠ .volatile ∧ (dyn = false → detached = false ∧ (st = .built ∨ st = .confirmed)) ∧
      (dyn = true → ¬ (detached = false ∧ (st = .planned ∨ st = .outdated))) := by
  rw [lookupUnavailable_eq, Bool.or_eq_false_iff, Bool.or_eq_false_iff, decide_eq_false_iff_not] at h
  obtain ⟨⟨hv, hdyn⟩, hinit⟩ := h
  refine ⟨hv, ?_, ?_⟩
  · rintro rfl
    simpa only [Bool.not_false, Bool.true_and, Bool.or_eq_false_iff, Bool.not_eq_false', Bool.or_eq_true,
      decide_eq_true_eq] using hinit
  · rintro rfl ⟨rfl, hpo⟩
    simp only [Bool.not_false, Bool.true_and, Bool.or_eq_false_iff, decide_eq_false_iff_not] at hdyn
    exact hpo.elim hdyn.1 hdyn.2

theorem noUnavailableInput_spec {s : KState} {k : Key} (h : NoUnavailableInput s k) :
    ∀ d ∈ s.deps, d.snk = k → ∀ f, s.find? d.src = some f → f.key.kind = .file →
      f.fstate ≠ .volatile ∧ (d.dyn = false → f.detached = false ∧ (f.fstate = .built ∨ f.fstate = .confirmed)) ∧
        (d.dyn = true → ¬ (f.detached = false ∧ (f.fstate = .planned ∨ f.fstate = .outdated))) := by
  intro d hd hk f hf hkind
  have hb := h d hd hk
  unfold KState.inputBlocks at hb
  rw [hf] at hb
  simp only [hkind, decide_true, Bool.true_and] at hb
  exact lookupUnavailable_false hb

end ReadyDisc

theorem popNext_ok {s s' : KState} {cfg : KConfig} {choice : Option Key} {d : Dispatch}
    (h : s.popNext cfg choice = .ok (s', d)) :
    ∃ su, s.updateMeta cfg = .ok su ∧
      ((choice = none ∧ s' = su ∧ d = .none ∧ ∀ n ∈ su.nodes, su.eligible cfg n = false) ∨
       ∃ k n run, choice = some k ∧ n ∈ su.nodes ∧ n.key = k ∧ su.eligible cfg n = true ∧
         su.deriveJob k = .ok run ∧
         su.setStepState k (if n.hasHash = true then StepState.checking else StepState.running) = .ok s' ∧
         d = .job k n.hasHash run) := by
  unfold KState.popNext at h
  obtain ⟨su, hu, h⟩ := bind_ok_inv h
  refine ⟨su, hu, ?_⟩
  cases choice with
  | none =>
    dsimp only at h
    split at h
    · rename_i hempty
      cases h
      exact .inl ⟨rfl, rfl, rfl, fun n hn =>
        Bool.eq_false_iff.2 (List.filter_eq_nil_iff.1 (List.isEmpty_iff.1 hempty) n hn)⟩
    · cases h
  | some k =>
    dsimp only at h
    cases hf : (su.nodes.filter (su.eligible cfg)).find? (·.key = k) with
    | none => rw [hf] at h; cases h
    | some n =>
      rw [hf] at h
      have hmem := List.mem_filter.1 (List.mem_of_find?_eq_some hf)
      have hkey : n.key = k := of_decide_eq_true (List.find?_some (p := fun x : Node => decide (x.key = k)) hf)
      dsimp only at h
      obtain ⟨_, h⟩ := throwIf_ok h
      obtain ⟨_, h⟩ := throwIf_ok h
      obtain ⟨run, hj, h⟩ := bind_ok_inv h
      obtain ⟨s2, hs, h⟩ := bind_ok_inv h
      cases h
      exact .inr ⟨k, n, run, rfl, hmem.1, hkey, hmem.2, hj, hs, rfl⟩

theorem popNext_none {s su : KState} {cfg : KConfig} (hu : s.updateMeta cfg = .ok su)
    (h : ∀ n ∈ su.nodes, su.eligible cfg n = false) : s.popNext cfg none = .ok (su, .none) := by
  have hnil : su.nodes.filter (su.eligible cfg) = [] :=
    List.filter_eq_nil_iff.2 fun n hn => by rw [h n hn]; exact Bool.false_ne_true
  unfold KState.popNext
  simp [hu, bind, Except.bind, hnil, pure, Except.pure]

theorem popNext_job {s s' : KState} {cfg : KConfig} {choice : Option Key} {k : Key} {chk run : Bool}
    (h : s.popNext cfg choice = .ok (s', .job k chk run)) :
    ∃ su n, s.updateMeta cfg = .ok su ∧ n ∈ su.nodes ∧ n.key = k ∧ su.eligible cfg n = true ∧ choice = some k ∧
      chk = n.hasHash ∧ su.deriveJob k = .ok run ∧
      su.setStepState k (if n.hasHash = true then StepState.checking else StepState.running) = .ok s' := by
  obtain ⟨su, hu, ⟨_, _, hd, _⟩ | ⟨k', n, run', hc, hn, hkey, hel, hj, hs, hd⟩⟩ := popNext_ok h
  · cases hd
  · cases hd
    exact ⟨su, n, hu, hn, hkey, hel, hc, rfl, hj, hs⟩

end StepupModel.K
