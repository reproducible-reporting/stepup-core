import StepupModel.K.Scheduler
import StepupModel.K.MetaCheck
import StepupModel.K.Request
import StepupModel.Lemmas.K
import StepupModel.Lemmas.Do
import StepupModel.Lemmas.KInv
import StepupModel.Lemmas.Guards
import StepupModel.Lemmas.FuelLoop
/-!
# What an accepted call of a model operation did

For operations of `K/Trellis.lean`, `K/Workflow.lean`, `K/Scheduler.lean` whose body branches or has several stages
(the primitive writes and `Node.detach` are in `Lemmas/KInv.lean`, the guards in `Lemmas/Guards.lean`, `pop_next_job`
in `Lemmas/Dispatch.lean`): from `op s .. = .ok s'` to the guards that passed and the result as an explicit term (or
the few cases, or the stages of it), so that a proof about the operation does not have to walk through its body
again.
-/
namespace StepupModel.K

theorem insertDep_ok {a b : Key} {s s' : KState} (h : s.insertDep a b = .ok s') :
    s.hasDep a b = false ∧ depKindOk a.kind b.kind = true ∧
      s' = ({ s with deps := s.deps ++ [({ src := a, snk := b } : Dep)] } : KState).flagDepEndpoints a b := by
  unfold KState.insertDep at h
  cases hd : s.hasDep a b with
  | true => rw [hd] at h; cases h
  | false =>
    cases hk : depKindOk a.kind b.kind with
    | false => rw [hd, hk] at h; cases h
    | true => rw [hd, hk] at h; exact ⟨rfl, rfl, (pure_ok_iff.1 h).symm⟩

theorem insertDep_deps (a b : Key) (s s' : KState) (h : s.insertDep a b = .ok s') :
    s'.deps = s.deps ++ [({ src := a, snk := b } : Dep)] := by
  obtain ⟨_, _, rfl⟩ := insertDep_ok h
  rfl

theorem afterLostProduct_ok {s s' : KState} {k : Key} (h : s.afterLostProduct k = .ok s') :
    (k.kind = .step ∧ s' = s.deleteHash k) ∨ (k.kind = .st ∧ s' = s) := by
  unfold KState.afterLostProduct at h
  cases hk : k.kind <;> rw [hk] at h
  · cases h
  · cases h
  · exact .inl ⟨rfl, (pure_ok_iff.1 h).symm⟩
  · exact .inr ⟨rfl, (pure_ok_iff.1 h).symm⟩

theorem lostProduct_ok {s s' : KState} {old : Option Key} (h : s.lostProduct old = .ok s') :
    (old = none ∧ s' = s) ∨ ∃ oc, old = some oc ∧ s.isDetached oc = true ∧ s.afterLostProduct oc = .ok s' := by
  cases old with
  | none => exact .inl ⟨rfl, (pure_ok_iff.1 h).symm⟩
  | some oc =>
    simp only [KState.lostProduct] at h
    cases hd : s.isDetached oc with
    | false => rw [hd] at h; cases h
    | true => rw [hd] at h; exact .inr ⟨oc, rfl, hd, h⟩

theorem flagIfStep_ok {s s' : KState} {k : Key} (h : s.flagIfStep k = .ok s') :
    (k.kind ≠ .step ∧ s' = s) ∨ (k.kind = .step ∧ s.flagChecksWithProducts k = .ok s') := by
  unfold KState.flagIfStep at h
  by_cases hk : k.kind = .step
  · rw [if_pos hk] at h; exact .inr ⟨hk, h⟩
  · rw [if_neg hk] at h; exact .inl ⟨hk, (pure_ok_iff.1 h).symm⟩

theorem reattachCore_ok {s s' : KState} {k c : Key} {n : Node} (h : s.reattachCore k c n = .ok s') :
    ∃ s1 s2, s.setCreator k (some c) (s.isDetached c) = .ok s1 ∧ s1.lostProduct n.creator = .ok s2 ∧
      (s2.setDetachedRec k (s.isDetached c)).flagIfStep k = .ok s' := by
  unfold KState.reattachCore at h
  obtain ⟨s1, h1, h'⟩ := bind_ok_inv h
  obtain ⟨s2, h2, h3⟩ := bind_ok_inv h'
  exact ⟨s1, s2, h1, h2, h3⟩

theorem reattach_ok {s s' : KState} {k c : Key} (h : s.reattach k c = .ok s') :
    ∃ n, s.find? k = some n ∧ n.detached = true ∧ s.createdBy k c = false ∧ s.reattachCore k c n = .ok s' := by
  unfold KState.reattach at h
  cases hf : s.find? k with
  | none => rw [hf] at h; cases h
  | some n =>
    rw [hf] at h
    dsimp only at h
    cases hd : n.detached with
    | false => rw [hd] at h; cases h
    | true =>
      cases hc : s.createdBy k c with
      | true => rw [hd, hc] at h; cases h
      | false => rw [hd, hc] at h; exact ⟨n, rfl, hd, rfl, h⟩

theorem writeInitialFile_ok {s s' : KState} {k : Key} {st : FileState} {existed : Bool}
    (h : s.writeInitialFile k st existed = .ok s') :
    (existed = true ∧ s.setFileState k st = .ok s') ∨
      (existed = false ∧ (st = .undeclared → s.isDetached k = true) ∧
        s' = (s.modify k fun n => { n with fstate := st, fhash := none }).flagReadySinks k) := by
  unfold KState.writeInitialFile at h
  cases existed with
  | true => exact .inl ⟨rfl, h⟩
  | false =>
    simp only [Bool.false_eq_true, if_false] at h
    by_cases hu : st = .undeclared ∧ (!s.isDetached k) = true
    · rw [if_pos hu] at h; cases h
    · rw [if_neg hu] at h
      refine .inr ⟨rfl, fun hst => ?_, (pure_ok_iff.1 h).symm⟩
      cases hd : s.isDetached k with
      | true => rfl
      | false => exact absurd ⟨hst, by rw [hd]; rfl⟩ hu

theorem initFileRow_ok {s s' : KState} {k : Key} {st : FileState} {existed : Bool}
    (h : s.initFileRow k st existed = .ok s') :
    ∃ s1, s.writeInitialFile k (s.keptState k st existed) existed = .ok s1 ∧
      ((s.keptState k st existed = .built ∧ s1.markFileOutdated k = .ok s') ∨
        (s.keptState k st existed ≠ .built ∧ s' = s1)) := by
  unfold KState.initFileRow at h
  obtain ⟨s1, h1, h2⟩ := bind_ok_inv h
  refine ⟨s1, h1, ?_⟩
  by_cases hb : s.keptState k st existed = .built
  · rw [if_pos hb] at h2; exact .inl ⟨hb, h2⟩
  · rw [if_neg hb] at h2; exact .inr ⟨hb, (pure_ok_iff.1 h2).symm⟩

theorem recycleCore_ok {s s' : KState} {k : Key} {n : Node} {creator : Option Key} {init : Init}
    (h : s.recycleCore k n creator init = .ok s') :
    ∃ s1 s2 s3, s.setCreator k creator (s.creatorDetached creator) = .ok s1 ∧ s1.lostProduct n.creator = .ok s2 ∧
      (s2.deleteDeps fun dp => dp.snk = k).detachProducts k = .ok s3 ∧ s3.initRow k init true = .ok s' := by
  unfold KState.recycleCore at h
  obtain ⟨s1, h1, h'⟩ := bind_ok_inv h
  obtain ⟨s2, h2, h''⟩ := bind_ok_inv h'
  obtain ⟨s3, h3, h4⟩ := bind_ok_inv h''
  exact ⟨s1, s2, s3, h1, h2, h3, h4⟩

theorem create_ok {s s' : KState} {k : Key} {creator : Option Key} {init : Init} (h : s.create k creator init = .ok s') :
    (∃ n, s.find? k = some n ∧ n.detached = true ∧ creator ≠ some k ∧ s.recycleCore k n creator init = .ok s') ∨
      (s.find? k = none ∧ s.insertAllowed k creator = true ∧ (s.appendNode k creator).initRow k init false = .ok s') := by
  unfold KState.create at h
  cases hf : s.find? k with
  | some n =>
    rw [hf] at h
    dsimp only at h
    cases hd : n.detached with
    | false => rw [hd] at h; cases h
    | true =>
      rw [hd] at h
      by_cases hc : creator = some k
      · simp only [Bool.not_true, Bool.false_eq_true, if_false, if_pos hc] at h; cases h
      · simp only [Bool.not_true, Bool.false_eq_true, if_false, if_neg hc] at h
        exact .inl ⟨n, rfl, hd, hc, h⟩
  | none =>
    rw [hf] at h
    dsimp only at h
    cases hi : s.insertAllowed k creator with
    | false => rw [hi] at h; cases h
    | true => rw [hi] at h; exact .inr ⟨rfl, rfl, h⟩

theorem volatileSinkCheck_ok {s s' : KState} {p : String} {st : FileState} (h : s.volatileSinkCheck p st = .ok s') :
    s' = s := by
  unfold KState.volatileSinkCheck at h
  split at h
  · cases h
  · exact (pure_ok_iff.1 h).symm

theorem volatileSinkCheck_preserves (P : KState → Prop) (p : String) (st : FileState) :
    Preserves P (fun s => s.volatileSinkCheck p st) :=
  fun _ _ hp h => volatileSinkCheck_ok h ▸ hp

theorem addSourceChecked_ok {s s' : KState} {snk src : Key} (h : s.addSourceChecked snk src = .ok s') :
    (s.sinkClosure snk).contains src = false ∧ s.insertDep src snk = .ok s' := by
  unfold KState.addSourceChecked at h
  cases hc : (s.sinkClosure snk).contains src with
  | true => rw [hc] at h; cases h
  | false => rw [hc] at h; exact ⟨rfl, h⟩

theorem hold_ok {s s' : KState} {k : Key} (h : s.hold k = .ok s') :
    (s.modify k fun n => { n with holding := n.holding + 1 }).flagChecksWithProducts k = .ok s' ∨
      ((∀ n, s.find? k = some n → n.holding ≠ 0) ∧ s' = s.modify k fun n => { n with holding := n.holding + 1 }) := by
  unfold KState.hold at h
  dsimp only [bind, Except.bind] at h
  split at h
  · exact .inl h
  · rename_i hne
    refine .inr ⟨fun n hn h0 => hne ?_, (pure_ok_iff.1 h).symm⟩
    rw [find?_modify_self s k (fun n => { n with holding := n.holding + 1 }) (fun _ h => h), hn]
    simp [h0]

theorem release_ok {s s' : KState} {k : Key} (h : s.release k = .ok s') :
    ∃ n, s.find? k = some n ∧ n.holding ≠ 0 ∧
      ((s.modify k fun n => { n with holding := n.holding - 1 }).flagChecksWithProducts k = .ok s' ∨
        (n.holding ≠ 1 ∧ s' = s.modify k fun n => { n with holding := n.holding - 1 })) := by
  unfold KState.release at h
  cases hf : s.find? k with
  | none => rw [hf] at h; cases h
  | some n =>
    rw [hf] at h
    by_cases h0 : n.holding = 0
    · simp only [h0, if_true, graphErr, bind, Except.bind] at h; cases h
    · refine ⟨n, rfl, h0, ?_⟩
      simp only [h0, if_false, pure, Except.pure] at h
      split at h
      · exact .inl h
      · rename_i h1
        exact .inr ⟨h1, (Except.ok.inj h).symm⟩

namespace MetaSafe

theorem writeBack_eq (s : KState) (rows : List SafeRow) :
    (s.modifyWhere (fun n => rows.any (·.key = n.key)) (setBest rows)).modifyWhere (fun n => n.key.kind = .step)
      (fun n => { n with checkSafe := false }) = writeBack s rows := by
  unfold writeBack KState.modifyWhere
  simp only [List.map_map]
  rfl

theorem updateMetaSafe_eq (s : KState) :
    s.updateMetaSafe =
      if (flagged s).isEmpty then pure s
      else match allRows s with
        | none => throw .hang
        | some rows => pure (writeBack s rows) := by
  have h : s.updateMetaSafe =
      if (flagged s).isEmpty then pure s
      else match allRows s with
        | none => throw .hang
        | some rows => pure ((s.modifyWhere (fun n => rows.any (·.key = n.key)) (setBest rows)).modifyWhere (fun n => n.key.kind = .step)
      (fun n => { n with checkSafe := false })) := rfl
  rw [h]
  simp only [writeBack_eq]

theorem updateMetaSafe_ok {s s' : KState} (h : s.updateMetaSafe = .ok s') :
    (flagged s = [] ∧ s' = s) ∨ (∃ rows, allRows s = some rows ∧ s' = writeBack s rows) := by
  rw [updateMetaSafe_eq] at h
  split at h
  · rename_i he
    left
    refine ⟨List.isEmpty_iff.1 he, ?_⟩
    cases h; rfl
  · split at h
    · cases h
    · rename_i rows hr
      right
      refine ⟨rows, hr, ?_⟩
      cases h; rfl

end MetaSafe

namespace MetaAfter

def afterWork (s : KState) : List Key :=
  (s.nodes.filter fun n => n.key.kind = .step ∧ !n.detached ∧ n.checkAfter).map (·.key)

/-- The last statement of `_update_meta_after`. -/
def clearAfter (s : KState) : KState :=
  s.modifyWhere (fun n => n.key.kind = .step) fun n => { n with checkAfter := false }

theorem updateMetaAfter_eq (s : KState) (cfg : KConfig) :
    s.updateMetaAfter cfg =
      if (!(s.nodes.any fun n => n.key.kind = .step ∧ n.checkAfter)) = true then pure s
      else match KState.afterLoop cfg (s.nodes.length + 2) s (afterWork s) true with
        | some st => pure (clearAfter st)
        | none => throw .hang := rfl

theorem updateMetaAfter_ok {s s' : KState} {cfg : KConfig} (h : s.updateMetaAfter cfg = .ok s') :
    ((∀ n ∈ s.nodes, n.key.kind = .step → n.checkAfter = false) ∧ s' = s) ∨
    ∃ st, KState.afterLoop cfg (s.nodes.length + 2) s (afterWork s) true = some st ∧ s' = clearAfter st := by
  rw [updateMetaAfter_eq] at h
  split at h
  · rename_i hno
    refine .inl ⟨fun n hn hs => ?_, (pure_ok_iff.1 h).symm⟩
    cases hf : n.checkAfter with
    | false => rfl
    | true =>
      rw [List.any_eq_true.2 ⟨n, hn, by simp [hs, hf]⟩] at hno
      cases hno
  · split at h
    · rename_i st hst
      exact .inr ⟨st, hst, (pure_ok_iff.1 h).symm⟩
    · cases h

end MetaAfter

theorem stepFlag_false {s : KState} {flag : Node → Bool} (h : ∀ n ∈ s.nodes, n.key.kind = .step → flag n = false)
    (n : Node) (hn : n ∈ s.nodes) : decide (n.key.kind = .step ∧ flag n = true) = false := by
  refine decide_eq_false fun hc => ?_
  rw [h n hn hc.1] at hc
  exact nomatch hc.2

theorem updateMetaSafe_skip {s : KState} (h : ∀ n ∈ s.nodes, n.key.kind = .step → n.checkSafe = false) :
    s.updateMetaSafe = .ok s := by
  rw [MetaSafe.updateMetaSafe_eq, show MetaSafe.flagged s = [] from List.filter_eq_nil_iff.2 fun n hn => by
    rw [stepFlag_false (flag := (·.checkSafe)) h n hn]; exact Bool.false_ne_true]
  rfl

theorem updateMetaAfter_skip {s : KState} (cfg : KConfig) (h : ∀ n ∈ s.nodes, n.key.kind = .step → n.checkAfter = false) :
    s.updateMetaAfter cfg = .ok s := by
  rw [MetaAfter.updateMetaAfter_eq, show (s.nodes.any fun n => n.key.kind = .step ∧ n.checkAfter) = false from
    List.any_eq_false.2 fun n hn => by rw [stepFlag_false (flag := (·.checkAfter)) h n hn]; exact Bool.false_ne_true]
  rfl

theorem updateMetaReady_skip {s : KState} (h : ∀ n ∈ s.nodes, n.key.kind = .step → n.checkReady = false) :
    s.updateMetaReady = s :=
  modifyWhere_none s _ _ (stepFlag_false (flag := (·.checkReady)) h)

theorem updateMeta_ok {s s' : KState} {cfg : KConfig} (h : s.updateMeta cfg = .ok s') :
    ∃ s1 s2, s.updateMetaSafe = .ok s1 ∧ s1.updateMetaAfter cfg = .ok s2 ∧ s' = s2.updateMetaReady := by
  unfold KState.updateMeta at h
  obtain ⟨s1, h1, h'⟩ := bind_ok_inv h
  obtain ⟨s2, h2, h3⟩ := bind_ok_inv h'
  exact ⟨s1, s2, h1, h2, (pure_ok_iff.1 h3).symm⟩

theorem reconcileTarget_ok {s s' : KState} {t : String} (h : s.reconcileTarget t = .ok s') :
    s' = s ∨ ∃ c, s' = s.modify c fun n => { n with checkAfter := true } := by
  unfold KState.reconcileTarget at h
  cases hf : s.find? (fileKey t) with
  | none => rw [hf] at h; exact .inl (pure_ok_iff.1 h).symm
  | some f =>
    rw [hf] at h
    dsimp only at h
    split at h
    · exact .inl (pure_ok_iff.1 h).symm
    · split at h
      · split at h
        · cases h
        · exact .inl (pure_ok_iff.1 h).symm
      · split at h
        · exact .inr ⟨_, (pure_ok_iff.1 h).symm⟩
        · exact .inl (pure_ok_iff.1 h).symm

theorem reconcileTargets_ok {s s' : KState} {cfg : KConfig} (h : s.reconcileTargets cfg = .ok s') :
    ∃ s1, (sortStrs cfg.targets).foldlM (fun st t => st.reconcileTarget t)
        (s.modifyWhere (fun n => n.key.kind = .step ∧ n.impliedNeed = .target) fun n => { n with checkAfter := true }) = .ok s1 ∧
      s' = s1.reconcileTargetDirs cfg :=
  bind_ok_elim h fun s1 h1 h => ⟨s1, h1, (pure_ok_iff.1 h).symm⟩

/-- The body of the inner fold of `markStepPending` for one sink `f` of the step. -/
def outdateStep (rec : KState → Key → M KState) (s : KState) (f : Key) : M KState :=
  match s.find? f with
  | some fn =>
    if fn.key.kind = .file ∧ fn.fstate = .built then do
      let s ← s.setFileState f .outdated
      ((s.sinksOf f).filter (·.kind = .step)).foldlM rec s
    else pure s
  | none => pure s

theorem outdateStep_ok {rec : KState → Key → M KState} {s s' : KState} {f : Key} (h : outdateStep rec s f = .ok s') :
    (s' = s ∧ ¬(f.kind = .file ∧ s.fstateOf f = some .built)) ∨
    ∃ s1, f.kind = .file ∧ s.fstateOf f = some .built ∧ s.setFileState f .outdated = .ok s1 ∧
      ((s1.sinksOf f).filter (·.kind = .step)).foldlM rec s1 = .ok s' := by
  unfold outdateStep at h
  unfold KState.fstateOf
  cases hf : s.find? f with
  | none => rw [hf] at h; cases h; exact .inl ⟨rfl, fun hb => nomatch hb.2⟩
  | some fn =>
    rw [hf] at h
    have hk := find_key hf
    rcases ite_ok h with ⟨hc, h⟩ | ⟨hc, h⟩
    · obtain ⟨s1, hw, h⟩ := bind_ok_inv h
      exact .inr ⟨s1, hk ▸ hc.1, congrArg some hc.2, hw, h⟩
    · cases h
      exact .inl ⟨rfl, fun hb => hc ⟨hk ▸ hb.1, Option.some.inj hb.2⟩⟩

theorem markStepPending_zero (s : KState) (k : Key) : markStepPending 0 s k = .error .hang := by
  rw [markStepPending]; rfl

theorem markStepPending_succ (fuel : Nat) (s : KState) (k : Key) :
    markStepPending (fuel + 1) s k =
      match s.find? k with
      | none => .ok s
      | some n =>
        if n.sstate = .running ∨ n.sstate = .checking then .ok s
        else (s.setStepState k .pending).bind fun s1 =>
          if n.sstate = .succeeded ∨ n.sstate = .failed then
            (s1.sinksOf k).foldlM (outdateStep (markStepPending fuel)) s1
          else .ok s1 := by
  rw [markStepPending]
  cases s.find? k with
  | none => rfl
  | some n =>
    simp only
    by_cases h : n.sstate = .running ∨ n.sstate = .checking
    · simp [h]; rfl
    · simp only [h, if_false]
      rfl

theorem markStepPending_succ_ok {fuel : Nat} {s s' : KState} {k : Key} (h : markStepPending (fuel + 1) s k = .ok s') :
    (s' = s ∧ ∀ st, s.sstateOf k = some st → st = .running ∨ st = .checking) ∨
    ∃ st s1, s.sstateOf k = some st ∧ st ≠ .running ∧ st ≠ .checking ∧ s.setStepState k .pending = .ok s1 ∧
      ((st = .succeeded ∨ st = .failed) ∧ (s1.sinksOf k).foldlM (outdateStep (markStepPending fuel)) s1 = .ok s' ∨
        ¬ (st = .succeeded ∨ st = .failed) ∧ s' = s1) := by
  rw [markStepPending_succ] at h
  unfold KState.sstateOf
  cases hf : s.find? k with
  | none => rw [hf] at h; cases h; exact .inl ⟨rfl, nofun⟩
  | some n =>
    rw [hf] at h
    rcases ite_ok h with ⟨hc, h⟩ | ⟨hc, h⟩
    · cases h
      exact .inl ⟨rfl, fun st hst => Option.some.inj hst ▸ hc⟩
    · obtain ⟨s1, hw, h⟩ := bind_ok_inv h
      refine .inr ⟨n.sstate, s1, rfl, fun e => hc (.inl e), fun e => hc (.inr e), hw, ?_⟩
      by_cases hd : n.sstate = .succeeded ∨ n.sstate = .failed
      · rw [if_pos hd] at h; exact .inl ⟨hd, h⟩
      · rw [if_neg hd] at h; exact .inr ⟨hd, (Except.ok.inj h).symm⟩

theorem markFileOutdated_ok {s s' : KState} {f : Key} (h : s.markFileOutdated f = .ok s') :
    (s.fstateOf f ≠ some .built ∧ s' = s) ∨ ∃ s1, s.fstateOf f = some .built ∧ s.setFileState f .outdated = .ok s1 ∧
      s1.markConsumersPending f = .ok s' := by
  unfold KState.markFileOutdated at h
  unfold KState.fstateOf
  cases hf : s.find? f with
  | none => rw [hf] at h; cases h; exact .inl ⟨nofun, rfl⟩
  | some n =>
    rw [hf] at h
    rcases ite_ok h with ⟨hb, h⟩ | ⟨hb, h⟩
    · obtain ⟨s1, hw, h⟩ := bind_ok_inv h
      exact .inr ⟨s1, congrArg some hb, hw, h⟩
    · obtain ⟨_, h⟩ := (ite_ok h).resolve_right fun h => nomatch h.2
      cases h
      exact .inl ⟨fun e => hb (Option.some.inj e), rfl⟩

theorem creatorStep_of_creator {s : KState} {f c : Key} {n : Node} (hf : s.find? f = some n) (hc : n.creator = some c)
    (hk : c.kind = .step) (hh : s.has c = true) : s.creatorStep f = some c := by
  unfold KState.creatorStep
  simp only [hf, Option.bind_some, hc, hk, hh, and_self, if_true]

theorem pendCreator_ok {s s' : KState} {f : Key} (h : s.pendCreator f = .ok s') :
    (s.creatorStep f = none ∧ s' = s) ∨ ∃ c, s.creatorStep f = some c ∧ s.markStepPending c = .ok s' := by
  unfold KState.pendCreator at h
  cases hc : s.creatorStep f with
  | none => rw [hc] at h; exact .inl ⟨rfl, (pure_ok_iff.1 h).symm⟩
  | some c => rw [hc] at h; exact .inr ⟨c, rfl, h⟩

theorem handleUpdated_ok {s s' : KState} {f : Key} (h : s.handleUpdated f = .ok s') :
    (s.fileState? f = some .confirmed ∧ s.markConsumersPending f = .ok s') ∨
    ((s.fileState? f = some .planned ∨ s.fileState? f = some .outdated) ∧ s.pendCreator f = .ok s') ∨
    (s.fileState? f ≠ some .confirmed ∧ ¬(s.fileState? f = some .planned ∨ s.fileState? f = some .outdated) ∧ s' = s) := by
  rcases ite_ok h with h | ⟨hc, h⟩
  · exact .inl h
  · rcases ite_ok h with h | ⟨hp, h⟩
    · exact .inr (.inl h)
    · exact .inr (.inr ⟨hc, hp, (pure_ok_iff.1 h).symm⟩)

theorem handleUpdated_confirmed (s : KState) (f : Key) (h : s.fileState? f = some .confirmed) :
    s.handleUpdated f = s.markConsumersPending f := if_pos h

theorem handleDeleted_ok {s s' : KState} {f : Key} (h : s.handleDeleted f = .ok s') :
    ∃ s1, ((s.fileState? f ≠ some .planned ∧ s1 = s) ∨ (s.fileState? f = some .planned ∧ s.pendCreator f = .ok s1)) ∧
      s1.markConsumersPending f = .ok s' := by
  rcases ite_ok h with ⟨hp, h⟩ | ⟨hp, h⟩
  · exact bind_ok_elim h fun s1 h1 h => ⟨s1, .inr ⟨hp, h1⟩, h⟩
  · exact ⟨s, .inl ⟨hp, rfl⟩, h⟩

theorem hashRec_ok {s : KState} {cause : Cause} {u : String × Option Nat} {r : HashRec}
    (h : s.hashRec cause u = .ok r) :
    ∃ n, s.find? (fileKey u.1) = some n ∧ lookupTransition cause n.fstate u.2.isSome = some (r.newState, r.action) ∧
      r.key = fileKey u.1 ∧ r.newHash = u.2 := by
  unfold KState.hashRec at h
  cases hf : s.find? (fileKey u.1) with
  | none => rw [hf] at h; cases h
  | some n =>
    rw [hf] at h
    dsimp only at h
    cases hl : lookupTransition cause n.fstate u.2.isSome with
    | none => rw [hl] at h; cases h
    | some p => rw [hl] at h; cases h; exact ⟨n, rfl, hl, rfl, rfl⟩

theorem hashRec_role {s : KState} {cause : Cause} {u : String × Option Nat} {r : HashRec}
    (h : s.hashRec cause u = .ok r) : ∃ n, s.find? r.key = some n ∧ r.newState.role? = n.fstate.role? :=
  have ⟨n, hf, hl, hk, _⟩ := hashRec_ok h
  ⟨n, hk ▸ hf, lookupTransition_role hl⟩

theorem updateFileHashes_ok {s s' : KState} {updates : List (String × Option Nat)} {cause : Cause}
    (h : s.updateFileHashes updates cause = .ok s') :
    s' = s ∨ ∃ (recs : List HashRec) (s1 s2 s3 : KState), (∀ r ∈ recs, ∃ u, s.hashRec cause u = .ok r) ∧
      recs.foldlM (fun st r => st.writeFile r.key r.newState (some r.newHash)) s = .ok s1 ∧
      (recs.filter fun r => r.action = some .updated).foldlM (fun st r => st.handleUpdated r.key) s1 = .ok s2 ∧
      (recs.filter fun r => r.action = some .deleted).foldlM (fun st r => st.handleDeleted r.key) s2 = .ok s3 ∧
      (recs.filter fun r => r.action = some .completed).foldlM (fun st r => st.markConsumersPending r.key) s3 = .ok s' := by
  unfold KState.updateFileHashes at h
  rcases ite_ok h with ⟨_, h⟩ | ⟨_, h⟩
  · cases h; exact .inl rfl
  · obtain ⟨recs, hrecs, h⟩ := bind_ok_inv h
    obtain ⟨s1, h1, h⟩ := bind_ok_inv h
    obtain ⟨s2, h2, h⟩ := bind_ok_inv h
    obtain ⟨s3, h3, h⟩ := bind_ok_inv h
    refine .inr ⟨recs, s1, s2, s3, fun r hr => ?_, h1, h2, h3, h⟩
    obtain ⟨u, _, hu⟩ := mapM_ok_mem hrecs r hr
    exact ⟨u, hu⟩

theorem foldlM_filter_singleton {α β : Type} (p : α → Bool) (f : β → α → M β) (a : α) (b : β) :
    ([a].filter p).foldlM f b = if p a then f b a else pure b := by
  cases hp : p a
  · simp [List.filter, hp]
  · simp [List.filter, hp]

/-- `update_file_hashes` for a single path, as the watcher and the startup rescan call it. -/
theorem updateFileHashes_single (s : KState) (p : String) (h : Option Nat) (c : Cause) :
    s.updateFileHashes [(p, h)] c =
      (s.hashRec c (p, h) >>= fun r =>
        s.writeFile r.key r.newState (some r.newHash) >>= fun s1 =>
          (if r.action = some .updated then s1.handleUpdated r.key else pure s1) >>= fun s2 =>
          (if r.action = some .deleted then s2.handleDeleted r.key else pure s2) >>= fun s3 =>
          (if r.action = some .completed then s3.markConsumersPending r.key else pure s3)) := by
  unfold KState.updateFileHashes
  simp only [List.isEmpty_cons, Bool.false_eq_true, if_false, List.mergeSort_singleton, List.mapM_cons, List.mapM_nil,
    bind_pure_comp, map_pure, bind_map_left, foldlM_filter_singleton, List.foldlM_cons, List.foldlM_nil, decide_eq_true_eq,
    bind_pure]

theorem writeFailureState_ok {s s' : KState} {k : Key} {g : Bool} (h : s.writeFailureState k g = .ok s') :
    ∃ st d, (st = .pending ∨ st = .failed) ∧ s.setStepState k st d = .ok s' := by
  rcases ite_ok h with ⟨_, h⟩ | ⟨_, h⟩
  · exact ⟨_, _, .inl rfl, h⟩
  · exact ⟨_, _, .inr rfl, h⟩

theorem bumpDeferCount_cases (s : KState) (k : Key) (wd : Bool) :
    s.bumpDeferCount k wd = s ∨ s.bumpDeferCount k wd = s.modify k fun n => { n with deferCount := n.deferCount + 1 } := by
  unfold KState.bumpDeferCount
  split
  · exact .inr rfl
  · exact .inl rfl

theorem bumpDeferCount_ind {C : KState → Prop} (s : KState) (k : Key) (wd : Bool) (h : C s)
    (bump : C (s.modify k fun n => { n with deferCount := n.deferCount + 1 })) : C (s.bumpDeferCount k wd) := by
  rcases bumpDeferCount_cases s k wd with e | e <;> rw [e]
  · exact h
  · exact bump

theorem detachCreatedIfFailed_ok {s s' : KState} {k : Key} (h : s.detachCreatedIfFailed k = .ok s') :
    s' = s ∨ s.detachCreatedSteps k = .ok s' := by
  rcases ite_ok h with ⟨_, h⟩ | ⟨_, h⟩
  · exact .inr h
  · exact .inl (pure_ok_iff.1 h).symm

/-- `mark_completed(None, wants_defer)` -/
theorem completeFailure_ok {s s' : KState} {cfg : KConfig} {k : Key} {wd : Bool}
    (h : s.completeFailure cfg k wd = .ok s') :
    ∃ s1 s2 s3 st d, s.outdateBuiltProducts k = .ok s1 ∧ (st = .pending ∨ st = .failed) ∧
      (s1.bumpDeferCount k wd).setStepState k st d = .ok s2 ∧
      (s3 = s2 ∨ s2.detachCreatedSteps k = .ok s3) ∧ s' = s3.deleteHash k := by
  unfold KState.completeFailure at h
  obtain ⟨s1, h1, h⟩ := bind_ok_inv h
  obtain ⟨s2, h2, h⟩ := bind_ok_inv h
  obtain ⟨s3, h3, h⟩ := bind_ok_inv h
  obtain ⟨st, d, hst, h2⟩ := writeFailureState_ok h2
  exact ⟨s1, s2, s3, st, d, h1, hst, h2, detachCreatedIfFailed_ok h3, (pure_ok_iff.1 h).symm⟩

/-- `mark_completed(hash, False)` -/
theorem completeSuccess_ok {s s' : KState} {cfg : KConfig} {k : Key} {hash : Nat}
    (h : s.completeSuccess cfg k hash = .ok s') :
    ∃ s1 s2, s.setStepState k .succeeded = .ok s1 ∧ s1.rebuildOutdatedProducts k = .ok s2 ∧
      s' = (s2.setHash k hash).refreshEnvValues cfg k := by
  unfold KState.completeSuccess at h
  obtain ⟨s1, h1, h⟩ := bind_ok_inv h
  obtain ⟨s2, h2, h⟩ := bind_ok_inv h
  exact ⟨s1, s2, h1, h2, (pure_ok_iff.1 h).symm⟩

theorem markCompleted_ok {s s' : KState} {cfg : KConfig} {k : Key} {nh : Option Nat} {wd b : Bool}
    (h : s.markCompleted cfg k nh wd = .ok (s', b)) :
    (nh = none ∧ s.completeFailure cfg k wd = .ok s') ∨ ∃ hh, nh = some hh ∧ s.completeSuccess cfg k hh = .ok s' := by
  cases nh with
  | none =>
    simp only [KState.markCompleted] at h
    obtain ⟨st, h1, h2⟩ := bind_ok_inv h
    exact .inl ⟨rfl, (Prod.mk.inj (pure_ok_iff.1 h2)).1 ▸ h1⟩
  | some hh =>
    simp only [KState.markCompleted] at h
    obtain ⟨st, h1, h2⟩ := bind_ok_inv h
    exact .inr ⟨hh, rfl, (Prod.mk.inj (pure_ok_iff.1 h2)).1 ▸ h1⟩

theorem resetForRerun_ok {s s' : KState} {k : Key} (h : s.resetForRerun k = .ok s') :
    ∃ s2 s3 s4 s5, ((s.dropDynamicInputs k).dynamicSinks k).foldlM (fun st t => st.dropDynamicSink k t)
        (s.dropDynamicInputs k) = .ok s2 ∧
      s2.detachCreatedSteps k = .ok s3 ∧ s3.detachProductsWhere k isStaticFileNode = .ok s4 ∧
      s4.detachProductsWhere k isTreeNode = .ok s5 ∧ s5.outdateBuilt k = .ok s' := by
  unfold KState.resetForRerun at h
  obtain ⟨s2, h2, h⟩ := bind_ok_inv h
  obtain ⟨s3, h3, h⟩ := bind_ok_inv h
  obtain ⟨s4, h4, h⟩ := bind_ok_inv h
  obtain ⟨s5, h5, h⟩ := bind_ok_inv h
  exact ⟨s2, s3, s4, s5, h2, h3, h4, h5, h⟩

/-- The rows of `UPDATE step ... WHERE state = x`. -/
def KState.stepRows (s : KState) (x : StepState) : List Node := s.nodes.filter fun n => n.key.kind = .step ∧ n.sstate = x

theorem stepRows_nil {s : KState} {x : StepState} (h : ∀ n ∈ s.nodes, n.key.kind = .step → n.sstate ≠ x) :
    s.stepRows x = [] :=
  List.filter_eq_nil_iff.mpr fun n hn hp => h n hn (of_decide_eq_true hp).1 (of_decide_eq_true hp).2

theorem mem_stepRows {s : KState} {q : Key} {n : Node} {x : StepState} (hf : s.find? q = some n)
    (hq : q.kind = .step) (hx : n.sstate = x) : n ∈ s.stepRows x :=
  List.mem_filter.mpr ⟨find_mem hf, decide_eq_true ⟨find_key hf ▸ hq, hx⟩⟩

theorem key_mem_stepRows {s : KState} {q : Key} {x : StepState} (hq : q.kind = .step) (h : s.sstateOf q = some x) :
    q ∈ (s.stepRows x).map (·.key) := by
  obtain ⟨n, hf, hx⟩ := Option.map_eq_some_iff.mp h
  exact List.mem_map.mpr ⟨n, mem_stepRows hf hq hx, find_key hf⟩

theorem sstateOf_of_mem_stepRows {s : KState} (hnodup : (s.nodes.map (·.key)).Nodup) {q : Key} {x : StepState}
    (h : q ∈ (s.stepRows x).map (·.key)) : s.sstateOf q = some x := by
  obtain ⟨m, hm, rfl⟩ := List.mem_map.mp h
  obtain ⟨hmem, hp⟩ := List.mem_filter.mp hm
  rw [KState.sstateOf, find?_of_mem hnodup hmem]
  exact congrArg some (of_decide_eq_true hp).2

/-- `startup.reset_interrupted_steps` -/
theorem resetInterrupted_ok {s s' : KState} (h : s.resetInterrupted = .ok s') :
    ∃ s1 s2, (s.stepRows .running).foldlM (fun st n => st.writeStepState n.key .failed none) s = .ok s1 ∧
      (s.stepRows .checking).foldlM (fun st n => st.writeStepState n.key .pending none) s1 = .ok s2 ∧
      (s2.stepRows .failed).foldlM (fun st n => st.markStepPending n.key) s2 = .ok s' := by
  unfold KState.resetInterrupted at h
  obtain ⟨s1, h1, h⟩ := bind_ok_inv h
  obtain ⟨s2, h2, h⟩ := bind_ok_inv h
  exact ⟨s1, s2, h1, h2, h⟩

/-- `revert_optional_steps` on one output. -/
theorem revertOutput_ok {s s' : KState} {f : Key} (h : s.revertOutput f = .ok s') :
    s' = s ∨ ∃ fn, s.find? f = some fn ∧ fn.key.kind = .file ∧
      (fn.fstate = .volatile ∨ fn.fstate = .built ∨ fn.fstate = .outdated) ∧
      ((fn.fstate = .volatile ∧
          s' = (s.queueDelete f.label none).markDirToBeDeleted (parentDir f.label)) ∨
        (fn.fstate ≠ .volatile ∧
          ((s.queueDelete f.label fn.fhash).markDirToBeDeleted (parentDir f.label)).writeFile f .planned
            (some none) = .ok s')) := by
  unfold KState.revertOutput at h
  cases hfind : s.find? f with
  | none => rw [hfind] at h; exact Or.inl (Except.ok.inj h).symm
  | some fn =>
    rw [hfind] at h
    dsimp only at h
    by_cases hc : fn.key.kind = .file ∧ (fn.fstate = .volatile ∨ fn.fstate = .built ∨ fn.fstate = .outdated)
    · rw [if_pos hc] at h
      refine Or.inr ⟨fn, rfl, hc.1, hc.2, ?_⟩
      by_cases hv : fn.fstate = .volatile
      · rw [if_neg (not_not_intro hv), if_pos hv] at h
        exact Or.inl ⟨hv, (Except.ok.inj h).symm⟩
      · rw [if_pos hv, if_neg hv] at h
        exact Or.inr ⟨hv, h⟩
    · rw [if_neg hc] at h
      exact Or.inl (Except.ok.inj h).symm

/-- One unneeded step of `revert_optional_steps`. -/
theorem revertStep_ok {s s' : KState} {n : Node} (h : s.revertStep n = .ok s') :
    ∃ s1, (n.sstate = .pending ∧ s1 = s ∨ n.sstate ≠ .pending ∧ s.writeStepState n.key .pending none = .ok s1) ∧
      (s1.sinksOf n.key).foldlM (fun st f => st.revertOutput f) s1 = .ok s' := by
  unfold KState.revertStep at h
  refine bind_ok_elim h fun s1 hp h => ⟨s1, ?_, h⟩
  rcases ite_ok hp with ⟨hne, hp⟩ | ⟨hne, hp⟩
  · exact .inr ⟨hne, hp⟩
  · exact .inl ⟨Decidable.not_not.1 hne, (pure_ok_iff.1 hp).symm⟩

theorem placeholder_ok {s : KState} {path : String} {r : KState × FileState × Bool} (h : s.placeholder path = .ok r) :
    s.create (fileKey path) none (.file .undeclared) = .ok r.1 ∧ r.2 = (.undeclared, true) :=
  bind_ok_elim h fun _ h1 h => pure_ok_iff.1 h ▸ ⟨h1, rfl⟩

theorem resolveTree_ok_some {s : KState} {path : String} {o : Option Node} {t : Key}
    (h : s.resolveTree path o = .ok (some t)) :
    s.owningTree path = .ok (some t) ∧ ∀ n, o = some n → n.detached = true := by
  unfold KState.resolveTree at h
  cases o with
  | none => exact ⟨h, fun _ e => nomatch e⟩
  | some n =>
    rcases ite_ok h with ⟨hd, h⟩ | ⟨_, h⟩
    · exact ⟨h, fun _ e => Option.some.inj e ▸ hd⟩
    · exact nomatch pure_ok_iff.1 h

theorem adoptByTree_ok {s : KState} {cfg : KConfig} {path : String} {t : Key} {r : KState × FileState × Bool}
    (h : s.adoptByTree cfg path t = .ok r) :
    adoptGuard cfg path = .ok () ∧ s.create (fileKey path) (some t) (.file .unconfirmed) = .ok r.1 ∧
      r.2 = (.unconfirmed, false) :=
  bind_ok_elim h fun _ hu h => bind_ok_elim h fun _ h1 h => pure_ok_iff.1 h ▸ ⟨hu, h1, rfl⟩

theorem resolveWith_none_ok {s : KState} {cfg : KConfig} {path : String} {o : Option Node}
    {r : KState × FileState × Bool} (h : s.resolveWith cfg path none o = .ok r) :
    ((o = none ∧ fileLabelOk path = true ∨ ∃ n, o = some n ∧ n.creator = none) ∧ s.placeholder path = .ok r) ∨
    ∃ n, o = some n ∧ n.creator.isSome = true ∧ useGuard cfg path n = .ok () ∧ r = (s, n.fstate, n.detached) := by
  cases o with
  | none =>
    have := throwIf_ok (show (if (!fileLabelOk path) = true then Except.error Err.path else s.placeholder path) = .ok r from h)
    exact .inl ⟨.inl ⟨rfl, Bool.not_eq_false _ ▸ Bool.not_eq_true' _ ▸ this.1⟩, this.2⟩
  | some n =>
    rcases ite_ok (show (if n.creator.isNone = true then s.placeholder path else _) = .ok r from h) with ⟨hc, h⟩ | ⟨hc, h⟩
    · exact .inl ⟨.inr ⟨n, rfl, Option.isNone_iff_eq_none.1 hc⟩, h⟩
    · refine bind_ok_elim h fun _ hu h => .inr ⟨n, rfl, ?_, hu, (pure_ok_iff.1 h).symm⟩
      cases hcr : n.creator with
      | none => exact absurd (by rw [hcr]; rfl) hc
      | some _ => rfl

/-- The node part of `_resolve_supply_file`. -/
theorem resolveNode_ok {s : KState} {cfg : KConfig} {path : String} {r : KState × FileState × Bool}
    (h : s.resolveNode cfg path = .ok r) :
    (∃ t, s.owningTree path = .ok (some t) ∧ (∀ n, s.find? (fileKey path) = some n → n.detached = true) ∧
        adoptGuard cfg path = .ok () ∧ s.create (fileKey path) (some t) (.file .unconfirmed) = .ok r.1 ∧
        r.2 = (.unconfirmed, false)) ∨
    ((s.find? (fileKey path) = none ∧ fileLabelOk path = true ∨ ∃ n, s.find? (fileKey path) = some n ∧ n.creator = none) ∧
        s.create (fileKey path) none (.file .undeclared) = .ok r.1 ∧ r.2 = (.undeclared, true)) ∨
    (∃ n, s.find? (fileKey path) = some n ∧ n.creator.isSome = true ∧ useGuard cfg path n = .ok () ∧
        r = (s, n.fstate, n.detached)) :=
  bind_ok_elim h fun tree htree h => by
    cases tree with
    | some t => exact .inl ⟨t, (resolveTree_ok_some htree).1, (resolveTree_ok_some htree).2, adoptByTree_ok h⟩
    | none => exact .inr ((resolveWith_none_ok h).imp (fun h => ⟨h.1, placeholder_ok h.2⟩) id)

/-- `_resolve_supply_file` -/
theorem resolveSupply_ok {s : KState} {cfg : KConfig} {step : Key} {path : String} {rn : Bool} {r : KState × Supply}
    (h : s.resolveSupply cfg step path rn = .ok r) :
    ∃ st det, s.resolveNode cfg path = .ok (r.1, st, det) ∧ ¬((!!r.1.hasDep (fileKey path) step) = true ∧ rn = true) ∧
      r.2 = { file := fileKey path, state := st, detached := det, newRel := !r.1.hasDep (fileKey path) step } := by
  unfold KState.resolveSupply at h
  refine bind_ok_elim h fun t ht h => ?_
  obtain ⟨hn, h⟩ := throwIf_ok h
  cases pure_ok_iff.1 h
  exact ⟨t.2.1, t.2.2, ht, hn, rfl⟩

theorem resolveAll_files {cfg : KConfig} {step : Key} {paths : List String} {rn : Bool} {s : KState}
    {r : KState × List Supply} (h : s.resolveAll cfg step paths rn = .ok r) : ∀ i ∈ r.2, i.file.kind = .file := by
  refine foldlM_keeps (fun a : KState × List Supply => ∀ i ∈ a.2, i.file.kind = .file) _ paths (fun a x b _ ha hb => ?_)
    (s, []) r (fun _ hi => nomatch hi) h
  obtain ⟨c, hc, hb⟩ := bind_ok_inv hb
  obtain ⟨_, _, _, _, e⟩ := resolveSupply_ok hc
  rw [← pure_ok_iff.1 hb]
  intro i hi
  rcases List.mem_append.1 hi with hi | hi
  · exact ha i hi
  · exact List.mem_singleton.1 hi ▸ e ▸ rfl

theorem supplyFiles_ok {s : KState} {cfg : KConfig} {step : Key} {paths : List String} {rn : Bool}
    {r : KState × List Supply} (h : s.supplyFiles cfg step paths rn = .ok r) :
    ∃ s1, s.resolveAll cfg step paths rn = .ok (s1, r.2) ∧
      (∀ i ∈ r.2, i.newRel = true → (s1.sinkClosure step).contains i.file = false) ∧
      s1.insertNewEdges step r.2 = .ok r.1 := by
  unfold KState.supplyFiles at h
  refine bind_ok_elim h fun t ht h => ?_
  obtain ⟨hc, h⟩ := throwIf_ok h
  refine bind_ok_elim h fun s2 h2 h => ?_
  cases pure_ok_iff.1 h
  refine ⟨t.1, ht, fun i hi hnew => Bool.eq_false_iff.2 fun hcon => hc ⟨?_, ?_⟩, h2⟩
  · rw [Bool.not_eq_true', List.isEmpty_eq_false_iff]
    exact List.ne_nil_of_mem (List.mem_map.2 ⟨i, List.mem_filter.2 ⟨hi, hnew⟩, rfl⟩)
  · exact List.any_eq_true.2 ⟨i.file, List.mem_map.2 ⟨i, List.mem_filter.2 ⟨hi, hnew⟩, rfl⟩, hcon⟩

theorem declareProduct_ok {s s' : KState} {cfg : KConfig} {step : Key} {p : String} {st : FileState}
    (h : s.declareProduct cfg step p st = .ok s') :
    ∃ s1, s.declareFile cfg step p st = .ok s1 ∧ (s1.sinkClosure (fileKey p)).contains step = false ∧
      s1.insertDep step (fileKey p) = .ok s' := by
  unfold KState.declareProduct at h
  refine bind_ok_elim h fun s1 h1 h => ?_
  exact ⟨s1, h1, addSourceChecked_ok h⟩

theorem afterRecycle_ok {s s' : KState} {sk : Key} {d : StepDecl} {n : Node} (h : s.afterRecycle sk d n = .ok s') :
    ((n.sstate = .failed ∨ n.shell ≠ d.shell ∨ n.overrides ≠ d.overrides) ∧
      (s.modify sk fun n => { n with need := d.need, shell := d.shell }).markStepPending sk = .ok s') ∨
    (¬(n.sstate = .failed ∨ n.shell ≠ d.shell ∨ n.overrides ≠ d.overrides) ∧
      s' = s.modify sk fun n => { n with need := d.need, shell := d.shell }) :=
  (ite_ok h).imp id fun h => ⟨h.1, (pure_ok_iff.1 h.2).symm⟩

theorem recycleStep_ok {s s' : KState} {sk creator : Key} {d : StepDecl} {n : Node}
    (h : s.recycleStep sk creator d n = .ok s') :
    ∃ s1 s3, s.reattach sk creator = .ok s1 ∧ s1.afterRecycle sk d n = .ok s3 ∧ s' = s3.setStepExtras sk d := by
  refine bind_ok_elim h fun s1 h1 h => ?_
  refine bind_ok_elim h fun s3 h3 h => ?_
  exact ⟨s1, s3, h1, h3, (pure_ok_iff.1 h).symm⟩

/-- The creation branch of `define_step`. -/
theorem createStep_ok {s : KState} {cfg : KConfig} {sk creator : Key} {d : StepDecl} {r : KState × List String}
    (h : s.createStep cfg sk creator d = .ok r) :
    ∃ s1 s3 infos s5, s.create sk (some creator) (.step { need := d.need, shell := d.shell, safe := d.safe }) = .ok s1 ∧
      (s1.setStepExtras sk d).supplyFiles cfg sk d.inp true = .ok (s3, infos) ∧
      (s3.modify sk fun n => addEnvDeps cfg n d.env).declareProducts cfg sk d.out .planned = .ok s5 ∧
      s5.declareProducts cfg sk d.vol .volatile = .ok r.1 := by
  unfold KState.createStep at h
  refine bind_ok_elim h fun s1 h1 h => ?_
  refine bind_ok_elim h fun t h3 h => ?_
  refine bind_ok_elim h fun s5 h5 h => ?_
  refine bind_ok_elim h fun s6 h6 h => ?_
  cases pure_ok_iff.1 h
  exact ⟨s1, t.1, t.2, s5, h1, h3, h5, h6⟩

theorem declareStaticFiles_ok {s : KState} {cfg : KConfig} {creator : Key} {paths : List String} {r : KState × List String}
    (h : s.declareStaticFiles cfg creator paths = .ok r) :
    ∃ todo, s.staticTodo creator paths = .ok todo ∧ s.declareAll cfg todo .unconfirmed = .ok r.1 ∧ r.2 = todo.map (·.2) :=
  bind_ok_elim h fun todo htodo h => bind_ok_elim h fun _ hst h =>
    pure_ok_iff.1 h ▸ ⟨todo, htodo, hst, rfl⟩

theorem registerStaticTree_ok {s : KState} {cfg : KConfig} {creator : Key} {path : String} {r : KState × List String}
    (h : s.registerStaticTree cfg creator path = .ok r) :
    (s.treeGuard creator (addSlash path) = .ok none ∧ r = (s, [])) ∨
    ∃ hs s1, s.treeGuard creator (addSlash path) = .ok (some hs) ∧
      s.create (treeKey (addSlash path)) (some creator) .tree = .ok s1 ∧
      (s1.handOver (treeKey (addSlash path)) hs).declareStaticFiles cfg (treeKey (addSlash path))
        ((s1.handOver (treeKey (addSlash path)) hs).detachedFilesUnder (addSlash path)) = .ok r := by
  unfold KState.registerStaticTree at h
  refine bind_ok_elim h fun _ _ h => ?_
  refine bind_ok_elim h fun g hg h => ?_
  cases g with
  | none => exact .inl ⟨hg, (pure_ok_iff.1 h).symm⟩
  | some hs => exact bind_ok_elim h fun s1 h1 h => .inr ⟨hs, s1, hg, h1, h⟩

theorem declareStaticRequest_ok {s : KState} {cfg : KConfig} {creator : Key} {trees files : List String}
    {patterns : List (String × List String)} {r : KState × List String}
    (h : s.declareStaticRequest cfg creator trees files patterns = .ok r) :
    ∃ a1 a2, s.registerTrees cfg creator trees = .ok a1 ∧ a1.1.declareStaticFiles cfg creator files = .ok a2 ∧
      a2.1.registerNglobs creator patterns = .ok r.1 ∧ r.2 = a1.2 ++ a2.2 :=
  bind_ok_elim h fun a1 h1 h => bind_ok_elim h fun a2 h2 h => bind_ok_elim h fun _ h3 h =>
    pure_ok_iff.1 h ▸ ⟨a1, a2, h1, h2, h3, rfl⟩

theorem newProducts_sub {s : KState} {step : Key} {role : FileRole} {paths r : List String}
    (h : s.newProducts step paths role = .ok r) : ∀ p ∈ r, p ∈ paths := by
  unfold KState.newProducts at h
  induction paths generalizing r with
  | nil => cases h; exact fun _ hp => nomatch hp
  | cons a l ih =>
    rw [List.filterMapM_cons] at h
    obtain ⟨b, hb, h⟩ := bind_ok_inv h
    obtain ⟨c, _, hb⟩ := bind_ok_inv hb
    cases b with
    | none =>
      exact fun p hp => List.mem_cons_of_mem _ (ih h p hp)
    | some x =>
      obtain ⟨rl, hl, h⟩ := bind_ok_inv h
      have hx : x = a := by
        rcases ite_ok hb with ⟨_, hb⟩ | ⟨_, hb⟩
        · exact (Option.some.inj (pure_ok_iff.1 hb)).symm
        · cases pure_ok_iff.1 hb
      rw [← pure_ok_iff.1 h, hx]
      intro p hp
      rcases List.mem_cons.1 hp with rfl | hp
      · exact List.mem_cons_self
      · exact List.mem_cons_of_mem _ (ih hl p hp)

theorem amendStep_ok {s : KState} {cfg : KConfig} {step : Key} {inp env out vol : List String} {conc : List Key}
    {r : KState × AmendResult} (h : s.amendStep cfg step inp env out vol conc = .ok r) :
    ∃ s1 infos out' vol' s3 s4, dirInputGuard (normPaths inp) = .ok () ∧
      s.supplyFiles cfg step (normPaths inp) false = .ok (s1, infos) ∧
      (s1.amendEnv cfg step env).newProducts step (normPaths out) .output = .ok out' ∧
      (s1.amendEnv cfg step env).newProducts step (normPaths vol) .volatile = .ok vol' ∧
      overlapGuard out' vol' = .ok () ∧ (s1.amendEnv cfg step env).raiseIfGlobMatch (out' ++ vol') = .ok () ∧
      (s1.amendEnv cfg step env).declareProducts cfg step out' .planned = .ok s3 ∧
      s3.declareProducts cfg step vol' .volatile = .ok s4 ∧
      r = (s4.markDynamic (((infos.filter (·.newRel)).map fun i => (i.file, step)) ++
          (out'.map fun o => (step, fileKey o)) ++ (vol'.map fun v => (step, fileKey v))), s1.amendClassify infos conc) :=
  bind_ok_elim h fun _ hd h => bind_ok_elim h fun a ha (h : a.1.amendProducts cfg step a.2 env out vol conc = .ok r) =>
    bind_ok_elim h fun out' ho h => bind_ok_elim h fun vol' hv h => bind_ok_elim h fun _ hov h =>
      bind_ok_elim h fun _ hgl h => bind_ok_elim h fun s3 h3 h => bind_ok_elim h fun s4 h4 h =>
        ⟨a.1, a.2, out', vol', s3, s4, hd, ha, ho, hv, hov, hgl, h3, h4, (pure_ok_iff.1 h).symm⟩

/-- The declaration with its lists normalised, as `define_step` goes on with it. -/
def normDecl (d : StepDecl) : StepDecl :=
  { d with inp := normPaths d.inp, env := normPaths d.env, out := normPaths d.out, vol := normPaths d.vol }

theorem defineStep_ok {s : KState} {cfg : KConfig} {creator : Key} {d : StepDecl} {r : KState × List String}
    (h : s.defineStep cfg creator d = .ok r) :
    ∃ label, stepLabel d.cmd d.workdir = some label ∧
      ((∃ n, s.find? (stepKey label) = some n ∧ n.detached = true ∧ s.canRecycle (stepKey label) (normDecl d) = true ∧
          s.recycleStep (stepKey label) creator (normDecl d) n = .ok r.1) ∨
        (s.newStepGuard (stepKey label) (normDecl d) = .ok () ∧
          s.createStep cfg (stepKey label) creator (normDecl d) = .ok r)) := by
  obtain ⟨sk, hsk, h⟩ := bind_ok_inv (x := s.defineGuard cfg creator (normDecl d)) h
  obtain ⟨label, hlabel, rfl⟩ := (defineGuard_ok hsk).1
  refine ⟨label, hlabel, ?_⟩
  cases hf : s.find? (stepKey label) with
  | none =>
    rw [hf] at h
    obtain ⟨_, hg, h⟩ := bind_ok_inv h
    exact .inr ⟨hg, h⟩
  | some n =>
    rw [hf] at h
    rcases ite_ok h with ⟨hrec, h⟩ | ⟨_, h⟩
    · obtain ⟨s1, h1, h⟩ := bind_ok_inv h
      exact .inl ⟨n, rfl, hrec.1, hrec.2, pure_ok_iff.1 h ▸ h1⟩
    · obtain ⟨_, hg, h⟩ := bind_ok_inv h
      exact .inr ⟨hg, h⟩

/-- `define_step` in its full-recycle branch is `try_recycle` + `after_recycle` + `set_resources`. -/
theorem defineStep_recycle {s : KState} {cfg : KConfig} {c : Key} {d : StepDecl} {sk : Key} {n : Node}
    (hg : s.defineGuard cfg c (normDecl d) = .ok sk) (hf : s.find? sk = some n) (hd : n.detached = true)
    (hc : s.canRecycle sk (normDecl d) = true) :
    s.defineStep cfg c d = (s.recycleStep sk c (normDecl d) n >>= fun s1 => pure (s1, s1.unconfirmedTreeInputs sk)) := by
  unfold normDecl at hg hc ⊢
  unfold KState.defineStep
  simp only [bind, Except.bind, hg, hf, hd, hc, and_self, if_true]

theorem exec_define_recycle {s : KState} {cfg : KConfig} {c : Key} {d : StepDecl} {sk : Key} {n : Node}
    (hn : normDecl d = d) (hg : s.defineGuard cfg c d = .ok sk) (hf : s.find? sk = some n) (hd : n.detached = true)
    (hc : s.canRecycle sk d = true) :
    s.exec cfg (.define c d) =
      (s.recycleStep sk c d n >>= fun s1 => pure (s1, StepupModel.Proto.hexList (s1.unconfirmedTreeInputs sk))) := by
  simp only [KState.exec]
  rw [defineStep_recycle (by rw [hn]; exact hg) hf hd (by rw [hn]; exact hc), hn]
  cases s.recycleStep sk c d n <;> rfl

/-! ## The step subtree (`RECURSIVE_CHECK_WITH_PRODUCTS`) -/

abbrev stepChild (n : Node) (c : Key) : Prop := n.key.kind = .step ∧ n.creator = some c ∧ n.key ≠ c

def stepExpand (s : KState) (frontier : List Key) : List Key :=
  s.nodes.filterMap fun n => if frontier.any (fun c => decide (stepChild n c)) = true then some n.key else none

theorem mem_stepExpand {s : KState} {fr : List Key} {y : Key} :
    y ∈ stepExpand s fr ↔ ∃ c ∈ fr, ∃ n ∈ s.nodes, n.key = y ∧ stepChild n c := by
  unfold stepExpand
  rw [List.mem_filterMap]
  constructor
  · rintro ⟨n, hn, h⟩
    split at h
    · rename_i ha
      simp only [Option.some.injEq] at h
      obtain ⟨c, hc, hd⟩ := List.any_eq_true.1 ha
      exact ⟨c, hc, n, hn, h, of_decide_eq_true hd⟩
    · cases h
  · rintro ⟨c, hc, n, hn, hk, hch⟩
    refine ⟨n, hn, ?_⟩
    have : (fr.any fun c => decide (stepChild n c)) = true :=
      List.any_eq_true.2 ⟨c, hc, decide_eq_true hch⟩
    rw [if_pos this, hk]

theorem stepSubtree_unfold (s : KState) (k : Key) : s.stepSubtree k =
    match s.find? k with
    | some n =>
      if n.key.kind = Kind.step then KState.stepSubtree.go (stepExpand s) (s.nodes.length + 1) [k] [k] else some []
    | none => some [] := rfl

def StepClosed (s : KState) (ks : List Key) : Prop := ∀ n ∈ s.nodes, ∀ c ∈ ks, stepChild n c → n.key ∈ ks

theorem subtree_loop (s : KState) :
    FuelLoop (fun fuel (x : List Key × List Key) => KState.stepSubtree.go (stepExpand s) fuel x.1 x.2)
      (·.1.isEmpty) (fun x => (stepExpand s x.1, x.2 ++ stepExpand s x.1)) (·.2) :=
  ⟨fun _ => rfl, fun _ _ => rfl⟩

theorem stepSubtree_spec {s : KState} {k : Key} {ks : List Key} {n : Node} (h : s.stepSubtree k = some ks)
    (hf : s.find? k = some n) (hs : k.kind = .step) : k ∈ ks ∧ StepClosed s ks := by
  rw [stepSubtree_unfold, hf] at h
  simp only at h
  rw [if_pos (by rw [find_key hf]; exact hs)] at h
  have hw := (subtree_loop s).frontier (Rel := fun c x => ∃ n ∈ s.nodes, n.key = x ∧ stepChild n c)
    (fun _ _ => mem_stepExpand) h
  exact ⟨(hw k).2 (.seed List.mem_cons_self), fun n hn c hc hch => (hw _).2 (.next ((hw c).1 hc) ⟨n, hn, rfl, hch⟩)⟩

theorem stepSubtree_not_step {s : KState} {k : Key} (hs : k.kind ≠ .step) : s.stepSubtree k = some [] := by
  rw [stepSubtree_unfold]
  cases hf : s.find? k with
  | none => rfl
  | some n =>
    simp only
    rw [if_neg (by rw [find_key hf]; exact hs)]

theorem flagChecksWithProducts_flags {s s' : KState} {k : Key} (h : s.flagChecksWithProducts k = .ok s') :
    ∃ ks, s.stepSubtree k = some ks ∧ ∀ n' ∈ s'.nodes, n'.key ∈ ks → n'.checkSafe = true ∧ n'.checkAfter = true := by
  obtain ⟨ks, hks, rfl⟩ := flagChecksWithProducts_ok h
  refine ⟨ks, hks, fun n' hn' hk' => ?_⟩
  obtain ⟨n, _, rfl⟩ := List.mem_map.1 hn'
  dsimp only at hk' ⊢
  by_cases hc : ks.contains n.key = true
  · rw [if_pos hc]; exact ⟨rfl, rfl⟩
  · rw [if_neg hc] at hk'; exact absurd (List.contains_iff_mem.2 hk') hc

theorem flagChecksWithProducts_self {s s' : KState} {k : Key} (h : s.flagChecksWithProducts k = .ok s')
    (hs : k.kind = .step) : ∀ n ∈ s'.nodes, n.key = k → n.checkSafe = true ∧ n.checkAfter = true := by
  obtain ⟨ks, hks, hfl⟩ := flagChecksWithProducts_flags h
  obtain ⟨_, _, rfl⟩ := flagChecksWithProducts_ok h
  intro n' hn' hk'
  obtain ⟨n, hn, rfl⟩ := List.mem_map.1 hn'
  have hnk : n.key = k := by dsimp only at hk'; split at hk' <;> exact hk'
  cases hf : s.find? k with
  | none => exact absurd hnk (key_ne_of_find?_none hf hn)
  | some m => exact hfl _ hn' (hk' ▸ (stepSubtree_spec hks hf hs).1)

theorem stepSubtree_mapNodes (s : KState) (g : Node → Node) (hk : ∀ n, (g n).key = n.key)
    (hc : ∀ n, (g n).creator = n.creator) (k : Key) :
    ({ s with nodes := s.nodes.map g } : KState).stepSubtree k = s.stepSubtree k := by
  rw [stepSubtree_unfold, stepSubtree_unfold, find?_mapNodes s g hk]
  have he : stepExpand ({ s with nodes := s.nodes.map g } : KState) = stepExpand s := by
    funext fr
    unfold stepExpand
    simp only [List.filterMap_map]
    apply filterMap_congr'
    intro n _
    simp only [Function.comp, stepChild, hk, hc]
  rw [he]
  simp only [List.length_map]
  cases s.find? k with
  | none => rfl
  | some n => simp only [Option.map_some, hk]

theorem stepSubtree_modifyWhere (s : KState) (p : Node → Bool) (f : Node → Node) (hk : ∀ n, (f n).key = n.key)
    (hc : ∀ n, (f n).creator = n.creator) (k : Key) : (s.modifyWhere p f).stepSubtree k = s.stepSubtree k := by
  unfold KState.modifyWhere
  apply stepSubtree_mapNodes
  · intro n; split <;> simp [hk]
  · intro n; split <;> simp [hc]

theorem handOver_nodes (tk : Key) (hs : List Key) (s : KState) :
    s.handOver tk hs = { s with nodes := s.nodes.map fun n => if n.key ∈ hs then { n with creator := some tk } else n } :=
  (List.foldl_hom (fun l => ({ s with nodes := l } : KState))
      (g₁ := fun l k => l.map fun n => if n.key = k then { n with creator := some tk } else n) (fun _ _ => rfl)).trans
    (congrArg (fun l => ({ s with nodes := l } : KState))
      (foldl_map_keys (·.key) (fun n => { n with creator := some tk }) (fun _ => rfl) (fun _ => rfl) hs s.nodes))

theorem declareFile_create {s s' : KState} {cfg : KConfig} {c : Key} {p : String} {st : FileState}
    (h : s.declareFile cfg c p st = .ok s') : s.create (fileKey p) (some c) (.file st) = .ok s' := by
  obtain ⟨s1, _, hc, hv⟩ := declareFile_ok h
  exact volatileSinkCheck_ok hv ▸ hc

theorem mem_fileProducts_iff {s : KState} {k : Key} {f : Node} :
    f ∈ s.fileProducts k ↔ f ∈ s.nodes ∧ f.creator = some k ∧ f.key ≠ k ∧ f.key.kind = .file := by
  unfold KState.fileProducts KState.products
  rw [List.mem_mergeSort]
  simp only [List.mem_filter, decide_eq_true_eq]
  constructor
  · rintro ⟨⟨h1, h2, h3⟩, h4⟩; exact ⟨h1, h2, h3, h4⟩
  · rintro ⟨h1, h2, h3, h4⟩; exact ⟨⟨h1, h2, h3⟩, h4⟩

end StepupModel.K
