import StepupModel.Lemmas.EverOutputBase
import StepupModel.Lemmas.SoftCall
import StepupModel.Lemmas.Norm
import StepupModel.Lemmas.Reach
/-!
# `EverOutput`: a file row is a product only of what some step declared

History-indexed statements over `KState.run` (all requests of `K/Request.lean`, accepted or rejected): `ever_output`,
`undeclared_is_detached` (clause I3 of C09), and what `Props.C06.cleanup_queues_only_declared_outputs` needs.

The proof is the invariant `Inv O All A` of `Lemmas/EverOutputBase.lean` with `A := DeclaredAsProduct h`.  Every
accepted request keeps it (`exec_inv`), provided the paths a `define` or `amend` declares as outputs or volatile
outputs are in `A`; the declaring requests go through `callInv`, an instance of `CallL`
(`Lemmas/WorkflowChain.lean`): the only place where a file row enters a product state is `declareProduct`; every
other operation is a call of the walk (`invW`).  The invariant says that an UNDECLARED file row has no creator; that it
is detached follows from the invariant of the creator links (`detached_of_no_creator`, `creatorOK_reachable`).
-/
namespace StepupModel.K.Ever
open StepupModel.K.MetaAfter StepupModel.K.Discipline

variable {O X : Key → Prop} {A : String → Prop}

def DeclOK (O : Key → Prop) (A : String → Prop) (step : Key) (p : String) (st : FileState) : Prop :=
  IsProduct st → (OwnerKind step → O step) ∧ A p

theorem callInv (O : Key → Prop) (A : String → Prop) : CallL (DeclOK O A) (fun _ _ _ => True) (fun _ _ => True) (Inv O All A) where
  payload := (invW O All A).payload rfl
  setDynamic := (invW O All A).setDynamic rfl
  insertDep := fun a b ha s s' hc hp h => (invW O All A).insertDep a b s s' (by rw [depW_file ha]; rfl) hc hp h
  declareStatic := fun cfg c p _ s s' h hd =>
    createFile_inv h (.inr (.inl rfl)) (fun hp => absurd hp (by decide)) (fun hu => by cases hu) (declareFile_create hd)
  declareProduct := fun cfg step p st hst hD s s' hp h => by
    obtain ⟨s1, h1, h⟩ := bind_ok_inv h
    have hprod : IsProduct st := by rcases hst with rfl | rfl <;> decide
    refine (invW O All A).addSourceChecked_preserves _ _ (depW_of (by decide) _) s1 s' (createFile_inv hp
      (by rcases hst with rfl | rfl <;> simp [NoHashState]) (fun _ => ⟨(hD hprod).2, fun c hc => ?_⟩)
      (fun hu => by rcases hst with rfl | rfl <;> cases hu) (declareFile_create h1)) h
    cases hc; exact (hD hprod).1 (insertDep_ownerKind (addSourceChecked_ok h).2)
  adopt := fun s s' p t _ h hc =>
    createFile_inv h (.inr (.inl rfl)) (fun hp => absurd hp (by decide)) (fun hu => by cases hu) hc
  placeholder := fun p s s' h hc => createFile_inv h (.inl rfl) (fun hp => absurd hp (by decide)) (fun _ => rfl) hc
  createStep := fun label c i _ => (invW O All A).createRow_preserves (by decide) (stepKey label) (some c) (.step i) nofun nofun
  stepExtras := fun _ _ _ s sk d => setStepExtras_inv sk d
  recycleStep := fun label c d n s s' _ hp h =>
    (invW O All A).recycleStep_preserves (by decide) _ c d n s s' rfl (fun _ s3 _ _ => setStepExtras_inv _ d) hp h
  treeCreateHandOver := treeCreateHandOver_of (fun _ h => h.keys)
    (fun p c => (invW O All A).createRow_preserves (by decide) _ _ .tree nofun nofun)
    (fun s tk hs hst h => handOver_inv tk hs h fun k hk n hn hnk => hst k hk n (hnk ▸ find?_of_mem h.keys hn))
  ofTree := fun _ _ _ _ hp => absurd hp (by decide)
  ofUnder := fun _ _ _ _ hp => absurd hp (by decide)

/-- The paths a request declares as outputs or volatile outputs (after `sorted(set(...))`). -/
def ReqDeclares : Req → String → Prop
  | .define _ d, p => p ∈ normPaths d.out ++ normPaths d.vol
  | .amend _ _ _ out vol _, p => p ∈ normPaths out ++ normPaths vol
  | _, _ => False

def ReqAmends : Req → Key → Prop
  | .amend k _ _ _ _ _, x => x = k
  | _, _ => False

/-- `ho` asks `O` of the node of an `amend` only when it is a step or a tree: otherwise the request is rejected. -/
theorem exec_inv (cfg : KConfig) (r : Req) (s : KState) (res : KState × String)
    (hstep : ∀ c, c.kind = .step → O c) (ho : ∀ k, ReqAmends r k → OwnerKind k → O k)
    (hd : ∀ p, ReqDeclares r p → A p) (hp : Inv O All A s) (h : s.exec cfg r = .ok res) : Inv O All A res.1 := by
  have W := invW O All A
  have hdet := W.detach_preserves (by decide)
  refine exec_of_soft_call (G := fun _ _ => True) (callInv O A)
    (fun cfg r hr s res hp h => hp.struct (exec_plainSoft_rel cfg r hr s res hp.keys h).struct)
    (fun cfg c s s' d hp h => W.popNext_preserves (by decide) cfg c s s' d (fun _ _ _ _ _ _ _ _ _ _ _ _ => trivial) hp h)
    (W.updateMeta_preserves (by decide)) (fun k s s' _ => W.resetForRerun_preserves (by decide) k s s')
    (fun cfg k wd => completeFailure_of (W.outdateBuiltProducts_keep rfl (fun s n hp hn => find?_of_mem hp.keys hn) k)
      (W.bumpDefer rfl · k)
      (fun st d hst => by rcases hst with rfl | rfl <;> exact W.setStepState_preserves k _ d rfl nofun)
      (fun s => detachAll_of hdet _ s) (W.deleteHash rfl · k))
    hdet (W.deleteDetached_preserves (by decide)) cfg r s res ?_ (fun _ _ => trivial) hp h
  have hunc : ∀ (c : Key) (p : String), DeclOK O A c p .unconfirmed := fun _ _ hp => absurd hp (by decide)
  cases r with
  | define c d =>
    exact ⟨fun _ _ _ _ _ _ => trivial, trivial, fun label _ =>
      ⟨fun p hpm _ => ⟨fun _ => hstep _ rfl, hd p (List.mem_append_left _ hpm)⟩,
        fun p hpm _ => ⟨fun _ => hstep _ rfl, hd p (List.mem_append_right _ hpm)⟩⟩⟩
  | amend k inp env out vol conc =>
    exact ⟨fun p hpm _ => ⟨ho k rfl, hd p (List.mem_append_left _ hpm)⟩,
      fun p hpm _ => ⟨ho k rfl, hd p (List.mem_append_right _ hpm)⟩⟩
  | static c ps => exact fun p _ => hunc c p
  | declStatic c ts fs ps => exact fun p _ => hunc c p
  | _ => trivial

/-- Some request of `h` that was accepted (`exec` returned `.ok` on the state reached by the requests before it)
declares `path` as an output or a volatile output. -/
def DeclaredAsProduct (h : List (KConfig × Req)) (path : String) : Prop :=
  ∃ pre cfg r post, h = pre ++ (cfg, r) :: post ∧ (∃ res, (KState.init.run pre).exec cfg r = .ok res) ∧
    ReqDeclares r path

theorem run_append (s : KState) (a b : List (KConfig × Req)) : s.run (a ++ b) = (s.run a).run b := by
  unfold KState.run; rw [List.foldl_append]

theorem declaredAsProduct_mono {pre : List (KConfig × Req)} (rest : List (KConfig × Req)) {p : String}
    (h : DeclaredAsProduct pre p) : DeclaredAsProduct (pre ++ rest) p := by
  obtain ⟨a, cfg, r, post, rfl, hok, hd⟩ := h
  exact ⟨a, cfg, r, post ++ rest, by simp, hok, hd⟩

def AmendOK (O : Key → Prop) (h : List (KConfig × Req)) : Prop :=
  ∀ cr ∈ h, ∀ k, ReqAmends cr.2 k → OwnerKind k → O k

theorem init_inv (O : Key → Prop) : Inv O All (fun _ => False) KState.init :=
  ⟨fun _ hn => .of_notFile (List.mem_singleton.1 hn ▸ nofun), init_keysNodup⟩

/-- Along the prefixes of the history: what has been declared so far. -/
theorem reachable_invO {O : Key → Prop} (h : List (KConfig × Req)) (hstep : ∀ c, c.kind = .step → O c)
    (ho : AmendOK O h) : Inv O All (DeclaredAsProduct h) (KState.init.run h) := by
  suffices ∀ rest pre, h = pre ++ rest → Inv O All (DeclaredAsProduct pre) (KState.init.run pre) →
      Inv O All (DeclaredAsProduct h) (KState.init.run h) from
    this h [] rfl ((init_inv O).mono (fun _ _ hx => hx) fun _ hf => hf.elim)
  intro rest
  induction rest with
  | nil => intro pre e hp; rw [e, List.append_nil]; exact hp
  | cons cr rest ih =>
    intro pre e hp
    refine ih (pre ++ [cr]) (by rw [e, List.append_assoc]; rfl) ?_
    rw [run_append]
    have hp' := hp.mono (B := DeclaredAsProduct (pre ++ [cr])) (fun _ _ hx => hx) fun _ => declaredAsProduct_mono [cr]
    exact step_of_exec (cfg := cr.1) (r := cr.2) hp' fun res hx =>
      exec_inv cr.1 cr.2 _ res hstep (ho cr (e ▸ List.mem_append_right _ List.mem_cons_self))
        (fun p hd => ⟨pre, cr.1, cr.2, [], rfl, ⟨res, hx⟩, hd⟩) hp' hx

theorem reachable_inv (h : List (KConfig × Req)) : Inv OwnerKind All (DeclaredAsProduct h) (KState.init.run h) :=
  reachable_invO h (fun _ hc => .inl hc) (fun _ _ _ _ hk => hk)

/-- Every `amend` request of the history is addressed to something that is not a static tree (the
director only ever amends the step that is running: `DirectorHandler.amend` looks the node up as a `Step`). -/
def AmendsSteps (h : List (KConfig × Req)) : Prop := ∀ cr ∈ h, ∀ k, ReqAmends cr.2 k → k.kind ≠ .st

theorem reachable_inv_steps (h : List (KConfig × Req)) (ha : AmendsSteps h) :
    Inv (fun c => c.kind = .step) All (DeclaredAsProduct h) (KState.init.run h) := by
  refine reachable_invO h (fun _ hc => hc) ?_
  intro cr hcr k hk hown
  rcases hown with hs | hs
  · exact hs
  · exact absurd hs (ha cr hcr k hk)

theorem detached_of_no_creator {s : KState} (hC : CreatorOK s) {n : Node} (hn : n ∈ s.nodes) (hk : n.key.kind = .file)
    (hc : n.creator = none) : n.detached = true := by
  cases hd : n.detached with
  | true => rfl
  | false =>
    obtain ⟨c, _, hcc, _⟩ := hC.file_creator hn hk hd
    rw [hc] at hcc; cases hcc

theorem owned_of_inv {s : KState} (hI : Inv O All A s) (hC : CreatorOK s) :
    ∀ n ∈ s.nodes, n.key.kind = .file → IsProduct n.fstate →
      (∃ c, n.creator = some c ∧ O c) ∨ (n.creator = none ∧ n.detached = true) := by
  intro n hn hk hp
  cases hc : n.creator with
  | some c => exact .inl ⟨c, rfl, hI.own n hn hk trivial hp c hc⟩
  | none => exact .inr ⟨rfl, detached_of_no_creator hC hn hk hc⟩

/-- The state invariant behind `ever_output`: a file row in a product state is owned by a step (or a static tree: the
schema lets a tree be the creator of a file and the source of an edge into it, and `amend_step` does not
look at the kind of the node it is asked to amend), or it is an orphan: no creator, detached. -/
def ProductOwned (s : KState) : Prop :=
  ∀ n ∈ s.nodes, n.key.kind = .file → IsProduct n.fstate →
    (∃ c, n.creator = some c ∧ (c.kind = .step ∨ c.kind = .st)) ∨ (n.creator = none ∧ n.detached = true)

theorem reachable_productOwned (h : List (KConfig × Req)) : ProductOwned (KState.init.run h) :=
  fun n hn hk hp => owned_of_inv (reachable_inv h) (creatorOK_reachable h) n hn hk hp

def ProductOwnedByStep (s : KState) : Prop :=
  ∀ n ∈ s.nodes, n.key.kind = .file → IsProduct n.fstate →
    (∃ c, n.creator = some c ∧ c.kind = .step) ∨ (n.creator = none ∧ n.detached = true)

/-- `ProductOwnedByStep` after every history that amends steps only (`AmendsSteps`): partial, because without the
hypothesis the model accepts `define root plan; tree plan t; amend st:t/ out=[x]` and ends with the PLANNED
row `x` created by the tree `t/` (`#eval`; the protocol of the harness cannot even express that request, its
`amend` resolves the node with `find(Step, label)`). -/
theorem reachable_productOwnedByStep_partial (h : List (KConfig × Req)) (ha : AmendsSteps h) :
    ProductOwnedByStep (KState.init.run h) :=
  fun n hn hk hp => owned_of_inv (reachable_inv_steps h ha) (creatorOK_reachable h) n hn hk hp

/-- `EverOutput`: after every history `h`, a file row is in a product state (PLANNED, BUILT, OUTDATED, VOLATILE) only
if its path was declared as an output or a volatile output by an accepted `define` or `amend` request of `h`. -/
theorem ever_output (h : List (KConfig × Req)) :
    ∀ n ∈ (KState.init.run h).nodes, n.key.kind = .file →
      (n.fstate.role? = some .output ∨ n.fstate.role? = some .volatile) → DeclaredAsProduct h n.key.label :=
  fun n hn hk hp => (reachable_inv h).prod n hn hk hp

theorem undeclared_has_no_creator (h : List (KConfig × Req)) :
    ∀ n ∈ (KState.init.run h).nodes, n.key.kind = .file → n.fstate = .undeclared → n.creator = none :=
  fun n hn hk hu => (reachable_inv h).und n hn hk trivial hu

/-- Clause I3 of C09, a file without any declaration is detached: it has no creator, and an attached node has
one. -/
theorem undeclared_is_detached (h : List (KConfig × Req)) :
    ∀ n ∈ (KState.init.run h).nodes, n.key.kind = .file → n.fstate = .undeclared → n.detached = true :=
  fun n hn hk hu => detached_of_no_creator (creatorOK_reachable h) hn hk (undeclared_has_no_creator h n hn hk hu)

theorem isProduct_of_queued {st : FileState} (h : st = .volatile ∨ st = .built ∨ st = .outdated) : IsProduct st := by
  rcases h with rfl | rfl | rfl <;> decide

theorem revertEntry_declared (h : List (KConfig × Req)) (n : Node) (e : String × Option Nat)
    (hn : n ∈ (KState.init.run h).nodes) (he : RevertEntryOf n e) : DeclaredAsProduct h e.1 :=
  he.2.1 ▸ ever_output h n hn he.1 (isProduct_of_queued he.2.2.1)

/-- What `before_delete` queues (`FileEntryOf`, i.e. `OutputEntryOf` of `Props/C06.lean`) for a row of the
state between the two halves of the cleanup pass was declared as a product. -/
theorem fileEntry_declared (h : List (KConfig × Req)) (s1 : KState) (hr : (KState.init.run h).revertOptional = .ok s1)
    (n : Node) (e : String × Option Nat) (hn : n ∈ s1.nodes) (he : FileEntryOf n.core e) : DeclaredAsProduct h e.1 :=
  he.2.1 ▸ ((invW _ _ _).revertOptional_preserves (by decide) _ s1 (reachable_inv h) hr).prod n hn he.1
    (isProduct_of_queued he.2.2.1)

/-- `sorted(set(...))` keeps the elements. -/
theorem reqDeclares_define (c : Key) (d : StepDecl) (p : String) :
    ReqDeclares (.define c d) p ↔ p ∈ d.out ∨ p ∈ d.vol := by
  show p ∈ normPaths d.out ++ normPaths d.vol ↔ _
  rw [List.mem_append, mem_normPaths, mem_normPaths]

theorem reqDeclares_amend (k : Key) (inp env out vol : List String) (conc : List Key) (p : String) :
    ReqDeclares (.amend k inp env out vol conc) p ↔ p ∈ out ∨ p ∈ vol := by
  show p ∈ normPaths out ++ normPaths vol ↔ _
  rw [List.mem_append, mem_normPaths, mem_normPaths]

/-! Non-vacuity -/

def exampleState : KState :=
  { nodes := [
      { key := rootKey, creator := some rootKey },
      { key := stepKey "s", creator := some rootKey },
      { key := fileKey "o", creator := some (stepKey "s"), fstate := .planned },
      { key := fileKey "v", creator := none, detached := true, fstate := .volatile },
      { key := fileKey "i", creator := none, detached := true, fstate := .undeclared }],
    deps := [{ src := stepKey "s", snk := fileKey "o" }] }

/-- The invariant is satisfiable by a state with product rows, for a proper set of labels. -/
example : Inv (fun c => c.kind = .step) All (fun p => p = "o" ∨ p = "v") exampleState := by
  refine ⟨fun n hn hk => ?_, (keysNodup_iff _).2 (by decide)⟩
  simp only [exampleState, List.mem_cons, List.not_mem_nil, or_false] at hn
  rcases hn with rfl | rfl | rfl | rfl | rfl
  · cases hk
  · cases hk
  · exact ⟨fun _ => .inl rfl, fun _ => ⟨fun _ c hc => Option.some.inj hc ▸ rfl, nofun⟩⟩
  · exact ⟨fun _ => .inr rfl, fun _ => ⟨nofun, nofun⟩⟩
  · exact ⟨fun hp => absurd hp (by decide), fun _ => ⟨fun hp => absurd hp (by decide), fun _ => rfl⟩⟩

/-- ... and it is not trivially true: a product row whose label is not allowed breaks it. -/
example : ¬ Inv OwnerKind All (fun p => p = "v") exampleState := by
  intro h
  have := h.prod { key := fileKey "o", creator := some (stepKey "s"), fstate := .planned }
    (by simp [exampleState]) rfl (.inl rfl)
  exact absurd this (by decide)

/-- The hypotheses of the cleanup corollary are satisfiable. -/
example : ∃ s1 s2, (KState.init.run []).revertOptional = .ok s1 ∧ s1.deleteDetached = .ok s2 := ⟨_, _, rfl, rfl⟩

/-- `DeclaredAsProduct` is not trivially true ... -/
example : ¬ DeclaredAsProduct [] "o" := by
  rintro ⟨pre, cfg, r, post, he, _⟩
  cases pre <;> cases he

example : ¬ DeclaredAsProduct [({}, .clearQueue), ({}, .static rootKey ["o"])] "o" := by
  rintro ⟨pre, cfg, r, post, he, _, hd⟩
  have hm : (cfg, r) ∈ [(({} : KConfig), Req.clearQueue), ({}, .static rootKey ["o"])] :=
    he ▸ List.mem_append_right _ List.mem_cons_self
  rcases List.mem_cons.1 hm with e | hm
  · rw [(Prod.mk.inj e).2] at hd; exact hd
  · rw [(Prod.mk.inj (List.mem_singleton.1 hm)).2] at hd; exact hd

/-- ... nor trivially false: an accepted `define` with the output `o` declares `o` (`hacc`: that the request
is accepted on the empty workflow needs `Step.adjust_label`, `str.endswith`, `str.startswith`, which the kernel
cannot evaluate; `#eval` gives the rows `root`, `step:c`, `file:o` PLANNED). -/
example (hacc : ∃ res, KState.init.exec {} (.define rootKey { cmd := "c", out := ["o"] }) = .ok res) :
    DeclaredAsProduct [({}, .define rootKey { cmd := "c", out := ["o"] })] "o" :=
  ⟨[], {}, _, [], rfl, hacc, by
    show "o" ∈ normPaths ["o"] ++ normPaths []
    have : normPaths ["o"] = ["o"] := by simp [normPaths, sortStrs, dedupSorted]
    rw [this]; exact List.mem_append_left _ List.mem_cons_self⟩

end StepupModel.K.Ever
