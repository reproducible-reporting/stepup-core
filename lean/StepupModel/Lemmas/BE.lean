import StepupModel.P.Rpc
/-! Big-endian numbers of `k` bytes (`int.to_bytes`/`int.from_bytes`): decoding inverts encoding below `256 ^ k`.
`be` and `fromBE` are those of `P/Rpc.lean`, hence the namespace; the 8-byte encoder `P.Hash.be8`, written out digit by
digit, is `be 8` (`be8_eq_be` in `Hash.lean`). -/
namespace StepupModel.P.Rpc

theorem be_length (k n : Nat) : (be k n).length = k := by
  induction k generalizing n with
  | zero => simp [be]
  | succ k ih => simp [be, ih]

theorem fromBE_snoc (l : Bytes) (b : Nat) : fromBE (l ++ [b]) = fromBE l * 256 + b := by
  simp [fromBE, List.foldl_append]

theorem fromBE_be (k n : Nat) (h : n < 256 ^ k) : fromBE (be k n) = n := by
  induction k generalizing n with
  | zero => simp at h; subst h; rfl
  | succ k ih =>
    have h' : n / 256 < 256 ^ k := by
      apply Nat.div_lt_of_lt_mul; rw [Nat.pow_succ] at h; omega
    rw [be, fromBE_snoc, ih _ h']; omega

theorem be_inj {k n m : Nat} (hn : n < 256 ^ k) (hm : m < 256 ^ k) (h : be k n = be k m) : n = m := by
  rw [← fromBE_be k n hn, h, fromBE_be k m hm]

end StepupModel.P.Rpc
