import StepupModel.Lemmas.StableW
/-!
# Predicates that survive row-wise rewrites of the node table

The flag disciplines of `_update_meta_after` (`Lemmas/Discipline*.lean`) and of `_update_meta_safe`
(`Lemmas/SafeDiscipline*.lean`) are about cache columns, so neither survives the `cache` kind of write of
`Lemmas/StableW.lean` (any rewrite of them).  Both survive a rewrite of the node table that relates every row
to its successor by a suitable relation `R`.  `SoftLeaves R Q` asks that of a state predicate `Q`, and asks `R`
to hold of the two state writes (a file within its role: static, output or volatile) and of the rewrites of
columns that neither discipline reads, flags being raised at most (`SoftQuiet`).  Such a `Q` survives the kinds
of write `softA` (`SoftLeaves.toW`): every operation of the walk that touches neither the dependency table nor
a `creator`, `detached` or `_holding` column, and writes a file only within its role, preserves `Q`.
-/
namespace StepupModel.K
open StepupModel.Generated

/-- The columns that the two flag disciplines read, the flags themselves apart. -/
def Node.soft (n : Node) : Key × Option Key × Bool × FileState × StepState × Nat × Need × Need × Nat × Bool × Bool :=
  (n.key, n.creator, n.detached, n.fstate, n.sstate, n.holding, n.need, n.impliedNeed, n.tail, n.safe, n.safeNH)

def SoftQuiet (n n' : Node) : Prop :=
  n'.soft = n.soft ∧ (n.checkAfter = true → n'.checkAfter = true) ∧ (n.checkSafe = true → n'.checkSafe = true)

theorem RaisesFlags.quiet {f : Node → Node} (h : RaisesFlags f) (n : Node) : SoftQuiet n (f n) := by
  obtain ⟨sf, a, e⟩ := h n
  rw [e]
  exact ⟨rfl, fun h => h ▸ Bool.or_true a, fun h => h ▸ Bool.or_true sf⟩

theorem softQuiet_of_erase {e f : Node → Node} (hf : Keeps e f)
    (he : Keeps (fun n => (n.soft, n.checkAfter, n.checkSafe)) e) (n : Node) : SoftQuiet n (f n) :=
  have h := Keeps.of_erase he hf n
  ⟨congrArg (·.1) h, fun a => (congrArg (·.2.1) h).trans a, fun a => (congrArg (·.2.2) h).trans a⟩

structure SoftLeaves (R : Node → Node → Prop) (Q : KState → Prop) : Prop where
  map : MapStable R Q
  /-- the memory-only deletion queue is free -/
  queue : ∀ (s : KState) (q : List (String × Option Nat)), Q s → Q { s with toBeDeleted := q }
  /-- one row per key -/
  found : ∀ (s : KState) (n : Node), Q s → n ∈ s.nodes → s.find? n.key = some n
  refl : ∀ n, R n n
  quiet : ∀ n n', SoftQuiet n n' → R n n'
  fileWrite : ∀ (n n' : Node) (st : FileState) (nh : Option (Option Nat)), st.role? = n.fstate.role? →
    fileRowWrite n st nh = .ok n' → R n n'
  stepWrite : ∀ (n n' : Node) (st : StepState) (d : Option Bool), stepRowWrite n st d = .ok n' → R n n'

namespace SoftLeaves
variable {R : Node → Node → Prop} {Q : KState → Prop}

theorem modify (L : SoftLeaves R Q) (s : KState) (k : Key) (f : Node → Node) (hf : ∀ n, R n (f n)) (hp : Q s) :
    Q (s.modify k f) := L.map.modify L.refl s k f (fun n _ _ => hf n) hp

/-- The row found under `k` is the only one with that key. -/
theorem replace (L : SoftLeaves R Q) (s : KState) (k : Key) {n n' : Node} (hf : s.find? k = some n) (hr : R n n')
    (hp : Q s) : Q (s.modify k fun _ => n') :=
  L.map.modify L.refl s k _ (fun m hm hk => Option.some.inj ((L.found s m hp hm).symm.trans (hk ▸ hf)) ▸ hr) hp

theorem quietWhere (L : SoftLeaves R Q) (s : KState) (p : Node → Bool) (f : Node → Node) (hf : ∀ n, SoftQuiet n (f n))
    (hp : Q s) : Q (s.modifyWhere p f) := L.map.modifyWhere L.refl s p f (fun n _ _ => L.quiet _ _ (hf n)) hp

theorem quietAt (L : SoftLeaves R Q) (s : KState) (k : Key) (f : Node → Node) (hf : ∀ n, SoftQuiet n (f n)) (hp : Q s) :
    Q (s.modify k f) := L.modify s k f (fun n => L.quiet _ _ (hf n)) hp

theorem flagReadySinks (L : SoftLeaves R Q) (s : KState) (k : Key) (hp : Q s) : Q (s.flagReadySinks k) :=
  L.quietWhere s _ _ (fun _ => ⟨rfl, id, id⟩) hp

theorem flagDepEndpoints (L : SoftLeaves R Q) (s : KState) (a b : Key) (hp : Q s) : Q (s.flagDepEndpoints a b) :=
  L.quietWhere s _ _ (fun _ => ⟨rfl, fun _ => rfl, id⟩) hp

theorem setHash (L : SoftLeaves R Q) (s : KState) (k : Key) (h : Nat) (hp : Q s) : Q (s.setHash k h) :=
  L.quietAt s k _ (fun _ => ⟨rfl, id, id⟩) hp

theorem deleteHash (L : SoftLeaves R Q) (s : KState) (k : Key) (hp : Q s) : Q (s.deleteHash k) :=
  L.quietAt s k _ (fun n => ite_both (SoftQuiet n) ⟨rfl, id, id⟩ ⟨rfl, id, id⟩) hp

theorem writeFile_of (L : SoftLeaves R Q) {k : Key} {st : FileState} {nh : Option (Option Nat)} {s s' : KState}
    (hr : ∀ n n', s.find? k = some n → fileRowWrite n st nh = .ok n' → R n n') (hp : Q s)
    (h : s.writeFile k st nh = .ok s') : Q s' := by
  rcases writeFile_ok h with ⟨_, rfl⟩ | ⟨n, n', hf, hw, rfl⟩
  · exact hp
  · have hmod := L.replace s k hf (hr n n' hf hw) hp
    exact ite_both Q (L.flagReadySinks _ _ hmod) hmod

theorem writeFile_preserves (L : SoftLeaves R Q) (k : Key) (st : FileState) (nh : Option (Option Nat)) (s s' : KState)
    (hp : Q s) (hv : ∀ n, s.find? k = some n → st.role? = n.fstate.role?) (h : s.writeFile k st nh = .ok s') : Q s' :=
  L.writeFile_of (fun n n' hf hw => L.fileWrite n n' st nh (hv n hf) hw) hp h

theorem writeStepState_preserves (L : SoftLeaves R Q) (k : Key) (st : StepState) (d : Option Bool) :
    Preserves Q (fun s => s.writeStepState k st d) := by
  intro s s' hp h
  rcases writeStepState_ok h with ⟨_, rfl⟩ | ⟨n, n', hf, hw, rfl⟩
  · exact hp
  · exact L.replace s k hf (L.stepWrite n n' st d hw) hp

end SoftLeaves

/-- The kinds of write that a `SoftLeaves` predicate survives. -/
def softA : WClass → Bool
  | .flags | .payload | .keepRole | .outdate | .stepWrite | .stepSucceed | .stepRun | .setHash | .deleteHash | .bumpDefer
  | .queueDelete | .clearQueue | .metaReady => true
  | _ => false

namespace SoftLeaves
variable {R : Node → Node → Prop} {Q : KState → Prop}

theorem toW (L : SoftLeaves R Q) : StableW softA (fun _ _ => True) (fun _ _ => True) Q where
  flags _ s p f hf hp := L.quietWhere s p f hf.quiet hp
  payload _ s p f hf hp := L.quietWhere s p f (softQuiet_of_erase hf fun _ => rfl) hp
  cache := absent
  writeFile := absent
  keepRole _ k st nh s s' hp hr h := L.writeFile_preserves k st nh s s' hp hr h
  outdate _ s s' _ f _ _ hb _ hp h := L.writeFile_preserves f .outdated none s s' hp (roleKept_of_fstate hb rfl) h
  stepWrite s k n n' st d _ _ hf hw hp := L.replace s k hf (L.stepWrite n n' st d hw) hp
  stepInit := absent
  setHash _ := L.setHash
  deleteHash _ := L.deleteHash
  bumpDefer _ s k hp := L.quietAt s k _ (fun _ => ⟨rfl, id, id⟩) hp
  hold := absent
  release := absent
  recycled := absent
  insertDep _ _ _ _ h := absurd h (ite_ind (fun w => ¬ softA w = true) (fun _ => nofun) fun _ => nofun)
  deleteDeps := absent
  delStepDeps := absent
  setDynamic := absent
  queueDelete _ s _ _ hp := L.queue s _ hp
  clearQueue _ s hp := L.queue s [] hp
  updateMetaReady _ s hp := L.quietWhere s _ _ (fun _ => ⟨rfl, id, id⟩) hp
  setDetachedRow := absent
  creator _ k c _ h := absurd h (creatorW_const (A := softA) rfl rfl rfl k.kind c ▸ nofun)
  handOverRow := absent
  freshFile := absent
  appendNode := absent
  removeNode := absent

end SoftLeaves

namespace Discipline

/-- The requests a new director issues between the change of its targets and `reconcile_targets`
(and every other request whose writes are soft and do not read the target sets). -/
def plainSoftReq : Req → Bool
  | .nglob .. | .hashes .. | .completed _ (some _) _ | .setState .. | .deleteHash .. | .markPending .. | .hold ..
  | .release .. | .revertOptional | .clearQueue | .resetInterrupted | .rescanEnv | .checkConsistency => true
  | _ => false

end Discipline

namespace SoftLeaves

/-- The plain soft requests and `reconcile_targets`, once `Step.hold` and `Step.release` (which write `_holding`)
are known to keep `Q`. -/
theorem exec_plainSoft {R : Node → Node → Prop} {Q : KState → Prop} (L : SoftLeaves R Q) (cfg : KConfig)
    (r : Req) (hr : Discipline.plainSoftReq r = true ∨ r = .reconcile)
    (hhold : ∀ k, Preserves Q (fun s => s.hold k)) (hrelease : ∀ k, Preserves Q (fun s => s.release k))
    (s : KState) (res : KState × String) (hp : Q s) (h : s.exec cfg r = .ok res) : Q res.1 := by
  have W := L.toW
  cases r with
  | nglob k p ms => exact W.registerNglob_preserves rfl k p ms s _ hp (unitOut_ok h)
  | hashes u c => exact W.updateFileHashes_preserves (by decide) u c s _ hp (unitOut_ok h)
  | completed k nh wd =>
    obtain ⟨a, ha, e⟩ := pairOut_ok h
    rcases markCompleted_ok (s' := a.1) (b := a.2) ha with ⟨rfl, _⟩ | ⟨hh, rfl, hc⟩
    · rcases hr with hr | hr <;> cases hr
    · exact e ▸ W.completeSuccess_preserves (by decide) cfg k hh s a.1 hp hc
  | setState k stt =>
    exact W.writeStepState_run k stt (some false) s _ (stepW_of (by decide) stt) (fun _ => trivial) hp (unitOut_ok h)
  | deleteHash k => exact Except.ok.inj (unitOut_ok h) ▸ L.deleteHash s k hp
  | markPending k => exact W.markStepPending'_preserves (by decide) k s _ hp (unitOut_ok h)
  | hold k => exact hhold k s _ hp (unitOut_ok h)
  | release k => exact hrelease k s _ hp (unitOut_ok h)
  | revertOptional => exact W.revertOptional_preserves (by decide) s _ hp (unitOut_ok h)
  | clearQueue => exact Except.ok.inj (unitOut_ok h) ▸ L.queue s [] hp
  | resetInterrupted => exact W.resetInterrupted_preserves (by decide) s _ hp (unitOut_ok h)
  | rescanEnv => exact W.rescanEnvVars_preserves (by decide) cfg s _ hp (unitOut_ok h)
  | reconcile => exact W.reconcileTargets_preserves rfl cfg s _ hp (unitOut_ok h)
  | checkConsistency => exact W.checkConsistency_preserves (by decide) s _ hp (unitOut_ok h)
  | _ => rcases hr with hr | hr <;> cases hr

end SoftLeaves

end StepupModel.K
