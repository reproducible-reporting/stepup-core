import StepupModel.Lemmas.DisciplineStruct
import StepupModel.Lemmas.DisciplineDebt
import StepupModel.Lemmas.ReachDesc
/-!
# The flag discipline: `Node.detach`, `reset_for_rerun`, the failure branch of `mark_completed`

`Step.detach` flips `detached` on the node and its recursive products, then flags the step subtree
(`_flag_checks_with_products`) and the attached steps two hops upstream of it
(`RECURSIVE_CHECK_AFTER_SOURCES`).  With the debt calculus of `Lemmas/DisciplineDebt.lean` the flips
owe `DueRows` of the flipped keys, and the two flagging passes pay it (`detach_wd`) provided the step subtree
*covers* the flipped keys (`Covers`).  Under `Struct` (`Lemmas/DisciplineStruct.lean`) it does (`covers_of_struct`),
except for the raw detach of an output file that still has the edge from its producer (`FileDetachOK`).

`RInv` is the working invariant of the composite operations built from `detach`: `Step.reset_for_rerun`,
`Step._detach_created_steps`, `mark_completed(None, ...)`.
-/
namespace StepupModel.K.Discipline
open StepupModel.K.MetaAfter StepupModel.K.Sk

/-- The keys whose rows `Node.detach` rewrites before it flags: `k` (creator cut, `detached` set) and, when `k` was
attached, its recursive products (`detached` set). -/
def detachFlips (s : KState) (k : Key) (n : Node) : List Key :=
  if n.creator.isSome then
    k :: (if !n.detached then
      (match s.setCreator k none true with
       | .ok sc => sc.descendants k
       | .error _ => [])
      else [])
  else []

theorem out_setDetachedRec (X : Key → Prop) (s : KState) (k : Key) (d : Bool) (hX : ∀ x ∈ s.descendants k, X x) :
    Outside X SoftRow s (s.setDetachedRec k d) ∧ (s.setDetachedRec k d).deps = s.deps :=
  setDetachedRec_ind (C := fun t => Outside X SoftRow s t ∧ t.deps = s.deps) s k d ⟨.refl SoftRow.refl s, rfl⟩
    fun t x hx ht => ⟨ht.1.strans (out_setDetachedRow X t x d (hX x hx)), (deps_setDetachedRow t x d).trans ht.2⟩

theorem out_detachCore {s s1 : KState} {k : Key} {n : Node} (h : s.detachCore k n = .ok s1) :
    Outside (· ∈ detachFlips s k n) SoftRow s s1 ∧ s1.deps = s.deps := by
  unfold detachFlips
  rcases detachCore_ok h with ⟨_, rfl⟩ | ⟨hcr, sc, hsc, rfl⟩
  · exact ⟨.refl SoftRow.refl _, rfl⟩
  · rw [if_pos hcr, hsc]
    obtain ⟨r1, d1, _⟩ := out_setCreator (X := (· ∈ k :: if (!n.detached) = true then sc.descendants k else []))
      List.mem_cons_self hsc
    split
    · rename_i hdet
      simp only [hdet, if_true] at r1 ⊢
      obtain ⟨r2, d2⟩ := out_setDetachedRec (· ∈ k :: sc.descendants k) sc k true fun x hx => List.mem_cons_of_mem _ hx
      exact ⟨r1.strans r2, d2.trans d1⟩
    · rename_i hdet
      simp only [hdet] at r1
      exact ⟨r1, d1⟩

/-- What the first two parts of `DueRows` of the flipped keys `L` ask of the flagged subtree `ks`: the flipped steps
are in it, and so is every step with an edge into a flipped file.  The third part, two hops upstream of a flipped
step, is then paid by the second pass. -/
def Covers (deps : List Dep) (ks L : List Key) : Prop :=
  (∀ x ∈ L, x.kind = .step → x ∈ ks) ∧
  (∀ x ∈ L, x.kind = .file → ∀ P, P.kind = .step → Edge deps P x → P ∈ ks)

theorem flagCheckAfterSources_flags {s s' : KState} {k : Key} (h : s.flagCheckAfterSources k = .ok s') :
    ∃ ks, s.stepSubtree k = some ks ∧ ∀ n' ∈ s'.nodes, n'.key.kind = .step → n'.detached = false →
      (∃ x ∈ ks, ∃ f, Edge s.deps n'.key f ∧ Edge s.deps f x) → n'.checkAfter = true := by
  obtain ⟨ks, hks, rfl⟩ := flagCheckAfterSources_ok h
  refine ⟨ks, hks, fun n' hn' hs hd ⟨x, hx, f, he1, he2⟩ => ?_⟩
  obtain ⟨n, _, hk, hdet, _, hsel⟩ := flagPass_rows hn' (fun _ => rfl) (fun _ => rfl) (fun _ => rfl)
  apply hsel
  have hsrc : ((ks.flatMap s.sourcesOf).flatMap s.sourcesOf).contains n.key = true := by
    rw [List.contains_iff_mem, List.mem_flatMap]
    exact ⟨f, List.mem_flatMap.2 ⟨x, hx, KState.mem_sourcesOf.2 he2⟩, KState.mem_sourcesOf.2 (hk ▸ he1)⟩
  simp only [show n.key.kind = .step from hk ▸ hs, show n.detached = false from hdet ▸ hd, hsrc, Bool.not_false,
    and_self, decide_true]

theorem detachFlags_flags {s1 s' : KState} {k : Key} (h : s1.detachFlags k = .ok s') :
    SoftRel s1 s' ∧ ∃ ks, s1.stepSubtree k = some ks ∧ ∀ n' ∈ s'.nodes, n'.key.kind = .step → n'.detached = false →
      (n'.key ∈ ks ∨ ∃ x ∈ ks, ∃ f, Edge s1.deps n'.key f ∧ Edge s1.deps f x) → n'.checkAfter = true := by
  rcases detachFlags_ok h with ⟨hs, rfl⟩ | ⟨hs, s2, h2, h3⟩
  · refine ⟨.refl _, [], stepSubtree_not_step hs, fun _ _ _ _ h => ?_⟩
    rcases h with h | ⟨_, h, _⟩ <;> cases h
  · obtain ⟨ks, hks, hfl2⟩ := flagChecksWithProducts_flags h2
    obtain ⟨ks', hks', hfl3⟩ := flagCheckAfterSources_flags h3
    have r2 := flagChecksWithProducts_rel h2
    have r3 := flagCheckAfterSources_rel h3
    obtain ⟨_, _, hs2⟩ := flagChecksWithProducts_ok h2
    rw [hs2, stepSubtree_modifyWhere s1 _ (fun n => { n with checkSafe := true, checkAfter := true }) (fun _ => rfl)
      (fun _ => rfl) k] at hks'
    cases hks.symm.trans hks'
    refine ⟨r2.trans r3, ks, hks, fun n' hn' hs hd hx => ?_⟩
    rcases hx with hx | ⟨x, hx, f, e1, e2⟩
    · obtain ⟨m, hm, hr⟩ := all₂_mem_right r3.rows n' hn'
      exact hr.2.2.2.1 (hfl2 m hm (hr.1 ▸ hx)).2
    · exact hfl3 n' hn' hs hd ⟨x, hx, f, r2.deps ▸ e1, r2.deps ▸ e2⟩

theorem detach_wd {F : Key → Prop} {s s' : KState} {cfg : KConfig} {k : Key} (h : s.detach k = .ok s')
    (hc : WD F s cfg)
    (hcov : ∀ n s1 ks, s.find? k = some n → s.detachCore k n = .ok s1 → s1.stepSubtree k = some ks →
      Covers s.deps ks (detachFlips s k n)) : WD F s' cfg := by
  obtain ⟨n, s1, hf, h1, h⟩ := detach_ok h
  obtain ⟨hr1, hd1⟩ := out_detachCore h1
  obtain ⟨hsoft, ks, hks, hfl⟩ := detachFlags_flags h
  obtain ⟨hsteps, hfiles⟩ := hcov n s1 ks hf h1 hks
  refine wd_pay (X := (· ∈ detachFlips s k n)) (Gone := NoEdge) (New := NoEdge)
    ((Delta.ofRows (fun _ _ => by rw [hd1]) hr1.after).trans (.of_soft hsoft)) hc ?_
  rintro n' hn' hs hd ((hx | ⟨x, hx, hxf, he⟩ | ⟨x, hx, ⟨m, hm, hms, _⟩, f, he1, he2⟩) | hg | hn)
  · exact .inl (hfl n' hn' hs hd (.inl (hsteps _ hx hs)))
  · exact .inl (hfl n' hn' hs hd (.inl (hfiles x hx hxf _ hs he)))
  · exact .inl (hfl n' hn' hs hd (.inr ⟨x, hsteps x hx (find_key hm ▸ hms), f, hd1 ▸ he1, hd1 ▸ he2⟩))
  · exact absurd hg not_dueGone_noEdge
  · exact absurd hn not_dueNew_noEdge

/-- What a directly detached file must satisfy: its creator, when a step, has no edge into it any
more (`reset_for_rerun` deletes the edge of an amended output before it detaches the file).  Otherwise the creator
loses a regular output and nothing flags it: the flag passes of `detach` run for a step only (`cxState` of
`Lemmas/Discipline.lean` is the witness). -/
def FileDetachOK (s : KState) (k : Key) : Prop :=
  k.kind = .file → ∀ n c, s.find? k = some n → n.creator = some c → c.kind = .step → ¬ Edge s.deps c k

theorem skel_of_soft {s s' : KState} (h : SoftRel s s') : s'.skel = s.skel := by
  unfold KState.skel
  have : ∀ {l l' : List Node}, All₂ SoftRow l l' → l'.map Node.tri = l.map Node.tri := by
    intro l l' hr
    induction hr with
    | nil => rfl
    | cons h t ih =>
      simp only [List.map_cons, ih]
      congr 1
      unfold Node.tri
      rw [h.1, h.2.1, h.2.2.1.1]
  exact this h.rows

theorem skNodup_of_keys {s : KState} (h : KeysUnique s) : Sk.Nodup s.skel := by
  unfold Sk.Nodup KState.skel
  rw [List.map_map]
  exact h

/-- The row of `x` is one of `s`, where the creator of a step is a step or the root (`Struct.kinds`); the root is
its own creator (`Struct.root`), so no product chain from `k` passes through it. -/
theorem creator_step_setRow {s : KState} {k x c : Key} {newc : Option Key} {d d' : Bool} (hS : Struct s)
    (hkroot : k ≠ rootKey) (hm : (x, some c, d') ∈ setRow k newc d s.skel) (hxk : x ≠ k) (hxs : x.kind = .step)
    (hc : c = k ∨ Desc (setRow k newc d s.skel) k c) : c.kind = .step := by
  obtain ⟨m, hm', he⟩ := mem_skel.1 (mem_setRow_ne hm hxk)
  rcases hS.kinds m hm' ((congrArg (·.1) he : m.key = x) ▸ hxs) c (congrArg (·.2.1) he) with h | h
  · exact h
  · exfalso
    subst h
    rcases hc with hc | hc
    · exact hkroot hc.symm
    · obtain ⟨c', d'', hrow, hne', _⟩ := hc.row
      obtain ⟨r, hr, hre⟩ := mem_skel.1 (mem_setRow_ne hrow (fun e => hkroot e.symm))
      have hrc : r.creator = some c' := congrArg (·.2.1) hre
      rw [hS.root r hr (congrArg (·.1) hre)] at hrc
      exact hne' (Option.some.inj hrc)

theorem desc_step_kind {s : KState} {k : Key} {newc : Option Key} {d : Bool} (hS : Struct s) (hkroot : k ≠ rootKey) :
    ∀ x, Desc (setRow k newc d s.skel) k x → x.kind = .step → k.kind = .step := by
  intro x hx
  induction hx with
  | direct x d' hm hne => exact fun hxs => creator_step_setRow hS hkroot hm hne hxs (.inl rfl)
  | trans x c d' hm hc hne ih =>
    intro hxs
    by_cases hxk : x = k
    · exact hxk ▸ hxs
    · exact ih (creator_step_setRow hS hkroot hm hxk hxs (.inr hc))

theorem desc_steps_in_subtree {s s3 : KState} {k : Key} {newc : Option Key} {d : Bool} {ks : List Key}
    (hS : Struct s) (hkroot : k ≠ rootKey)
    (hrows3 : ∀ t ∈ setRow k newc d s.skel, ∃ n3 ∈ s3.nodes, n3.key = t.1 ∧ n3.creator = t.2.1)
    (hsub : k.kind = .step → k ∈ ks ∧ StepClosed s3 ks) :
    ∀ x, Desc (setRow k newc d s.skel) k x → x.kind = .step → x ∈ ks := by
  intro x hx hxs
  obtain ⟨hkin, hclosed⟩ := hsub (desc_step_kind hS hkroot x hx hxs)
  induction hx with
  | direct x d' hm hne =>
    obtain ⟨n3, hn3, hk3, hc3⟩ := hrows3 _ hm
    replace hk3 : n3.key = x := hk3
    exact hk3 ▸ hclosed n3 hn3 k hkin ⟨hk3 ▸ hxs, hc3, hk3 ▸ hne⟩
  | trans x c d' hm hc hne ih =>
    by_cases hxk : x = k
    · rw [hxk]; exact hkin
    · obtain ⟨n3, hn3, hk3, hc3⟩ := hrows3 _ hm
      replace hk3 : n3.key = x := hk3
      exact hk3 ▸ hclosed n3 hn3 c (ih (creator_step_setRow hS hkroot hm hxk hxs (.inr hc))) ⟨hk3 ▸ hxs, hc3, hk3 ▸ hne⟩

theorem rows_of_skel {s : KState} : ∀ t ∈ s.skel, ∃ n ∈ s.nodes, n.key = t.1 ∧ n.creator = t.2.1 := fun _ ht =>
  have ⟨n, hn, he⟩ := mem_skel.1 ht
  ⟨n, hn, congrArg (·.1) he, congrArg (·.2.1) he⟩

theorem rows_setDetachedRec {s : KState} (k : Key) (d : Bool) :
    ∀ t ∈ s.skel, ∃ n ∈ (s.setDetachedRec k d).nodes, n.key = t.1 ∧ n.creator = t.2.1 := by
  rintro ⟨x, c, d'⟩ ht
  have hd' := mem_setD_of_mem (fun x => (s.descendants k).contains x) d ht
  rw [← skel_setDetachedRec s k d] at hd'
  exact (rows_of_skel _ hd' :)

/-- Under `Struct`, the step subtree of `k` covers `k` and its recursive products: the steps among them are in it,
and so is every step with an edge into a file among the products (it is the creator of the file: `Struct.own`).
`s3` is the state in which the subtree is computed, after the flips: all that is asked of it is that its rows carry
the keys and creators of the skeleton after `setRow k` (`hrows3`), so that `detach` (`newc = none`) and `reattach`
share the lemma. -/
theorem covers_setRow {s s3 : KState} {k : Key} {n : Node} {newc : Option Key} {d : Bool} {ks : List Key}
    (hS : Struct s) (hkroot : k ≠ rootKey) (hf : s.find? k = some n) (hnew : newc = none ∨ k.kind ≠ .file)
    (hrows3 : ∀ t ∈ setRow k newc d s.skel, ∃ n3 ∈ s3.nodes, n3.key = t.1 ∧ n3.creator = t.2.1)
    (hks : s3.stepSubtree k = some ks) :
    (∀ x, x = k ∨ Desc (setRow k newc d s.skel) k x → x.kind = .step → x ∈ ks) ∧
    (∀ x, Desc (setRow k newc d s.skel) k x → x.kind = .file → ∀ P, P.kind = .step → Edge s.deps P x → P ∈ ks) := by
  have hkrow : (k, newc, d) ∈ setRow k newc d s.skel := mem_setRow_self newc d ⟨_, find?_row hf, rfl⟩
  obtain ⟨nk, hnk⟩ : ∃ nk, s3.find? k = some nk := by
    obtain ⟨m, hm, hmk, _⟩ := hrows3 _ hkrow
    cases hfind : s3.find? k with
    | some nk => exact ⟨nk, rfl⟩
    | none => exact absurd hmk (key_ne_of_find?_none hfind hm)
  have hsub := fun hs => stepSubtree_spec hks hnk hs
  have hsteps := desc_steps_in_subtree hS hkroot hrows3 hsub
  have inX : ∀ x, x = k ∨ Desc (setRow k newc d s.skel) k x → x.kind = .step → x ∈ ks := by
    rintro x (rfl | hx) hxs
    · exact (hsub hxs).1
    · exact hsteps x hx hxs
  refine ⟨inX, fun x hx hxf P hP ⟨dp, hdm, hsrc, hsnk⟩ => ?_⟩
  obtain ⟨c, d', hrow, _, hcc⟩ := hx.row
  have hxk : x ≠ k := by
    rintro rfl
    have := mem_setRow_eq hrow rfl
    rcases hnew with rfl | hnf
    · cases this
    · exact hnf hxf
  obtain ⟨m, hm, hmk, hmc⟩ := rows_of_skel _ (mem_setRow_ne hrow hxk)
  replace hmk : m.key = x := hmk
  replace hmc : m.creator = some c := hmc
  have hfm : s.find? dp.snk = some m := by rw [hsnk, ← hmk]; exact find?_of_mem hS.keys hm
  have hcP : c = P := ((hS.own dp hdm (hsrc ▸ hP) m hfm).1 c hmc).trans hsrc
  subst hcP
  exact inX c hcc hP

theorem covers_of_struct {s s1 : KState} {k : Key} {n : Node} {ks : List Key} (hS : Struct s)
    (hfile : FileDetachOK s k) (hf : s.find? k = some n) (h1 : s.detachCore k n = .ok s1)
    (hks : s1.stepSubtree k = some ks) : Covers s.deps ks (detachFlips s k n) := by
  unfold detachFlips
  rcases detachCore_ok h1 with ⟨hcr, _⟩ | ⟨hcr, sc, hsc, h1⟩
  · rw [hcr]
    exact ⟨(fun _ hx => nomatch hx), fun _ hx => nomatch hx⟩
  · rw [if_pos hcr]
    obtain ⟨hskc, hallow⟩ := skel_setCreator hsc
    -- `k` is not the root: the CHECKs of the node table refuse the write
    have hkroot : k ≠ rootKey := fun he => (creatorAllowed_none hallow).2 (he ▸ rfl)
    have hrows1 : ∀ t ∈ setRow k none true s.skel, ∃ n1 ∈ s1.nodes, n1.key = t.1 ∧ n1.creator = t.2.1 := by
      rw [← hskc, h1]
      split
      · exact rows_setDetachedRec k true
      · exact rows_of_skel
    obtain ⟨hsteps, hfiles⟩ := covers_setRow hS hkroot hf (.inl rfl) hrows1 hks
    have hdescL : ∀ x ∈ (if (!n.detached) = true then sc.descendants k else []), Desc (setRow k none true s.skel) k x := by
      intro x hx
      split at hx
      · exact hskc ▸ (mem_descendants sc k x).1 hx
      · cases hx
    simp only [hsc]
    refine ⟨fun x hx hxs => hsteps x ((List.mem_cons.1 hx).imp_right (hdescL x)) hxs, fun x hx hxf P hP hedge => ?_⟩
    rcases List.mem_cons.1 hx with rfl | hx
    · -- the detached node itself is a file: excluded by `FileDetachOK`
      exfalso
      obtain ⟨dd, hdd, hsrc, hsnk⟩ := hedge
      obtain ⟨c, hc⟩ := Option.isSome_iff_exists.1 hcr
      have := (hS.own dd hdd (hsrc ▸ hP) n (hsnk ▸ hf)).1 c hc
      exact hfile hxf n c hf hc (by rw [this, hsrc]; exact hP) ⟨dd, hdd, this.symm, hsnk⟩
    · exact hfiles x (hdescL x hx) hxf P hP hedge

theorem detach_cacheInvW {s s' : KState} {cfg : KConfig} {k : Key} (hS : Struct s) (hfile : FileDetachOK s k)
    (h : s.detach k = .ok s') (hc : CacheInvAfterW s cfg) : CacheInvAfterW s' cfg :=
  cacheInvW_of_wd (detach_wd h (wd_of_cacheInvW _ hc) fun _ _ _ hf h1 hks => covers_of_struct hS hfile hf h1 hks)

/-- `rel` is there because the composite operations detach nodes that they have listed in an earlier state `s0`:
what `FileDetachOK` needs of their rows later (creator, role) comes over `StructRow`. -/
structure RInv (cfg : KConfig) (s0 s : KState) : Prop where
  st : Struct s
  disc : CacheInvAfterW s cfg
  rel : StructRel s0 s

theorem RInv.rebase {cfg : KConfig} {s0 s : KState} (h : RInv cfg s0 s) : RInv cfg s s :=
  ⟨h.st, h.disc, StructRel.refl s⟩

theorem RInv.soft {cfg : KConfig} {s0 s s' : KState} (h : RInv cfg s0 s) (hr : SoftRel s s') : RInv cfg s0 s' :=
  ⟨struct_of_rel hr.struct h.st, cacheInvW_soft cfg hr h.disc, h.rel.trans hr.struct⟩

theorem RInv.of_soft {cfg : KConfig} {s0 s s' : KState} {f : KState → M KState} (hf : ∀ t, Preserves (SP t) f)
    (h : RInv cfg s0 s) (hs : f s = .ok s') : RInv cfg s0 s' :=
  h.soft (softRel_of_sp hf h.st.keys hs)

theorem RInv.detach {cfg : KConfig} {s0 s s' : KState} {k : Key} (h : RInv cfg s0 s) (hfile : FileDetachOK s k)
    (hs : s.detach k = .ok s') : RInv cfg s0 s' :=
  ⟨struct_of_rel (structRel_detach hs) h.st, detach_cacheInvW h.st hfile hs h.disc, h.rel.trans (structRel_detach hs)⟩

theorem RInv.deleteDeps {cfg : KConfig} {s0 s : KState} (p : Dep → Bool) (h : RInv cfg s0 s)
    (hup : ∀ n ∈ s.nodes, n.key.kind = .step → n.detached = false →
      (∃ d ∈ s.deps, p d = true ∧ ConsRow s d.snk ∧ Edge s.deps n.key d.src) → n.checkAfter = true) :
    RInv cfg s0 (s.deleteDeps p) :=
  ⟨struct_of_rel (structRel_deleteDeps s p) h.st,
    cacheInvW_of_wd (wd_deleteDeps p (wd_of_cacheInvW _ h.disc) fun n hn h1 h2 h3 => .inl (hup n hn h1 h2 h3)),
    h.rel.trans (structRel_deleteDeps s p)⟩

theorem RInv.detachFold {cfg : KConfig} {s0 : KState} (L : List Node) (hL : ∀ p ∈ L, p.key.kind ≠ .file) :
    ∀ s s', RInv cfg s0 s → L.foldlM (fun st (p : Node) => st.detach p.key) s = .ok s' → RInv cfg s0 s' := by
  intro s s' h hs
  refine foldlM_keeps (RInv cfg s0) (fun st (p : Node) => st.detach p.key) L ?_ s s' h hs
  intro st p st' hp hst hd
  exact hst.detach (fun hf => absurd hf (hL p hp)) hd

theorem RInv.dropDynamicInputs {cfg : KConfig} {s0 s : KState} (h : RInv cfg s0 s) (step : Key) :
    RInv cfg s0 (s.dropDynamicInputs step) := by
  unfold KState.dropDynamicInputs
  have ha := h.soft (flagDynamicSuppliers_rel s step)
  have hb := ha.deleteDeps (fun d => d.snk = step ∧ d.dyn) (by
    intro n hn hs hd ⟨d, hdm, hp, _, d', hd'm, hsrc', hsnk'⟩
    unfold KState.flagDynamicSuppliers at hn
    obtain ⟨n0, hn0, hk0, _, _, hsel⟩ := flagPass_rows hn (fun _ => rfl) (fun _ => rfl) (fun _ => rfl)
    apply hsel
    simp only [decide_eq_true_eq, Bool.decide_and, Bool.and_eq_true] at hp
    have hdm0 : d ∈ s.deps := hdm
    have hd'm0 : d' ∈ s.deps := hd'm
    simp only [decide_eq_true_eq, Bool.and_eq_true, List.any_eq_true, Bool.decide_and]
    exact ⟨hk0 ▸ hs, d', hd'm0, by rw [← hk0]; exact hsrc', d, hdm0, hp.1, hp.2, hsnk'.symm⟩)
  refine hb.soft ?_
  exact softRel_modify _ step (softFn_of_neutral (fun _ => ⟨rfl, rfl, rfl, rfl⟩) fun _ => rfl)

theorem RInv.dropDynamicSink {cfg : KConfig} {s0 s s' : KState} {step k : Key} (h : RInv cfg s0 s) (hk : k.kind = .file)
    (hfile : FileDetachOK (s.deleteDeps fun d => d.src = step ∧ d.snk = k) k)
    (hs : s.dropDynamicSink step k = .ok s') : RInv cfg s0 s' := by
  unfold KState.dropDynamicSink at hs
  refine (h.deleteDeps (fun d => d.src = step ∧ d.snk = k) ?_).detach hfile hs
  intro n hn hst hd ⟨d, hdm, hp, ⟨m, hm, hmk, _⟩, _⟩
  simp only [decide_eq_true_eq, Bool.decide_and, Bool.and_eq_true] at hp
  rw [find_key hm, hp.2, hk] at hmk
  cases hmk

theorem resetForRerun_rinv {cfg : KConfig} {s s' : KState} {step : Key} (hstep : step.kind = .step)
    (hS : Struct s) (hc : CacheInvAfterW s cfg) (h : s.resetForRerun step = .ok s') : RInv cfg s s' := by
  obtain ⟨s2, s3, s4, s5, e2, e3, e4, e5, h⟩ := resetForRerun_ok h
  have h1 := (⟨hS, hc, StructRel.refl s⟩ : RInv cfg s s).dropDynamicInputs step
  -- the amended outputs
  have h2 : RInv cfg (s.dropDynamicInputs step) s2 := by
    refine foldlM_keeps (RInv cfg (s.dropDynamicInputs step)) (fun st k => st.dropDynamicSink step k) _ ?_ _ s2
      h1.rebase e2
    intro st k st' hk hst hd
    -- `k` is a sink of a dynamic edge of `step` in the state of reference
    obtain ⟨d, hdm, hdk⟩ := List.mem_map.1 hk
    obtain ⟨hdm, hdp⟩ := List.mem_filter.1 hdm
    simp only [decide_eq_true_eq, Bool.decide_and, Bool.and_eq_true] at hdp
    have hkf : k.kind = .file := by
      have := h1.st.dkinds d hdm
      rw [hdp.1, hstep, hdk] at this
      unfold depKindOk at this
      cases hkk : k.kind <;> simp [hkk] at this
      rfl
    refine hst.dropDynamicSink hkf ?_ hd
    intro _ n' c hf' hc' hck hedge
    -- the creator of `k`, if any, is `step`; its edge into `k` has just been deleted
    have hrel := (hst.rel.trans (structRel_deleteDeps st (fun d => decide (d.src = step ∧ d.snk = k)))).find? k
    rw [hf'] at hrel
    obtain ⟨n1, hf1, hrel⟩ := optRel_right hrel
    have hc1 : n1.creator = some c := hrel.creator_of hc'
    have hcs : c = step := by
      have := (h1.st.own d hdm (by rw [hdp.1]; exact hstep) n1 (by rw [hdk]; exact hf1)).1 c hc1
      rw [this, hdp.1]
    obtain ⟨e, hem, hes, hek⟩ := hedge
    rw [deps_deleteDeps] at hem
    have := (List.mem_filter.1 hem).2
    simp [hes, hek, hcs] at this
  replace h2 : RInv cfg s s2 := ⟨h2.st, h2.disc, h1.rel.trans h2.rel⟩
  -- the steps created by the step
  have h3 : RInv cfg s s3 := by
    refine RInv.detachFold _ (fun p hp hpf => ?_) s2 s3 h2 e3
    rw [of_decide_eq_true (List.mem_filter.1 hp).2] at hpf
    cases hpf
  -- the static files declared by the step
  have h4 : RInv cfg s3 s4 := by
    refine foldlM_keeps (RInv cfg s3) (fun st (n : Node) => st.detach n.key) _ ?_ s3 s4 h3.rebase e4
    intro st p st' hp hst hd
    refine hst.detach ?_ hd
    intro hpf n' c hf' hc' hck hedge
    obtain ⟨hpm, hpstat⟩ := List.mem_filter.1 hp
    unfold isStaticFileNode at hpstat
    simp only [decide_eq_true_eq, Bool.decide_and, Bool.and_eq_true] at hpstat
    obtain ⟨e, hem, hes, hek⟩ := hedge
    have hrole := (hst.st.own e hem (hes ▸ hck) n' (hek ▸ hf')).2
    have hrel := hst.rel.find? p.key
    rw [find?_of_mem h3.st.keys (mem_products_iff.1 hpm).1, hf'] at hrel
    rw [hrel.2.1, hpstat.2] at hrole
    exact hrole rfl
  replace h4 : RInv cfg s s4 := ⟨h4.st, h4.disc, h3.rel.trans h4.rel⟩
  -- the static trees declared by the step
  have h5 : RInv cfg s s5 := by
    refine RInv.detachFold _ (fun p hp hpf => ?_) s4 s5 h4 e5
    have := (List.mem_filter.1 hp).2
    unfold isTreeNode at this
    rw [of_decide_eq_true this] at hpf
    cases hpf
  exact h5.of_soft (fun t => (SP.leaves t).toW.outdateBuilt_preserves (by decide) step) h

theorem completeFailure_rinv {cfg : KConfig} {s s' : KState} {step : Key} (wd : Bool)
    (hS : Struct s) (hc : CacheInvAfterW s cfg) (h : s.completeFailure cfg step wd = .ok s') : RInv cfg s s' :=
  completeFailure_of (P := RInv cfg s)
    (fun _ _ hp => hp.of_soft fun t => (SP.leaves t).toW.outdateBuiltProducts_keep rfl (SP.leaves t).found step)
    (fun t hp => hp.soft (softRel_modify t step (softFn_of_neutral (fun _ => ⟨rfl, rfl, rfl, rfl⟩) fun _ => rfl)))
    (fun st d _ _ _ hp => hp.of_soft fun _ => setStepState_soft step st d)
    (fun s2 s3 hp => RInv.detachFold _ (fun p hp hpf => by
      rw [of_decide_eq_true (List.mem_filter.1 hp).2] at hpf
      cases hpf) s2 s3 hp)
    (fun t hp => hp.soft (deleteHash_rel t step)) s s' ⟨hS, hc, StructRel.refl s⟩ h

end StepupModel.K.Discipline
