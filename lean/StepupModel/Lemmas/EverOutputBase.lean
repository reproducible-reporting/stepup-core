import StepupModel.Lemmas.DisciplineStruct
import StepupModel.Lemmas.StableInst
import StepupModel.Lemmas.KProp
import StepupModel.Lemmas.OpCases
import StepupModel.Lemmas.Guards
/-!
# Product rows and their declarations: the state invariant, a client of the one walk; `Trellis.create`

`Inv O X A s`: one row per key, and of every file row (`Row`): in a product state (PLANNED, BUILT, OUTDATED, VOLATILE)
its label is in `A`; on the keys of `X`, the creator of such a row (when it has one) is in `O` (steps, static
trees), and an UNDECLARED file row has no creator.  A row keeps this when key and role stay and the creator is kept
or cut (`Row.keep`: what `Discipline.StructRow` says), so the rows survive every kind of write of
`Lemmas/StableW.lean` but a file write that may leave the role, the adoption of a file, the hand-over and a fresh file row
(`rowsW`, `everA`), and `Trellis.create` has to be looked at on the rows of its key only (`createFile_inv`, from
`Discipline.create_post`).  That an UNDECLARED file row is detached is no part of the invariant: it follows from
"no creator" by the invariant of the creator links (`Lemmas/EverOutput.lean`).
-/
namespace StepupModel.K.Ever
open StepupModel.K.MetaAfter StepupModel.K.Discipline

variable {O X : Key → Prop} {A : String → Prop}

/-- `FILE_ROLE_BY_STATE` gives the role OUTPUT or VOLATILE. -/
def IsProduct (st : FileState) : Prop := st.role? = some .output ∨ st.role? = some .volatile

instance (st : FileState) : Decidable (IsProduct st) := by unfold IsProduct; exact inferInstance

theorem isProduct_iff (st : FileState) :
    IsProduct st ↔ st = .planned ∨ st = .built ∨ st = .outdated ∨ st = .volatile := by
  cases st <;> simp [IsProduct, FileState.role?]

theorem isProduct_of_role {a b : FileState} (h : a.role? = b.role?) : IsProduct a ↔ IsProduct b := by
  unfold IsProduct; rw [h]

theorem undeclared_iff_role (st : FileState) : st = .undeclared ↔ st.role? = none := by
  cases st <;> simp [FileState.role?]

theorem undeclared_of_role {a b : FileState} (h : a.role? = b.role?) : a = .undeclared ↔ b = .undeclared := by
  rw [undeclared_iff_role, undeclared_iff_role, h]

/-- A node that may own a product: a step (or a static tree, which the schema also lets be the source
of an edge into a file). -/
def OwnerKind (c : Key) : Prop := c.kind = .step ∨ c.kind = .st

def Row (O X : Key → Prop) (A : String → Prop) (n : Node) : Prop :=
  n.key.kind = .file →
    (IsProduct n.fstate → A n.key.label) ∧
    (X n.key → (IsProduct n.fstate → ∀ c, n.creator = some c → O c) ∧ (n.fstate = .undeclared → n.creator = none))

abbrev RowsOK (O X : Key → Prop) (A : String → Prop) : KState → Prop := Rows (Row O X A)

/-- The invariant; `X` are the keys on which the creator clauses are claimed, `A` the labels that may be in a
product state, `O` the nodes that may own a product. -/
def Inv (O : Key → Prop) (X : Key → Prop) (A : String → Prop) (s : KState) : Prop := RowsOK O X A s ∧ KeysNodup s

def All (_ : Key) : Prop := True

/-- What a non-declaring write does to a file row. -/
def KeepRow (X : Key → Prop) (n n' : Node) : Prop :=
  n'.key = n.key ∧ n'.fstate.role? = n.fstate.role? ∧
    (X n.key → (n'.creator = n.creator ∨ n'.creator = none) ∧
      (n'.detached = false → n.detached = false ∨ n'.creator ≠ none))

theorem KeepRow.refl (X : Key → Prop) (n : Node) : KeepRow X n n :=
  ⟨rfl, rfl, fun _ => ⟨.inl rfl, fun h => .inl h⟩⟩

def KeepX (X : Key → Prop) (s s' : KState) : Prop :=
  ∀ n' ∈ s'.nodes, n'.key.kind = .file → ∃ n ∈ s.nodes, KeepRow X n n'

theorem KeepX.refl (X : Key → Prop) (s : KState) : KeepX X s s := fun n hn _ => ⟨n, hn, KeepRow.refl X n⟩

namespace Row
variable {n n' : Node}

theorem keep (h : Row O X A n) (h1 : n'.key = n.key) (h2 : n'.fstate.role? = n.fstate.role?)
    (hc : n'.creator = n.creator ∨ n'.creator = none) : Row O X A n' := by
  intro hkind
  obtain ⟨hp, hx⟩ := h (h1 ▸ hkind)
  refine ⟨fun hprod => h1 ▸ hp ((isProduct_of_role h2).1 hprod), fun hX => ?_⟩
  obtain ⟨hown, hund⟩ := hx (h1 ▸ hX)
  refine ⟨fun hprod c hcc => ?_, fun hu => hc.elim (fun he => he.trans (hund ((undeclared_of_role h2).1 hu))) id⟩
  rcases hc with he | he
  · exact hown ((isProduct_of_role h2).1 hprod) c (he ▸ hcc)
  · rw [he] at hcc; cases hcc

theorem struct (h : Row O X A n) (hr : StructRow n n') : Row O X A n' := h.keep hr.1 hr.2.1 (hr.2.2.imp_right And.left)

theorem of_notFile (h : n.key.kind ≠ .file) : Row O X A n := fun hk => absurd hk h

theorem of_static (h : n.fstate.role? = some .static) : Row O X A n := by
  have hnp : ¬ IsProduct n.fstate := fun hp => by
    unfold IsProduct at hp; rw [h] at hp; rcases hp with hp | hp <;> cases hp
  exact fun _ => ⟨fun hp => absurd hp hnp, fun _ => ⟨fun hp => absurd hp hnp, fun hu => by rw [hu] at h; cases h⟩⟩

theorem mono {Y : Key → Prop} {B : String → Prop} (h : Row O X A n) (hY : Y n.key → X n.key) (hA : ∀ p, A p → B p) :
    Row O Y B n :=
  fun hk => ⟨fun hp => hA _ ((h hk).1 hp), fun hy => (h hk).2 (hY hy)⟩

end Row

namespace Inv
variable {s s' : KState}

theorem keys (h : Inv O X A s) : KeysUnique s := ku_of_kn h.2

theorem prod (h : Inv O X A s) : ∀ n ∈ s.nodes, n.key.kind = .file → IsProduct n.fstate → A n.key.label :=
  fun n hn hk => (h.1 n hn hk).1

theorem own (h : Inv O X A s) :
    ∀ n ∈ s.nodes, n.key.kind = .file → X n.key → IsProduct n.fstate → ∀ c, n.creator = some c → O c :=
  fun n hn hk hx => ((h.1 n hn hk).2 hx).1

theorem und (h : Inv O X A s) : ∀ n ∈ s.nodes, n.key.kind = .file → X n.key → n.fstate = .undeclared → n.creator = none :=
  fun n hn hk hx => ((h.1 n hn hk).2 hx).2

theorem mono {Y : Key → Prop} {B : String → Prop} (h : Inv O X A s)
    (hY : ∀ k, k.kind = .file → Y k → X k) (hA : ∀ p, A p → B p) : Inv O Y B s :=
  ⟨fun n hn hk => (h.1 n hn).mono (hY _ hk) hA hk, h.2⟩

theorem struct (h : Inv O X A s) (hr : StructRel s s') : Inv O X A s' :=
  ⟨fun n' hn' => have ⟨n, hn, hrow⟩ := all₂_mem_right hr.rows n' hn'; (h.1 n hn).struct hrow,
    kn_of_ku (hr.keysUnique h.keys)⟩

end Inv

theorem keepX_mono {X Y : Key → Prop} {s s' : KState} (h : KeepX X s s') (hY : ∀ k, Y k → X k) : KeepX Y s s' := by
  intro n' hn' hk
  obtain ⟨n, hn, h1, h2, h3⟩ := h n' hn' hk
  exact ⟨n, hn, h1, h2, fun hy => h3 (hY _ hy)⟩

theorem rows_keep {s : KState} (k : Key) (f : Node → Node) (h : RowsOK O X A s)
    (hf : ∀ n, (f n).key = n.key ∧ (f n).fstate.role? = n.fstate.role? ∧ ((f n).creator = n.creator ∨ (f n).creator = none)) :
    RowsOK O X A (s.modify k f) :=
  rows_modify s k f (fun n _ _ hn => hn.keep (hf n).1 (hf n).2.1 (hf n).2.2) h

theorem rows_keepRole {s s' : KState} {k : Key} {st : FileState} {nh : Option (Option Nat)} (hp : RowsOK O X A s)
    (hr : RoleKept s k st) (h : s.writeFile k st nh = .ok s') : RowsOK O X A s' := by
  obtain ⟨_, rfl⟩ | ⟨n, n', hf, hw, rfl⟩ := writeFile_ok h
  · exact hp
  · have hm : RowsOK O X A (s.modify k fun _ => n') :=
      rows_modify s k _ (fun _ _ _ _ => (hp n (find_mem hf)).keep (fileRowWrite_eq hw ▸ rfl)
        (fileRowWrite_eq hw ▸ hr n hf) (.inl (fileRowWrite_eq hw ▸ rfl))) hp
    exact ite_both (RowsOK O X A) (rows_modifyWhere _ _ _ (fun m _ _ hm => hm.keep rfl rfl (.inl rfl)) hm) hm

/-- The kinds of write the rows survive: all but a file write that may leave the role, the adoption of a file,
the hand-over and a fresh file row. -/
def everA : WClass → Bool
  | .writeFile | .adoptFile | .handOver | .freshFile => false
  | _ => true

theorem rowsW (O X : Key → Prop) (A : String → Prop) :
    StableW everA (fun _ _ => True) (fun _ _ => True) (RowsOK O X A) :=
  StableW.ofFine
    (cache := fun s p f hf hp => rows_modifyWhere s p f (fun n _ _ hn =>
      hn.keep (congrArg (·.1) (hf n).1) (congrArg (fun h => FileState.role? h.2.2.2.1) (hf n).1)
        (.inl (congrArg (·.2.1) (hf n).1))) hp)
    (fileWrite := absent)
    (keepRole := fun _ _ k st nh s s' hp hr h => rows_keepRole hp hr h)
    (outdate := fun _ _ s s' t f _ _ hb _ hp h => rows_keepRole hp (roleKept_of_fstate (st := .outdated) hb rfl) h)
    (stepWrite := fun s k n n' st d _ _ hf hw hp =>
      rows_modify s k _ (fun _ _ _ _ => (hp n (find_mem hf)).keep (stepRowWrite_eq hw ▸ rfl) (stepRowWrite_eq hw ▸ rfl)
        (.inl (stepRowWrite_eq hw ▸ rfl))) hp)
    (stepInit := fun _ s k i hp => rows_keep k _ hp fun _ => ⟨rfl, rfl, .inl rfl⟩)
    (setHash := fun _ s k h hp => rows_keep k _ hp fun _ => ⟨rfl, rfl, .inl rfl⟩)
    (deleteHash := fun _ s k hp => rows_keep k _ hp fun n => by split <;> exact ⟨rfl, rfl, .inl rfl⟩)
    (bumpDefer := fun _ s k hp => rows_keep k _ hp fun _ => ⟨rfl, rfl, .inl rfl⟩)
    (hold := fun _ s k _ hp => rows_keep k _ hp fun _ => ⟨rfl, rfl, .inl rfl⟩)
    (release := fun _ s k _ _ _ hp => rows_keep k _ hp fun _ => ⟨rfl, rfl, .inl rfl⟩)
    (recycled := fun _ s k _ _ hp => rows_keep k _ hp fun _ => ⟨rfl, rfl, .inl rfl⟩)
    (addDep := fun _ _ _ _ _ _ _ hp => hp) (filterDeps := fun _ _ _ hp => hp) (filterStepDeps := fun _ _ _ _ hp => hp)
    (markDyn := fun _ _ _ _ _ hp => hp) (queueDelete := fun _ _ _ _ hp => hp) (clearQueue := fun _ _ hp => hp)
    (detached := fun _ s k d hp => rows_keep k _ hp fun _ => ⟨rfl, rfl, .inl rfl⟩)
    (creator := fun s k c d hc _ hp => by
      rcases creatorW_cases rfl hc with rfl | hk
      · exact rows_keep k _ hp fun _ => ⟨rfl, rfl, .inr rfl⟩
      · exact rows_modify s k _ (fun n _ hnk _ => .of_notFile (hnk ▸ hk)) hp)
    (handOverRow := absent) (freshFile := absent)
    (appendNode := fun _ s k c hk _ _ hp n hn => by
      rcases mem_appendNode.1 hn with hn | rfl
      · exact hp n hn
      · exact .of_notFile hk)
    (removeNode := fun _ s k _ hp n hn => hp n (List.mem_filter.1 hn).1)

theorem invW (O X : Key → Prop) (A : String → Prop) :
    StableW everA (fun _ _ => True) (fun _ _ => True) (Inv O X A) :=
  (rowsW O X A).andTop stable_keysNodup.toW

/-- `Step.set_resources` -/
theorem setStepExtras_inv {s : KState} (sk : Key) (d : StepDecl) (hp : Inv O X A s) : Inv O X A (s.setStepExtras sk d) :=
  ⟨rows_keep sk _ hp.1 fun _ => ⟨rfl, rfl, .inl rfl⟩, modify_of_where stable_keysNodup.cache s sk _ (fun _ => rfl) hp.2⟩

/-- `Trellis.create` of a file row (fresh or recycled): every other row is related to an old one by `StructRow`
(`Discipline.create_post`); the row of the key has the new creator or none and the role of the requested state, or it
keeps the role of an output, which the old row had (`Discipline.create_file_role`).  The state asked for is a product
state only for a label of `A` and an owning step or tree, and UNDECLARED only without creator. -/
theorem createFile_inv {s s' : KState} {k : Key} {creator : Option Key} {st : FileState} (hp : Inv O All A s)
    (hst : NoHashState st) (hprod : IsProduct st → A k.label ∧ ∀ c, creator = some c → O c)
    (hu : st = .undeclared → creator = none) (h : s.create k creator (.file st) = .ok s') : Inv O All A s' := by
  have hkn := stable_keysNodup.toW.create_preserves Sub.top _ creator (.file st) rfl rfl Sub.top hst trivial s s' hp.2 h
  refine ⟨fun nk hnk => ?_, hkn⟩
  have hpost := (Discipline.create_post hp.keys h).1
  by_cases hk : nk.key = k
  · intro hkind
    have hfk : s'.find? k = some nk := hk ▸ find?_of_mem (ku_of_kn hkn) hnk
    have hcr := hpost.cr nk hfk
    rcases Discipline.create_file_role hp.keys h nk hfk with hr | ⟨hst2, hr, n, hn, hno⟩
    · refine ⟨fun hp' => hk ▸ (hprod ((isProduct_of_role hr).1 hp')).1, fun _ => ⟨fun hp' c hc => ?_, fun hun => ?_⟩⟩
      · exact hcr.elim (fun e => (hprod ((isProduct_of_role hr).1 hp')).2 c (e ▸ hc)) fun e => by rw [e] at hc; cases hc
      · exact hcr.elim (fun e => e.trans (hu ((undeclared_of_role hr).1 hun))) id
    · refine ⟨fun _ => hk ▸ find_key hn ▸ hp.prod n (find_mem hn) (find_key hn ▸ hk ▸ hkind) (.inl hno),
        fun _ => ⟨fun _ c hc => ?_, fun hun => by rw [hun] at hr; cases hr⟩⟩
      rcases hcr with e | e
      · rcases hst2 with rfl | rfl
        · rw [e, hu rfl] at hc; cases hc
        · exact (hprod (by decide)).2 c (e ▸ hc)
      · rw [e] at hc; cases hc
  · obtain ⟨n, hn, hrow⟩ := hpost.keep.mem nk hnk hk
    exact (hp.1 n hn).struct hrow

theorem handOver_inv {s : KState} (tk : Key) (hs : List Key) (h : Inv O X A s)
    (hstatic : ∀ k ∈ hs, ∀ n ∈ s.nodes, n.key = k → n.fstate.role? = some .static) :
    Inv O X A (s.handOver tk hs) := by
  refine ⟨?_, stable_keysNodup.toW.handOver rfl s tk hs h.2⟩
  rw [handOver_nodes]
  intro n' hn'
  obtain ⟨n, hn, rfl⟩ := List.mem_map.1 hn'
  exact ite_ind (Row O X A) (fun hk => .of_static (hstatic n.key hk n hn rfl)) fun _ => h.1 n hn

theorem insertDep_ownerKind {s s' : KState} {a : Key} {p : String} (h : s.insertDep a (fileKey p) = .ok s') : OwnerKind a := by
  obtain ⟨_, hk, _⟩ := insertDep_ok h
  unfold OwnerKind
  unfold depKindOk at hk
  cases hka : a.kind <;> simp [hka, fileKey] at hk ⊢

end StepupModel.K.Ever
