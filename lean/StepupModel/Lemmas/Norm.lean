import StepupModel.K.Workflow
/-!
`normPaths` (`sorted(set(paths))`): the result is strictly increasing, has
exactly the members of the argument, and is therefore determined by the *set* of the argument.
-/
namespace StepupModel.K

theorem mem_sortStrs {a : String} {l : List String} : a ∈ sortStrs l ↔ a ∈ l := by
  unfold sortStrs; exact List.mem_mergeSort

theorem sortStrs_pairwise (l : List String) : (sortStrs l).Pairwise (· ≤ ·) := by
  unfold sortStrs
  have h := List.pairwise_mergeSort (le := fun a b : String => decide (a ≤ b))
    (fun a b c hab hbc => by
      simp only [decide_eq_true_eq] at hab hbc ⊢
      exact String.le_trans hab hbc)
    (fun a b => by
      simp only [Bool.or_eq_true, decide_eq_true_eq]
      exact String.le_total a b) l
  exact h.imp (fun hab => by simpa using hab)

theorem mem_dedupSorted {a : String} {l : List String} : a ∈ dedupSorted l ↔ a ∈ l := by
  fun_induction dedupSorted l with
  | case1 => rfl
  | case2 x => rfl
  | case3 x rest ih =>
    rw [ih]
    exact ⟨List.mem_cons_of_mem _, fun h => (List.mem_cons.mp h).elim (fun e => e ▸ List.mem_cons_self) id⟩
  | case4 x y rest _ ih => rw [List.mem_cons, ih, List.mem_cons (a := a) (b := x)]

theorem dedupSorted_strict (l : List String) (h : l.Pairwise (· ≤ ·)) : (dedupSorted l).Pairwise (· < ·) := by
  fun_induction dedupSorted l with
  | case1 => exact .nil
  | case2 x => exact List.pairwise_singleton _ _
  | case3 x rest ih => exact ih (List.pairwise_cons.mp h).2
  | case4 x y rest hxy ih =>
    obtain ⟨hx, hrest⟩ := List.pairwise_cons.mp h
    refine List.pairwise_cons.mpr ⟨fun z hz => ?_, ih hrest⟩
    -- `x ≤ y ≤ z` and `x ≠ y`
    have hyz : y ≤ z := by
      rcases List.mem_cons.mp (mem_dedupSorted.mp hz) with rfl | hm
      · exact String.le_refl _
      · exact (List.pairwise_cons.mp hrest).1 z hm
    exact String.not_le.mp fun hzx => hxy (String.le_antisymm (hx y List.mem_cons_self) (String.le_trans hyz hzx))

/-- Neither list has duplicates, so they are permutations of each other, and a sorted permutation of a
sorted list is that list. -/
theorem strict_sorted_ext (l1 l2 : List String) (h1 : l1.Pairwise (· < ·)) (h2 : l2.Pairwise (· < ·))
    (hm : ∀ x, x ∈ l1 ↔ x ∈ l2) : l1 = l2 := by
  have nd : ∀ {l : List String}, l.Pairwise (· < ·) → l.Nodup :=
    fun h => h.imp fun {a b} (hlt : a < b) (e : a = b) => String.lt_irrefl b (e ▸ hlt)
  exact ((List.perm_ext_iff_of_nodup (nd h1) (nd h2)).mpr hm).eq_of_pairwise
    (fun a b _ _ hab hba => absurd hba (String.lt_asymm hab)) h1 h2

theorem mem_normPaths {a : String} {l : List String} : a ∈ normPaths l ↔ a ∈ l := by
  unfold normPaths; rw [mem_dedupSorted, mem_sortStrs]

theorem normPaths_strict (l : List String) : (normPaths l).Pairwise (· < ·) :=
  dedupSorted_strict _ (sortStrs_pairwise l)

theorem normPaths_congr (l1 l2 : List String) (h : ∀ x, x ∈ l1 ↔ x ∈ l2) : normPaths l1 = normPaths l2 :=
  strict_sorted_ext _ _ (normPaths_strict l1) (normPaths_strict l2)
    (fun x => by rw [mem_normPaths, mem_normPaths]; exact h x)

theorem normPaths_of_strict (l : List String) (h : l.Pairwise (· < ·)) : normPaths l = l :=
  strict_sorted_ext _ _ (normPaths_strict l) h (fun _ => mem_normPaths)

theorem normPaths_nil : normPaths [] = [] := normPaths_of_strict [] .nil

theorem normPaths_singleton (a : String) : normPaths [a] = [a] := normPaths_of_strict [a] (List.pairwise_singleton _ a)

end StepupModel.K
