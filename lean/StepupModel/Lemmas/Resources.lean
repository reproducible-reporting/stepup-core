import StepupModel.Lemmas.ResourcesFrame
import StepupModel.Lemmas.StableInst
import StepupModel.Lemmas.EnvRows
import StepupModel.Lemmas.MetaSafe
/-!
# C12: the RUNNING steps never hold more than the resource table makes available

Model facts used.  A step holds its `step_resource` rows while its row is RUNNING, attached or not
(`RESOURCE_UNAVAILABLE` sums over `step.state = RUNNING`).  In the implementation a row becomes RUNNING in
one place only, `Scheduler.pop_next_job` (`step.set_state(state)` after `SELECT_NEXT_STEP`, which tests the
resources of a step without recorded hash); the executor never sets RUNNING: after a failed hash check it
calls `reset_for_rerun`, `delete_hash`, `set_state(PENDING)` (`Executor._reset_step_to_pending`) and the step
is dispatched again through the RUN path, resource test included.  `step_resource` rows are written in one
place, `Step.set_resources`, called by `define_step` for a new step and for a recycled one.

All for a fixed `cfg.available`.  The frame is `Lemmas/ResourcesFrame.lean` (`StableRes`: `StableG` without
`set_state(RUNNING)` and without `set_resources`); `set_state(RUNNING)` is the one leaf added here, under the guard
`Fits cfg` (`within_run`), which the dispatch establishes itself and `SetRunningOK` asks of a `setState` request.
The side conditions (`SetRunningOK`, `RecycleFits`, `DeclKeyed`, the unchanged table in `Guarded`) are each on the
state the request is issued in, and each is needed: `recycle_running_negation` (finding F7),
`Props.C12.set_state_running_negation`, `setState_running_undefined_negation`, `table_change_negation`,
`duplicate_names_negation` (model only); `SetRunningOK` cannot be weakened (`setRunning_sharp`).
That a hold block keeps RUN jobs back is in `Lemmas/ResourcesHold.lean`.
-/
namespace StepupModel.K.Resources
open StepupModel.K
open StepupModel.K.MetaSafe

/-- Units of resource `name` in a list of `step_resource` rows (`SUM(units) WHERE name = ?`). -/
def unitsIn (name : String) (rs : List (String × Nat)) : Nat :=
  (rs.filter (·.1 = name)).foldl (fun a r => a + r.2) 0

/-- Units of `name` held by the RUNNING steps (attached or not), summed the way `RESOURCE_UNAVAILABLE`
sums them. -/
def used (s : KState) (name : String) : Nat :=
  (s.nodes.filter fun m => m.key.kind = .step ∧ m.sstate = .running).foldl
    (fun acc m => acc + unitsIn name m.resources) 0

/-- **C12, resources.**  The RUNNING steps require no more of any resource than the table of the scheduler
holds, and no undefined resource.  (`find?`: the lookup of `RESOURCE_UNAVAILABLE`; the table of the
implementation has one row per name.) -/
def ResourcesOK (s : KState) (cfg : KConfig) : Prop :=
  (∀ name avail, cfg.available.find? (·.1 = name) = some (name, avail) → used s name ≤ avail) ∧
  (∀ n ∈ s.nodes, n.key.kind = .step → n.sstate = .running →
    ∀ r ∈ n.resources, (cfg.available.find? (·.1 = r.1)).isSome = true)

/-- The primary key `(node, name)` of `step_resource`: one row per name and step. -/
def ResKeyed (s : KState) : Prop := ∀ n ∈ s.nodes, (n.resources.map (·.1)).Nodup

abbrev ResInv (s : KState) (cfg : KConfig) : Prop := KeysUnique s ∧ ResKeyed s ∧ ResourcesOK s cfg

def load (name : String) (n : Node) : Nat := if runs n = true then unitsIn name n.resources else 0

theorem load_of_runs {name : String} {n : Node} (h : runs n = true) : load name n = unitsIn name n.resources := if_pos h

theorem load_idle {name : String} {n : Node} (h : ¬ runs n = true) : load name n = 0 := if_neg h

theorem used_eq_sum (s : KState) (name : String) : used s name = (s.nodes.map (load name)).sum := by
  unfold used
  rw [foldl_add_filter]
  simp only [Nat.zero_add]
  congr 1

theorem load_le {name : String} {n n' : Node} (h2 : n'.resources = n.resources) (h3 : runs n' = true → runs n = true) :
    load name n' ≤ load name n := by
  by_cases hr : runs n' = true
  · rw [load_of_runs hr, load_of_runs (h3 hr), h2]; exact Nat.le_refl _
  · rw [load_idle hr]; exact Nat.zero_le _

theorem unitsIn_eq_zero {name : String} {rs : List (String × Nat)} (h : name ∉ rs.map (·.1)) : unitsIn name rs = 0 := by
  unfold unitsIn
  have : rs.filter (·.1 = name) = [] := by
    rw [List.filter_eq_nil_iff]
    intro r hr hh
    exact h (List.mem_map.2 ⟨r, hr, by simpa using hh⟩)
  rw [this]; rfl

theorem unitsIn_cons (name : String) (r : String × Nat) (rs : List (String × Nat)) :
    unitsIn name (r :: rs) = (if r.1 = name then r.2 else 0) + unitsIn name rs := by
  unfold unitsIn
  rw [foldl_add_filter, foldl_add_filter]
  simp only [List.map_cons, List.sum_cons, Nat.zero_add, decide_eq_true_eq]

theorem unitsIn_of_mem {name : String} {u : Nat} : ∀ {rs : List (String × Nat)}, (rs.map (·.1)).Nodup →
    (name, u) ∈ rs → unitsIn name rs = u
  | [], _, h => by cases h
  | r :: rs, hn, h => by
    simp only [List.map_cons, List.nodup_cons] at hn
    rw [unitsIn_cons]
    rcases List.mem_cons.1 h with rfl | h'
    · simp only [if_true]
      rw [unitsIn_eq_zero hn.1]; rfl
    · have hne : r.1 ≠ name := by
        intro e
        exact hn.1 (List.mem_map.2 ⟨(name, u), h', e.symm⟩)
      simp only [hne, if_false, Nat.zero_add]
      exact unitsIn_of_mem hn.2 h'


/-- `ResInv` with the bound `U` and the predicate `D` of the RUNNING rows left open: `capOf cfg`, `DefinedIn cfg`
give `ResInv` (`within_iff`); `used s`, `TraceOf s` compare a later state with `s` (`exec_resourcesOK`,
`exec_quiet_frame`). -/
structure Within (U : String → Option Nat) (D : Key → List (String × Nat) → Prop) (s : KState) : Prop where
  keys : KeysUnique s
  keyed : ResKeyed s
  le : ∀ name a, U name = some a → used s name ≤ a
  dom : ∀ n ∈ s.nodes, runs n = true → D n.key n.resources

variable {U : String → Option Nat} {D : Key → List (String × Nat) → Prop}

theorem used_replace {s : KState} (hk : KeysUnique s) {k : Key} {n : Node} (hf : s.find? k = some n) (n' : Node)
    (name : String) : used (s.modify k fun _ => n') name + load name n = used s name + load name n' := by
  have := sum_map_replace (load name) k n n' s.nodes hk (find_mem hf) (find_key hf)
  rw [used_eq_sum, used_eq_sum, ← this]
  show ((s.nodes.map fun m => if m.key = k then n' else m).map (load name)).sum + _ = _
  rw [List.map_map]
  rfl

theorem within_map_same : MapStable Calm (Within U D) := fun s g hg h => by
  refine ⟨?_, ?_, ?_, ?_⟩
  · show ((s.nodes.map g).map (·.key)).Nodup
    rw [map_view_map (·.key) g s.nodes fun n hn => (hg n hn).1]
    exact h.keys
  · intro n hn
    obtain ⟨m, hm, rfl⟩ := List.mem_map.1 hn
    exact (hg m hm).2.1 ▸ h.keyed m hm
  · intro name a ha
    rw [used_eq_sum]
    rw [show ({ s with nodes := s.nodes.map g } : KState).nodes = s.nodes.map g from rfl, List.map_map]
    exact Nat.le_trans (sum_map_le fun n hn => load_le (hg n hn).2.1 (hg n hn).2.2) (used_eq_sum s name ▸ h.le name a ha)
  · exact dom_map s g hg h.dom

theorem within_nodes_eq {s s' : KState} (he : s'.nodes = s.nodes) (h : Within U D s) : Within U D s' := by
  refine ⟨?_, ?_, ?_, ?_⟩
  · unfold KeysUnique; rw [he]; exact h.keys
  · unfold ResKeyed; rw [he]; exact h.keyed
  · intro name a ha
    have : used s' name = used s name := by unfold used; rw [he]
    rw [this]; exact h.le name a ha
  · rw [he]; exact h.dom

theorem within_sublist {s : KState} {l : List Node} (hl : l.Sublist s.nodes) (h : Within U D s) :
    Within U D { s with nodes := l } := by
  refine ⟨?_, ?_, ?_, ?_⟩
  · exact List.Nodup.sublist (List.Sublist.map _ hl) h.keys
  · intro n hn; exact h.keyed n (hl.subset hn)
  · intro name a ha
    rw [used_eq_sum]
    exact Nat.le_trans (sum_sublist_le _ hl) (used_eq_sum s name ▸ h.le name a ha)
  · intro n hn; exact h.dom n (hl.subset hn)

theorem within_replace (s : KState) (k : Key) (n n' : Node) (hf : s.find? k = some n) (hkey : n'.key = n.key)
    (hres : (n'.resources.map (·.1)).Nodup)
    (hle : ∀ name a, U name = some a → used s name + load name n' ≤ a + load name n)
    (hdom : runs n' = true → D n'.key n'.resources)
    (h : Within U D s) : Within U D (s.modify k fun _ => n') := by
  refine ⟨?_, fun m hm => ?_, fun name a ha => ?_, dom_replace k hdom h.dom⟩
  · unfold KeysUnique
    rw [keys_modify s k _ fun _ _ _ => hkey.trans (find_key hf)]
    exact h.keys
  · obtain ⟨m0, hm0, rfl⟩ := mem_modify hm
    exact ite_both (p := m0.key = k) (fun m : Node => (m.resources.map (·.1)).Nodup) hres (h.keyed m0 hm0)
  · have := used_replace h.keys hf n' name
    have := hle name a ha
    omega

theorem within_replace_same (s : KState) (k : Key) (n n' : Node) (hf : s.find? k = some n)
    (hn : Calm n n')
    (h : Within U D s) : Within U D (s.modify k fun _ => n') := by
  have hmem := find_mem hf
  refine within_replace s k n n' hf hn.1 (hn.2.1 ▸ h.keyed n hmem) (fun name a ha => ?_)
    (fun hr => by rw [hn.1, hn.2.1]; exact h.dom n hmem (hn.2.2 hr)) h
  have := h.le name a ha
  have := load_le (name := name) hn.2.1 hn.2.2
  omega

/-- `INSERT INTO node`: the fresh row has a new key, no `step_resource` rows and does not run. -/
theorem within_append (s : KState) (k : Key) (c : Option Key) (hfind : s.find? k = none) (hins : s.insertAllowed k c = true)
    (hp : Within U D s) : Within U D (s.appendNode k c) := by
  refine ⟨(keysNodup_iff _).1 (stable_keysNodup.appendNode s k c hfind hins ((keysNodup_iff _).2 hp.keys)),
    fun n hn => ?_, fun name a ha => ?_, dom_append k c hp.dom⟩
  · rcases mem_appendNode.1 hn with hn | rfl
    · exact hp.keyed n hn
    · exact List.nodup_nil
  · rw [used_eq_sum]
    show ((s.nodes ++ [newRow s k c]).map (load name)).sum ≤ a
    rw [List.map_append, List.sum_append, List.map_singleton, List.sum_singleton,
      load_idle (Bool.eq_false_iff.1 (runs_newRow s k c)), Nat.add_zero, ← used_eq_sum]
    exact hp.le name a ha

theorem stableRes_within (U : String → Option Nat) (D : Key → List (String × Nat) → Prop) : StableRes (Within U D) :=
  StableRes.ofCalm _ (fun _ _ he => within_nodes_eq he) within_map_same
    (fun s k n n' hf hc => within_replace_same s k n n' hf hc) (fun _ _ => within_sublist List.filter_sublist) within_append

/-- `Step.set_resources`.  `hfit` is vacuous when the step does not run, in particular right after
`Trellis.create`. -/
theorem within_extras (s : KState) (sk : Key) (d : StepDecl) (hd : (d.resources.map (·.1)).Nodup)
    (hfit : ∀ m, s.find? sk = some m → runs m = true →
      (∀ name a, U name = some a → used s name + unitsIn name d.resources ≤ a + unitsIn name m.resources) ∧
      D sk d.resources)
    (h : Within U D s) : Within U D (s.setStepExtras sk d) := by
  unfold KState.setStepExtras
  cases hf : s.find? sk with
  | none => rw [modify_absent hf]; exact h
  | some n =>
    rw [← modify_found h.keys hf]
    have hr : runs ({ n with resources := d.resources, overrides := d.overrides } : Node) = runs n := rfl
    refine within_replace s sk n _ hf rfl hd (fun name a ha => ?_) (fun hrun => ?_) h
    · by_cases hrn : runs n = true
      · rw [load_of_runs (hr ▸ hrn), load_of_runs hrn]; exact (hfit n hf hrn).1 name a ha
      · rw [load_idle (hr ▸ hrn), load_idle hrn]; exact h.le name a ha
    · rw [hr] at hrun
      rw [show ({ n with resources := d.resources, overrides := d.overrides } : Node).key = sk from (find_key hf :)]
      exact (hfit n hf hrun).2

theorem initStepRow_idle (t : KState) (k : Key) (i : StepInit) : ∀ m ∈ (t.initStepRow k i).nodes, m.key = k → runs m = false := by
  intro m hm hk
  obtain ⟨m0, hm0, rfl⟩ := mem_modify hm
  by_cases h0 : m0.key = k
  · rw [if_pos h0]; unfold runs; simp
  · rw [if_neg h0] at hk; exact absurd hk h0

theorem create_step_idle {s s1 : KState} {k : Key} {c : Option Key} {i : StepInit}
    (h : s.create k c (.step i) = .ok s1) : ∀ m ∈ s1.nodes, m.key = k → runs m = false := by
  rcases create_ok h with ⟨n, _, _, _, hr⟩ | ⟨_, _, hi⟩
  · obtain ⟨s3, _, rfl⟩ := envFrame_recycleCore_step s s1 k n c i hr
    exact initStepRow_idle s3 k i
  · rw [← Except.ok.inj hi]
    exact initStepRow_idle _ k i

def capOf (cfg : KConfig) (name : String) : Option Nat := (cfg.available.find? (·.1 = name)).map (·.2)

def DefinedIn (cfg : KConfig) (_ : Key) (rs : List (String × Nat)) : Prop :=
  ∀ r ∈ rs, (cfg.available.find? (·.1 = r.1)).isSome = true

theorem find_name {l : List (String × Nat)} {name : String} {e : String × Nat}
    (h : l.find? (·.1 = name) = some e) : e.1 = name := by
  simpa using List.find?_some h

theorem capOf_iff {cfg : KConfig} {name : String} {a : Nat} :
    capOf cfg name = some a ↔ cfg.available.find? (·.1 = name) = some (name, a) := by
  unfold capOf
  cases hf : cfg.available.find? (·.1 = name) with
  | none => simp
  | some e =>
    obtain ⟨en, ea⟩ := e
    have hn : en = name := find_name hf
    subst hn
    simp

theorem within_iff (s : KState) (cfg : KConfig) :
    Within (capOf cfg) (DefinedIn cfg) s ↔ ResInv s cfg :=
  ⟨fun h => ⟨h.keys, h.keyed, fun name avail hf => h.le name avail (capOf_iff.2 hf),
      fun n hn hk hs => h.dom n hn ((runs_iff n).2 ⟨hk, hs⟩)⟩,
    fun ⟨h1, h2, h3, h4⟩ => ⟨h1, h2, fun name a ha => h3 name a (capOf_iff.1 ha),
      fun n hn hr => h4 n hn ((runs_iff n).1 hr).1 ((runs_iff n).1 hr).2⟩⟩

theorem resourceUnavailable_false_iff {s : KState} {cfg : KConfig} {n : Node} :
    s.resourceUnavailable cfg n = false ↔
      ∀ r ∈ n.resources, ∃ avail, cfg.available.find? (·.1 = r.1) = some (r.1, avail) ∧ used s r.1 + r.2 ≤ avail := by
  unfold KState.resourceUnavailable
  rw [List.any_eq_false]
  refine forall_congr' fun r => forall_congr' fun _ => ?_
  obtain ⟨name, units⟩ := r
  dsimp only
  cases hf : cfg.available.find? (·.1 = name) with
  | none => simp
  | some e =>
    obtain ⟨en, ea⟩ := e
    have hn : en = name := find_name hf
    subst hn
    simp [used, unitsIn, Nat.not_lt]

theorem fits_of_test {s : KState} {cfg : KConfig} {n : Node} (h : Within (capOf cfg) (DefinedIn cfg) s)
    (hres : (n.resources.map (·.1)).Nodup) (ht : s.resourceUnavailable cfg n = false) :
    (∀ name a, capOf cfg name = some a → used s name + unitsIn name n.resources ≤ a) ∧ DefinedIn cfg n.key n.resources := by
  rw [resourceUnavailable_false_iff] at ht
  refine ⟨fun name a ha => ?_, fun r hr => ?_⟩
  · by_cases hin : name ∈ n.resources.map (·.1)
    · obtain ⟨⟨rn, ru⟩, hr, rfl⟩ := List.mem_map.1 hin
      obtain ⟨avail, hfa, hle⟩ := ht _ hr
      rw [unitsIn_of_mem hres hr]
      rw [capOf_iff.1 ha] at hfa
      cases hfa
      exact hle
    · rw [unitsIn_eq_zero hin]; exact h.le name a ha
  · obtain ⟨avail, hfa, _⟩ := ht r hr
    rw [hfa]; rfl

/-- The step `k` passes the resource test of the dispatch (or runs already, or `k` is no step). -/
def Fits (cfg : KConfig) (s : KState) (k : Key) : Prop :=
  ∀ n, s.find? k = some n → n.key.kind = .step → n.sstate ≠ .running → s.resourceUnavailable cfg n = false

theorem fits_of_eligible {su : KState} {cfg : KConfig} {n : Node} (hk : KeysUnique su) (hn : n ∈ su.nodes)
    (hel : su.eligible cfg n = true) (hh : n.hasHash = false) : Fits cfg su n.key := fun m hf _ _ => by
  rw [find?_of_mem hk hn] at hf
  cases hf
  exact (eligible_run hel hh).2

theorem within_run {cfg : KConfig} (s : KState) (k : Key) (n n' : Node) (d : Option Bool) (hfit : Fits cfg s k)
    (hf : s.find? k = some n) (hrw : stepRowWrite n .running d = .ok n')
    (h : Within (capOf cfg) (DefinedIn cfg) s) : Within (capOf cfg) (DefinedIn cfg) (s.modify k fun _ => n') := by
  obtain ⟨c1, c2, c3⟩ := stepRowWrite_cols hrw
  have hmem := find_mem hf
  by_cases hold : runs n = true
  · exact within_replace_same s k n n' hf ⟨c1, c2, fun _ => hold⟩ h
  by_cases hstep : n.key.kind = .step
  · -- the row starts to run: it passed the test
    obtain ⟨t1, t2⟩ := fits_of_test h (h.keyed n hmem) (hfit n hf hstep fun hs => hold ((runs_iff n).2 ⟨hstep, hs⟩))
    refine within_replace s k n n' hf c1 (c2 ▸ h.keyed n hmem) (fun name a ha => ?_) (fun _ => c1 ▸ c2 ▸ t2) h
    rw [load_of_runs ((runs_iff n').2 ⟨c1 ▸ hstep, c3⟩), load_idle hold, c2]
    exact t1 name a ha
  · exact within_replace_same s k n n' hf ⟨c1, c2, fun hr => absurd (c1 ▸ ((runs_iff n').1 hr).1) hstep⟩ h

theorem stableW_within (cfg : KConfig) :
    StableW (fun _ => true) (fun _ _ => True) (Fits cfg) (Within (capOf cfg) (DefinedIn cfg)) :=
  (stableRes_within _ _).toWR within_run

/-- The `resources` argument of `define_step` is a dict: one entry per name (the primary key of
`step_resource`). -/
def DeclKeyed : Req → Prop
  | .define _ d => (d.resources.map (·.1)).Nodup
  | _ => True

/-- `Fits`, asked of a `set_state(RUNNING)` made outside the dispatch, in the state it is made in. -/
def SetRunningOK (s : KState) (cfg : KConfig) : Req → Prop
  | .setState k .running =>
    ∀ n, s.find? k = some n → n.key.kind = .step → n.sstate ≠ .running → s.resourceUnavailable cfg n = false
  | _ => True

/-- The executor's protocol: no `set_state(RUNNING)` at all outside `pop_next_job`. -/
def NoForeignRunning : Req → Prop
  | .setState _ .running => False
  | _ => True

theorem NoForeignRunning.ok {r : Req} (h : NoForeignRunning r) (s : KState) (cfg : KConfig) : SetRunningOK s cfg r := by
  cases r with
  | setState k st => cases st <;> first | trivial | exact h.elim
  | _ => trivial

theorem SetRunningOK.fits {s : KState} {cfg : KConfig} {r : Req} (h : SetRunningOK s cfg r) (k : Key)
    (e : r = .setState k .running) : Fits cfg s k := by subst e; exact h

/-- `define_step` fully recycles (`try_recycle` + `set_resources`) a detached step whose row is RUNNING
only with a requirement that fits, counted in place of what the step holds. -/
def RecycleFits (s : KState) (cfg : KConfig) : Req → Prop
  | .define c d =>
    ∀ sk n, s.defineGuard cfg c (normDecl d) = .ok sk → s.find? sk = some n → n.detached = true →
      s.canRecycle sk (normDecl d) = true → n.sstate = .running →
      (∀ name avail, cfg.available.find? (·.1 = name) = some (name, avail) →
        used s name + unitsIn name d.resources ≤ avail + unitsIn name n.resources) ∧
      (∀ r ∈ d.resources, (cfg.available.find? (·.1 = r.1)).isSome = true)
  | _ => True

/-- The simple discipline (DESIGN.md, C12): `define_step` never recycles or re-creates a step whose row is
RUNNING.  (For `ResourcesOK` only the full recycle matters.  The partial recycle of a RUNNING step,
`Trellis.create` on its row, resets the row to PENDING: it keeps `ResourcesOK`, which from then on does not
count a command that is still running, finding F9.) -/
def NoRecycleWhileRunning (s : KState) (cfg : KConfig) : Req → Prop
  | .define c d => ∀ sk n, s.defineGuard cfg c (normDecl d) = .ok sk → s.find? sk = some n → n.sstate ≠ .running
  | _ => True

theorem NoRecycleWhileRunning.fits {s : KState} {cfg : KConfig} {r : Req} (h : NoRecycleWhileRunning s cfg r) :
    RecycleFits s cfg r := by
  cases r with
  | define c d => intro sk n hg hf _ _ hs; exact absurd hs (h sk n hg hf)
  | _ => trivial

def TraceOf (s : KState) (k : Key) (rs : List (String × Nat)) : Prop :=
  ∃ n ∈ s.nodes, n.key = k ∧ runs n = true ∧ n.resources = rs

theorem within_trace {s : KState} (hk : KeysUnique s) (hr : ResKeyed s) : Within (fun _ => none) (TraceOf s) s :=
  ⟨hk, hr, fun _ _ h => (by cases h), fun n hn hrun => ⟨n, hn, rfl, hrun, rfl⟩⟩

theorem within_used {s : KState} (hk : KeysUnique s) (hr : ResKeyed s) :
    Within (fun name => some (used s name)) (TraceOf s) s :=
  ⟨hk, hr, fun _ _ h => (by cases h; exact Nat.le_refl _), fun n hn hrun => ⟨n, hn, rfl, hrun, rfl⟩⟩

theorem exec_resourcesOK (cfg : KConfig) (r : Req) (s : KState) (res : KState × String)
    (hset : SetRunningOK s cfg r) (hrec : RecycleFits s cfg r) (hdict : DeclKeyed r)
    (hinv : ResInv s cfg) (h : s.exec cfg r = .ok res) : ResInv res.1 cfg := by
  rw [← within_iff] at hinv ⊢
  refine exec_stableW_of (stableW_within cfg) cfg r s res ?_ ?_
    (fun k su n _ _ hpu hn hk hel hh => hk ▸ fits_of_eligible hpu.keys hn hel hh) hset.fits (fun _ _ => trivial) hinv h
  · intro c d sk n s1 s3 hr e1 e2 e3 e4 e5 e6 hp3
    subst hr
    refine within_extras s3 sk (normDecl d) hdict (fun m hf3 hrun => ?_) hp3
    -- the row of `sk` that runs in `s3` is the row `n` of `s`, and `s3` holds no more than `s`
    have ht : Within (fun name => some (used s name)) (TraceOf s) s3 :=
      (stableRes_within _ _).toW.afterRecycle_preserves Sub.top sk (normDecl d) n s1 s3
        ((stableRes_within _ _).toW.reattach_preserves Sub.top sk c rfl s s1 (within_used hinv.keys hinv.keyed) e5) e6
    obtain ⟨n0, hn0, hk0, hr0, hres⟩ := ht.dom m (find_mem hf3) hrun
    have : n0 = n := eq_of_find hinv.keys e2 hn0 (hk0.trans (find_key hf3))
    subst this
    obtain ⟨f1, f2⟩ := hrec sk n0 e1 e2 e3 e4 ((runs_iff n0).1 hr0).2
    refine ⟨fun name a ha => ?_, f2⟩
    have := f1 name a (capOf_iff.1 ha)
    have := ht.le name _ rfl
    rw [← hres]
    show used s3 name + unitsIn name d.resources ≤ a + unitsIn name n0.resources
    omega
  · intro c d sk s1 hr e1 e2 hp1
    subst hr
    refine within_extras s1 sk (normDecl d) hdict (fun m hf1 hrun => ?_) hp1
    rw [create_step_idle e2 m (find_mem hf1) (find_key hf1)] at hrun
    cases hrun

/-- `SetRunningOK` is the weakest condition on a `setState _ RUNNING` request that keeps `ResourcesOK`. -/
theorem setRunning_sharp (cfg : KConfig) (k : Key) (s : KState) (res : KState × String)
    (hinv : KeysUnique s ∧ ResKeyed s ∧ ResourcesOK s cfg) (h : s.exec cfg (.setState k .running) = .ok res)
    (hok : ResourcesOK res.1 cfg) : SetRunningOK s cfg (.setState k .running) := by
  intro n hf hstep hnrun
  rcases writeStepState_ok (unitOut_ok h) with ⟨hnone, _⟩ | ⟨n0, n', hf0, hrw, hres⟩
  · rw [hf] at hnone; cases hnone
  rw [hf] at hf0
  cases hf0
  obtain ⟨c1, c2, c3⟩ := stepRowWrite_cols hrw
  have hmem := find_mem hf
  have hn' : n' ∈ res.1.nodes := by
    rw [hres]
    exact List.mem_map.2 ⟨n, hmem, by rw [if_pos (find_key hf)]⟩
  rw [resourceUnavailable_false_iff]
  intro r hr
  -- the name is defined, because the row runs afterwards
  cases hfa : cfg.available.find? (·.1 = r.1) with
  | none =>
    have := hok.2 n' hn' (c1 ▸ hstep) c3 r (c2 ▸ hr)
    rw [hfa] at this
    cases this
  | some e =>
    obtain ⟨en, ea⟩ := e
    have hen : en = r.1 := find_name hfa
    subst hen
    refine ⟨ea, rfl, ?_⟩
    -- and what runs afterwards, within the table, is what ran before plus the row
    have hle := hok.1 _ ea hfa
    have hrep := used_replace hinv.1 hf n' r.1
    rw [← hres] at hrep
    rw [load_of_runs ((runs_iff n').2 ⟨c1 ▸ hstep, c3⟩), c2, unitsIn_of_mem (hinv.2.1 n hmem) hr,
      load_idle fun hrn => hnrun ((runs_iff n).1 hrn).2] at hrep
    omega

theorem step_resourcesOK (cfg : KConfig) (r : Req) (s : KState)
    (hset : SetRunningOK s cfg r) (hrec : RecycleFits s cfg r) (hdict : DeclKeyed r) (hinv : ResInv s cfg) :
    ResInv (s.step cfg r) cfg :=
  step_of_exec (P := fun t => ResInv t cfg) hinv fun res h => exec_resourcesOK cfg r s res hset hrec hdict hinv h

theorem resourcesOK_congr {s : KState} {cfg cfg' : KConfig} (h : cfg.available = cfg'.available) :
    ResourcesOK s cfg ↔ ResourcesOK s cfg' := by
  unfold ResourcesOK; rw [h]

def Guarded (avail : List (String × Nat)) : KState → List (KConfig × Req) → Prop
  | _, [] => True
  | s, cr :: rest =>
    (cr.1.available = avail ∧ SetRunningOK s cr.1 cr.2 ∧ RecycleFits s cr.1 cr.2 ∧ DeclKeyed cr.2) ∧
      Guarded avail (s.step cr.1 cr.2) rest

theorem run_resourcesOK (cfg : KConfig) (h : List (KConfig × Req)) (s : KState)
    (hg : Guarded cfg.available s h) (hinv : ResInv s cfg) : ResInv (s.run h) cfg :=
  run_of_step (P := fun s => ResInv s cfg) (fun s x _ hg hinv => by
    obtain ⟨⟨ha, h1, h2, h3⟩, hrest⟩ := hg
    obtain ⟨a, b, c⟩ := step_resourcesOK x.1 x.2 s h1 h2 h3 ⟨hinv.1, hinv.2.1, (resourcesOK_congr ha).2 hinv.2.2⟩
    exact ⟨⟨a, b, (resourcesOK_congr ha).1 c⟩, hrest⟩) h s hinv hg

def Quiet : Req → Prop
  | .define _ _ => False
  | .pop _ => False
  | .setState _ .running => False
  | _ => True

theorem exec_quiet_frame (cfg : KConfig) (r : Req) (s : KState) (res : KState × String) (hq : Quiet r)
    (hk : KeysUnique s) (hr : ResKeyed s) (h : s.exec cfg r = .ok res) :
    (∀ name, used res.1 name ≤ used s name) ∧
    (∀ n' ∈ res.1.nodes, runs n' = true → ∃ n ∈ s.nodes, n.key = n'.key ∧ runs n = true ∧ n.resources = n'.resources) := by
  have h1 : Within (fun name => some (used s name)) (TraceOf s) res.1 := by
    refine exec_stableW_of (stableRes_within _ _).toW cfg r s res ?_ ?_ ?_ ?_ (fun _ _ => trivial) (within_used hk hr) h
    · intro c d _ _ _ _ e; subst e; exact hq.elim
    · intro c d _ _ e; subst e; exact hq.elim
    · intro k _ _ e; subst e; exact hq.elim
    · intro k e; subst e; exact hq.elim
  exact ⟨fun name => h1.le name _ rfl, h1.dom⟩

def resourcesOKB (s : KState) (cfg : KConfig) : Bool :=
  (cfg.available.all fun e => !decide (cfg.available.find? (·.1 = e.1) = some e) || decide (used s e.1 ≤ e.2)) &&
  s.nodes.all fun n => !runs n || n.resources.all fun r => (cfg.available.find? (·.1 = r.1)).isSome

theorem resourcesOKB_iff (s : KState) (cfg : KConfig) : resourcesOKB s cfg = true ↔ ResourcesOK s cfg := by
  simp only [resourcesOKB, ResourcesOK, Bool.and_eq_true, List.all_eq_true, bnot_or_iff, decide_eq_true_eq,
    runs_iff, and_imp]
  exact and_congr ⟨fun h name avail hf => h (name, avail) (List.mem_of_find?_eq_some hf) hf,
    fun h e _ hf => h e.1 e.2 hf⟩ Iff.rfl

instance (s : KState) (cfg : KConfig) : Decidable (ResourcesOK s cfg) := decidable_of_iff _ (resourcesOKB_iff s cfg)
instance (s : KState) : Decidable (ResKeyed s) := by unfold ResKeyed; exact inferInstance
instance (s : KState) (cfg : KConfig) (r : Req) : Decidable (SetRunningOK s cfg r) := by
  unfold SetRunningOK; split <;> exact inferInstance

/-! ## The side conditions are needed

Witness states are given explicitly (string functions such as `String.splitOn` in `stepLabel` do not reduce in
the kernel, so a history containing `define` cannot be evaluated by `decide`); each is the state the
history of the corresponding replay file reaches (`/verif/work/proofRes/counterexample_<n>.txt`, checked
with `harness/kreplay.py`: model and implementation agree on every request and on the final dump). -/

namespace Witness

def cfgA : KConfig := { available := [("a", 3)] }
def plan : Key := stepKey "./plan.py"
def sub : Key := stepKey "./sub.py"
def hog : Key := stepKey "hog"
def wait : Key := stepKey "wait"

/-- `counterexample_1.txt` before its last request: the sub-plan that created `hog` has failed, so `hog` is
detached and still RUNNING. -/
def f7State : KState :=
  { nodes := [
      { key := rootKey, creator := some rootKey },
      { key := plan, creator := some rootKey, sstate := .running, need := .plan, safe := true, safeNH := true,
        impliedNeed := .plan, ready := true, checkReady := false },
      { key := sub, creator := some plan, sstate := .failed, need := .plan, safe := true, checkSafe := true,
        safeNH := true, impliedNeed := .plan, ready := true, checkReady := false },
      { key := hog, creator := none, detached := true, sstate := .running, safe := true, checkSafe := true,
        safeNH := true, checkAfter := true, ready := true, checkReady := false, resources := [("a", 1)] },
      { key := fileKey "o1", creator := some hog, detached := true, fstate := .planned },
      { key := wait, creator := some plan, sstate := .running, safe := true, checkSafe := true, safeNH := true,
        ready := true, checkReady := false, resources := [("a", 2)] },
      { key := fileKey "o2", creator := some wait, fstate := .planned }],
    deps := [{ src := hog, snk := fileKey "o1" }, { src := wait, snk := fileKey "o2" }] }

def hogRow : Node :=
  { key := hog, creator := none, detached := true, sstate := .running, safe := true, checkSafe := true,
    safeNH := true, checkAfter := true, ready := true, checkReady := false, resources := [("a", 1)] }

/-- The plan defines `hog` again, same lists, with `a:2`. -/
def hogDecl : StepDecl := { cmd := "hog", out := ["o1"], resources := [("a", 2)] }

theorem f7_inv : ResInv f7State cfgA := by decide +kernel

/-- **F7 at the level of the operation** (`try_recycle` + `after_recycle` + `set_resources`): `hog` goes
from a:1 to a:2 next to `wait` (a:2), 4 of 3. -/
theorem recycle_running_breaks :
    ResInv f7State cfgA ∧
    f7State.find? hog = some hogRow ∧ hogRow.detached = true ∧ hogRow.sstate = .running ∧
    ∃ s', f7State.recycleStep hog plan hogDecl hogRow = .ok s' ∧ ¬ ResourcesOK s' cfgA :=
  ⟨f7_inv, rfl, rfl, rfl, okAnd_not (by decide +kernel)⟩

theorem normDecl_hogDecl : normDecl hogDecl = hogDecl := by simp [normDecl, hogDecl, normPaths_nil, normPaths_singleton]

theorem f7_guard (hl : stepLabel "hog" "." = some "hog") : f7State.defineGuard cfgA plan hogDecl = .ok hog :=
  defineGuard_plain (by decide) rfl rfl rfl rfl rfl hl

theorem f7_can : f7State.canRecycle hog hogDecl = true := by decide +kernel

end Witness

open Witness in
/-- **`RecycleFits` (a fortiori `NoRecycleWhileRunning`) is needed (finding F7), at the level of requests.**
(`hl`: the one string computation of `define_step` that the kernel cannot evaluate,
`Step.adjust_label("hog", ".") = "hog"`; `#eval` and the replay confirm it.) -/
theorem recycle_running_negation (hl : stepLabel "hog" "." = some "hog") :
    (KeysUnique f7State ∧ ResKeyed f7State ∧ ResourcesOK f7State cfgA) ∧
    SetRunningOK f7State cfgA (.define plan hogDecl) ∧ DeclKeyed (.define plan hogDecl) ∧
    ¬ RecycleFits f7State cfgA (.define plan hogDecl) ∧
    ∃ res, f7State.exec cfgA (.define plan hogDecl) = .ok res ∧ ¬ ResourcesOK res.1 cfgA := by
  have hg := f7_guard hl
  refine ⟨f7_inv, trivial, by unfold DeclKeyed hogDecl; decide +kernel, ?_, ?_⟩
  · intro h
    have := (h hog hogRow (by rw [normDecl_hogDecl]; exact hg) rfl rfl (by rw [normDecl_hogDecl]; exact f7_can) rfl).1 "a" 3 rfl
    revert this; decide +kernel
  · rw [exec_define_recycle normDecl_hogDecl hg (n := hogRow) rfl rfl f7_can]
    obtain ⟨_, _, _, _, s', hs', hbad⟩ := recycle_running_breaks
    exact ⟨(s', _), by rw [hs']; rfl, hbad⟩

namespace Witness

def stA : Key := stepKey "A"
def stB : Key := stepKey "B"
def stC : Key := stepKey "C"

/-- `counterexample_2.txt` before its two `set_state` requests: `b` is undefined; `A` runs, `B` and `C` are
ready and PENDING. -/
def s2State : KState :=
  { nodes := [
      { key := rootKey, creator := some rootKey },
      { key := plan, creator := some rootKey, sstate := .running, need := .plan, safe := true, safeNH := true,
        impliedNeed := .plan, ready := true, checkReady := false },
      { key := stA, creator := some plan, sstate := .running, safe := true, safeNH := true, ready := true,
        checkReady := false, resources := [("a", 2)] },
      { key := fileKey "oa", creator := some stA, fstate := .planned },
      { key := stB, creator := some plan, safe := true, safeNH := true, ready := true, checkReady := false,
        resources := [("a", 2)] },
      { key := fileKey "ob", creator := some stB, fstate := .planned },
      { key := stC, creator := some plan, safe := true, safeNH := true, ready := true, checkReady := false,
        resources := [("b", 1)] },
      { key := fileKey "oc", creator := some stC, fstate := .planned }],
    deps := [{ src := stA, snk := fileKey "oa" }, { src := stB, snk := fileKey "ob" }, { src := stC, snk := fileKey "oc" }] }

theorem s2_inv : ResInv s2State cfgA := by decide +kernel

theorem s2_dispatch_refuses :
    (match s2State.popNext cfgA none with | .ok (_, .none) => true | _ => false) = true := by decide +kernel

end Witness

open Witness in
/-- **`SetRunningOK` is needed, for the second conjunct of `ResourcesOK`** (for the first:
`Props.C12.set_state_running_negation`). -/
theorem setState_running_undefined_negation :
    ¬ SetRunningOK s2State cfgA (.setState stC .running) ∧
    ∃ res, s2State.exec cfgA (.setState stC .running) = .ok res ∧
      ∃ n ∈ res.1.nodes, n.key.kind = .step ∧ n.sstate = .running ∧ ∃ r ∈ n.resources, cfgA.available.find? (·.1 = r.1) = none := by
  exact ⟨by decide +kernel, okAnd_dec (by decide +kernel)⟩

namespace Witness
def cfgBig : KConfig := { available := [("a", 4)] }
end Witness

open Witness in
/-- **The resource table must not change.**  A dispatch under `cfgBig` (a:4) hands out `B` and breaks
`ResourcesOK _ cfgA` (a:3). -/
theorem table_change_negation :
    (KeysUnique s2State ∧ ResKeyed s2State ∧ ResourcesOK s2State cfgA ∧ ResourcesOK s2State cfgBig) ∧
    cfgBig.available ≠ cfgA.available ∧
    ∃ res, s2State.exec cfgBig (.pop (some stB)) = .ok res ∧ ¬ ResourcesOK res.1 cfgA ∧ ResourcesOK res.1 cfgBig := by
  exact ⟨⟨s2_inv.1, s2_inv.2.1, s2_inv.2.2, by decide +kernel⟩, by decide +kernel, okAnd_dec (by decide +kernel)⟩

namespace Witness

/-- After `define root ./plan.py`, `pop`, `define ./plan.py A` with `resources = [(a,2),(a,2)]`: a list
that is no dict (the protocol and the implementation cannot express it: `step_resource` has the primary
key `(node, name)`). -/
def dupState : KState :=
  { nodes := [
      { key := rootKey, creator := some rootKey },
      { key := plan, creator := some rootKey, sstate := .running, need := .plan, safe := true, checkSafe := true,
        safeNH := true, impliedNeed := .plan, ready := true, checkReady := false },
      { key := stA, creator := some plan, checkSafe := true, checkAfter := true,
        resources := [("a", 2), ("a", 2)] },
      { key := fileKey "oa", creator := some stA, fstate := .planned }],
    deps := [{ src := stA, snk := fileKey "oa" }] }

end Witness

open Witness in
/-- **`ResKeyed` / `DeclKeyed` is needed in the model** (not a finding: an artefact of `List` for a dict).
`RESOURCE_UNAVAILABLE` tests every row `(name, units)` of the step against the units in use, one at a time;
with two rows for one name each passes (0 + 2 <= 3) and the step is dispatched holding 4 of 3. -/
theorem duplicate_names_negation :
    KeysUnique dupState ∧ ¬ ResKeyed dupState ∧ ResourcesOK dupState cfgA ∧
    ∃ res, dupState.exec cfgA (.pop (some stA)) = .ok res ∧ ¬ ResourcesOK res.1 cfgA := by
  exact ⟨by decide +kernel, by decide +kernel, by decide +kernel, okAnd_not (by decide +kernel)⟩

namespace Witness

/-- After `define root ./plan.py`, `pop`, `define ./plan.py A (a:2)`. -/
def runState : KState :=
  { nodes := [
      { key := rootKey, creator := some rootKey },
      { key := plan, creator := some rootKey, sstate := .running, need := .plan, safe := true, checkSafe := true,
        safeNH := true, impliedNeed := .plan, ready := true, checkReady := false },
      { key := stA, creator := some plan, checkSafe := true, checkAfter := true, resources := [("a", 2)] },
      { key := fileKey "oa", creator := some stA, fstate := .planned }],
    deps := [{ src := stA, snk := fileKey "oa" }] }

end Witness

open Witness in
/-- The hypotheses of `exec_resourcesOK` are met by a RUN dispatch. -/
example : ∃ res, runState.exec cfgA (.pop (some stA)) = .ok res ∧ used res.1 "a" = 2 ∧
    (KeysUnique res.1 ∧ ResKeyed res.1 ∧ ResourcesOK res.1 cfgA) := by
  obtain ⟨res, hr, hu⟩ := okAnd_dec (Q := fun res : KState × String => used res.1 "a" = 2) (r := runState.exec cfgA (.pop (some stA)))
    (by decide +kernel)
  exact ⟨res, hr, hu, exec_resourcesOK cfgA (.pop (some stA)) runState res trivial trivial trivial (by decide +kernel) hr⟩

open Witness in
/-- `Guarded` is met by a history from the empty workflow. -/
example : Guarded cfgA.available KState.init
    [(cfgA, .define rootKey { cmd := "./plan.py", need := .plan, safe := true }), (cfgA, .pop (some plan)),
     (cfgA, .hold plan), (cfgA, .setState plan .succeeded)] := by
  refine ⟨⟨rfl, trivial, ?_, List.nodup_nil⟩, ⟨rfl, trivial, trivial, trivial⟩, ⟨rfl, trivial, trivial, trivial⟩,
    ⟨rfl, trivial, trivial, trivial⟩, trivial⟩
  intro sk n _ hf hd
  have hn := find_mem hf
  simp only [KState.init, List.mem_singleton] at hn
  subst hn
  cases hd

end StepupModel.K.Resources
