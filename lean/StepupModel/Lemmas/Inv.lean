import StepupModel.K.Request
import StepupModel.Lemmas.Do
import StepupModel.Lemmas.KInv
/-!
# Invariants of the kernel model: the request level

On top of `Preserves P f` (`Lemmas/Do.lean`): `ExecInv H P`, kept by every accepted request that meets the guard `H`,
and its passage to histories; `okAnd`, the Boolean form in which a concrete witness is evaluated; `FilesOK s`, the
state/hash consistency `HashInv` of every row (I5 of DESIGN 9/C09), with the row-level facts its stability proof
(`Lemmas/StableInst.lean`) needs, and the two hypotheses on the initialiser of `Trellis.create` (`InitOK`, `KindOK`).
-/
namespace StepupModel.K

theorem unitOut_ok {x : M KState} {res : KState × String} (h : unitOut x = .ok res) : x = .ok res.1 :=
  bind_ok_elim h fun _ ha hb => pure_ok_iff.1 hb ▸ ha

theorem pairOut_ok {α : Type} {x : M (KState × α)} {f : KState × α → String} {res : KState × String}
    (h : (x >>= fun a => pure (a.1, f a)) = .ok res) : ∃ a, x = .ok a ∧ a.1 = res.1 :=
  bind_ok_elim h fun a ha hb => ⟨a, ha, pure_ok_iff.1 hb ▸ rfl⟩

theorem step_of_exec {P : KState → Prop} {cfg : KConfig} {r : Req} {s : KState} (hp : P s)
    (h : ∀ res, s.exec cfg r = .ok res → P res.1) : P (s.step cfg r) := by
  unfold KState.step
  cases hx : s.exec cfg r with
  | error e => exact hp
  | ok res => exact h res hx

theorem run_of_step {P : KState → Prop} {H : KState → List (KConfig × Req) → Prop}
    (hstep : ∀ s cr rest, H s (cr :: rest) → P s → P (s.step cr.1 cr.2) ∧ H (s.step cr.1 cr.2) rest)
    (h : List (KConfig × Req)) (s : KState) (hp : P s) (hh : H s h) : P (s.run h) := by
  unfold KState.run
  induction h generalizing s with
  | nil => exact hp
  | cons x xs ih => exact ih _ (hstep s x xs hh hp).1 (hstep s x xs hh hp).2

/-- `P` is kept by every accepted request that meets the guard `H` on the state it is issued in. -/
def ExecInv (H : KState → Req → Prop) (P : KState → Prop) : Prop :=
  ∀ (cfg : KConfig) (r : Req) (s : KState) (res : KState × String), H s r → P s → s.exec cfg r = .ok res → P res.1

/-- A history whose requests meet the guard `H`, each on the state it is issued in. -/
def Guarded (H : KState → Req → Prop) : KState → List (KConfig × Req) → Prop
  | _, [] => True
  | s, cr :: rest => H s cr.2 ∧ Guarded H (s.step cr.1 cr.2) rest

theorem guarded_true (s : KState) (h : List (KConfig × Req)) : Guarded (fun _ _ => True) s h := by
  induction h generalizing s with
  | nil => trivial
  | cons x xs ih => exact ⟨trivial, ih _⟩

namespace ExecInv
variable {H : KState → Req → Prop} {P : KState → Prop}

theorem step (I : ExecInv H P) (cfg : KConfig) (r : Req) (s : KState) (hg : H s r) (hp : P s) : P (s.step cfg r) :=
  step_of_exec hp fun res => I cfg r s res hg hp

theorem run (I : ExecInv H P) (h : List (KConfig × Req)) (s : KState) (hp : P s) (hg : Guarded H s h) : P (s.run h) :=
  run_of_step (H := Guarded H) (fun s cr _ hg hp => ⟨I.step cr.1 cr.2 s hg.1 hp, hg.2⟩) h s hp hg

/-- Without a guard: every history, accepted and rejected requests alike. -/
theorem run' (I : ExecInv (fun _ _ => True) P) (h : List (KConfig × Req)) (s : KState) (hp : P s) : P (s.run h) :=
  I.run h s hp (guarded_true s h)

theorem weaken {H' : KState → Req → Prop} (I : ExecInv H P) (hH : ∀ s r, H' s r → H s r) : ExecInv H' P :=
  fun cfg r s res hg => I cfg r s res (hH s r hg)

end ExecInv

/-- "The call is accepted and `q` holds of its result", for the evaluation of a concrete witness. -/
def okAnd {α : Type} (q : α → Bool) : M α → Bool
  | .ok a => q a
  | .error _ => false

theorem okAnd_spec {α : Type} {q : α → Bool} {r : M α} (h : okAnd q r = true) : ∃ a, r = .ok a ∧ q a = true := by
  cases r with
  | error e => cases h
  | ok a => exact ⟨a, rfl, h⟩

theorem okAnd_not {α : Type} {Q : α → Prop} [DecidablePred Q] {r : M α} (h : okAnd (fun a => !decide (Q a)) r = true) :
    ∃ a, r = .ok a ∧ ¬ Q a :=
  have ⟨a, e, hq⟩ := okAnd_spec h
  ⟨a, e, by simpa using hq⟩

theorem okAnd_dec {α : Type} {Q : α → Prop} [DecidablePred Q] {r : M α} (h : okAnd (fun a => decide (Q a)) r = true) :
    ∃ a, r = .ok a ∧ Q a :=
  have ⟨a, e, hq⟩ := okAnd_spec h
  ⟨a, e, of_decide_eq_true hq⟩

/-- The first table `CHECK` of `FILE_SCHEMA` (a CONFIRMED, BUILT or OUTDATED file has a hash) and what the trigger
`file_clear_hash` leaves of a MISSING, PLANNED or VOLATILE one (none). -/
def HashInv (st : FileState) (h : Option Nat) : Prop :=
  ((st = .confirmed ∨ st = .built ∨ st = .outdated) → h.isSome) ∧
  ((st = .missing ∨ st = .planned ∨ st = .volatile) → h = none)

def FilesOK (s : KState) : Prop := ∀ n ∈ s.nodes, HashInv n.fstate n.fhash

/-- The property statement is `Props.C09.fileRowWrite_inv`. -/
theorem fileRowWrite_hashInv (n n' : Node) (st : FileState) (nh : Option (Option Nat))
    (h : fileRowWrite n st nh = .ok n') : HashInv n'.fstate n'.fhash := by
  obtain ⟨hcheck, _, rfl⟩ := fileRowWrite_ok_iff.1 h
  constructor
  · intro hst
    have hcl : clearsHash n.fstate st = false := by
      rcases hst with rfl | rfl | rfl <;> simp [clearsHash]
    simp only [hcl, Bool.false_eq_true, if_false]
    cases hh : pickHash nh n.fhash with
    | some v => simp
    | none => exact absurd ⟨hst, by simp [hh]⟩ hcheck
  · intro hst
    have hcl : clearsHash n.fstate st = true := by
      rcases hst with rfl | rfl | rfl <;> simp [clearsHash]
    simp [hcl]

/-- The states a declaration may ask for (`_DECLARABLE_STATES` plus UNDECLARED for a supplied,
undeclared input): none of them promises a hash. -/
def NoHashState (st : FileState) : Prop := st = .undeclared ∨ st = .unconfirmed ∨ st = .planned ∨ st = .volatile

theorem hashInv_noHash {st : FileState} (h : NoHashState st) : HashInv st none := by
  constructor
  · intro hst; rcases h with rfl | rfl | rfl | rfl <;> rcases hst with h | h | h <;> cases h
  · intro _; rfl

theorem declarable_noHash {st : FileState} (h : Generated.Enums.declarableStates.contains st = true) :
    NoHashState st := by
  cases st <;> simp [NoHashState] <;> revert h <;> decide

theorem keptState_fresh (s : KState) (k : Key) (st : FileState) : s.keptState k st false = st := by
  unfold KState.keptState
  split <;> simp

/-- What `Trellis.create` may be asked to initialise a row with: a file in a state that promises no hash.  With `KindOK`
below the hypotheses of `StableW.create_preserves`. -/
def InitOK : Init → Prop
  | .file st => NoHashState st
  | _ => True

/-- `Trellis.create` is called with an initialiser of the node's own class: a file key gets a file
initialiser (every call site of the model obeys this). -/
def KindOK (k : Key) : Init → Prop
  | .file _ => True
  | _ => k.kind ≠ .file

end StepupModel.K
