import StepupModel.Lemmas.BE
import StepupModel.Lemmas.Cond
/-!
# Lemmas about the RPC model (C16)

Framing: `parseOne` on a buffer that holds a whole header is given by `parseOne_header`; from it, an
encoded message parses back to its normal form, a bad header to the error, a strict prefix of a
message to "wait", and more bytes never change a decision.  `pump` of a buffer extended by more
bytes continues, by `feed`, where it stopped (`pump_append`), so feeding chunk by chunk equals parsing the
concatenation (`runChunks_eq`).
Server: the send loop is a sequence of turns (`Turn`, `sendLoop_succ`); what every turn keeps the
loop keeps (`sendLoop_induction`).  Every primitive of the connection machine moves received calls
between the four classes (in flight, queued, replied, dropped) without creating or losing one
(`Same`), keeps `Live` and `Idle`; together this is the invariant `Inv`.  An event is made of these primitives,
the two arms of a call frame and the end of a handler, so what each of them keeps every event keeps (`step_ind`):
`Inv`, and `recvd` only grows.
Without an unpicklable result in the queue (`Clean`) nothing fails and no handler is cancelled (`Kept`)
along events that are `benign`; along `harmless` ones, which add the close request, EOF, `stop()` and the loss of
the writer, `serve()` still does not raise (`Quiet`).
Client: call ids in the pending table are distinct and were issued by the counter (`CInv`).
-/
namespace StepupModel.P.Rpc
open StepupModel.Generated.Rpc

theorem pump_of_need {buf : Bytes} (h : parseOne buf = .need) : pump buf = ([], .buf buf) := by
  rw [pump]; split <;> simp_all

theorem pump_of_bad {buf : Bytes} (h : parseOne buf = .bad) : pump buf = ([], .bad) := by
  rw [pump]; split <;> simp_all

theorem pump_of_msg {buf : Bytes} {m : Msg} {rest : Bytes} (h : parseOne buf = .msg m rest) :
    pump buf = (m :: (pump rest).1, (pump rest).2) := by
  rw [pump]; split <;> simp_all

theorem headerSize_eq : headerSize = fieldSize + fieldSize := by decide
theorem maxBodySize_lt : maxBodySize < 256 ^ fieldSize := by decide

theorem parseOne_short {buf : Bytes} (h : buf.length < headerSize) : parseOne buf = .need := if_pos h

theorem parseOne_header {a b : Bytes} (y : Bytes) (ha : a.length = fieldSize) (hb : b.length = fieldSize) :
    parseOne (a ++ (b ++ y)) =
      if maxBodySize < fromBE b then .bad
      else if y.length < fromBE b then .need
      else .msg ⟨fromBE a, if fromBE b = 0 then none else some (y.take (fromBE b))⟩ (y.drop (fromBE b)) := by
  have hl : (a ++ (b ++ y)).length = headerSize + y.length := by
    rw [List.length_append, List.length_append, ha, hb, headerSize_eq, Nat.add_assoc]
  have hd : (a ++ (b ++ y)).drop headerSize = y := by
    rw [headerSize_eq, ← List.drop_drop, List.drop_left' ha, List.drop_left' hb]
  simp only [parseOne, hl, Nat.not_lt.2 (Nat.le_add_right _ _), if_false, List.take_left' ha,
    List.drop_left' ha, List.take_left' hb, Nat.add_lt_add_iff_left, ← List.drop_drop, hd]

theorem exists_header {buf : Bytes} (h : ¬ buf.length < headerSize) :
    ∃ a b y, a.length = fieldSize ∧ b.length = fieldSize ∧ buf = a ++ (b ++ y) := by
  rw [headerSize_eq, Nat.not_lt] at h
  refine ⟨buf.take fieldSize, (buf.drop fieldSize).take fieldSize, (buf.drop fieldSize).drop fieldSize,
    List.length_take_of_le (Nat.le_trans (Nat.le_add_right _ _) h),
    List.length_take_of_le (List.length_drop ▸ Nat.le_sub_of_add_le h), ?_⟩
  rw [List.take_append_drop, List.take_append_drop]

/-- What more bytes leave of a decision: an error stays, a message stays with the new bytes after it. -/
def Parse.extend : Parse → Bytes → Parse → Prop
  | .need, _, _ => True
  | .bad, _, p => p = .bad
  | .msg m rest, x, p => p = .msg m (rest ++ x)

theorem parseOne_append (buf x : Bytes) : (parseOne buf).extend x (parseOne (buf ++ x)) := by
  by_cases hl : buf.length < headerSize
  · rw [parseOne_short hl]; trivial
  · obtain ⟨a, b, y, ha, hb, rfl⟩ := exists_header hl
    rw [List.append_assoc, List.append_assoc, parseOne_header (y ++ x) ha hb, parseOne_header y ha hb]
    by_cases hbad : maxBodySize < fromBE b
    · rw [if_pos hbad, if_pos hbad]; rfl
    · rw [if_neg hbad, if_neg hbad]
      by_cases hlen : y.length < fromBE b
      · rw [if_pos hlen]; trivial
      · have hle := Nat.not_lt.1 hlen
        rw [if_neg hlen, if_neg (Nat.not_lt.2 (Nat.le_trans hle (List.length_append ▸ Nat.le_add_right _ _))),
          List.take_append_of_le_length hle, List.drop_append_of_le_length hle]
        rfl

theorem parseOne_append_bad {buf x : Bytes} (h : parseOne buf = .bad) : parseOne (buf ++ x) = .bad := by
  have := parseOne_append buf x; rwa [h] at this

theorem parseOne_append_msg {buf x : Bytes} {m : Msg} {rest : Bytes} (h : parseOne buf = .msg m rest) :
    parseOne (buf ++ x) = .msg m (rest ++ x) := by
  have := parseOne_append buf x; rwa [h] at this

theorem pump_append (buf x : Bytes) :
    pump (buf ++ x) = ((pump buf).1 ++ (feed (pump buf).2 x).1, (feed (pump buf).2 x).2) := by
  induction h : buf.length using Nat.strongRecOn generalizing buf with
  | _ n ih =>
    cases hp : parseOne buf with
    | need => rw [pump_of_need hp]; simp [feed]
    | bad => rw [pump_of_bad hp, pump_of_bad (parseOne_append_bad hp)]; simp [feed]
    | msg m rest =>
      rw [pump_of_msg hp, pump_of_msg (parseOne_append_msg hp)]
      have hlt := parseOne_msg_shrinks hp
      rw [ih rest.length (by omega) rest rfl]
      simp

theorem pump_append_flatten (buf : Bytes) (cs : List Bytes) :
    pump (buf ++ cs.flatten) =
      ((pump buf).1 ++ (runChunks (pump buf).2 cs).1, (runChunks (pump buf).2 cs).2) := by
  induction cs generalizing buf with
  | nil => simp [runChunks]
  | cons c cs ih =>
    rw [List.flatten_cons, ← List.append_assoc, ih, pump_append]
    simp [runChunks]

theorem pump_nil : pump [] = ([], .buf []) := pump_of_need (parseOne_short (by decide))

theorem runChunks_eq (cs : List Bytes) : runChunks (.buf []) cs = pump cs.flatten := by
  simpa [pump_nil] using (pump_append_flatten [] cs).symm

theorem parseOne_encode (m : Msg) (x : Bytes) (h : m.WF) :
    parseOne (encodeMessage m ++ x) = .msg m.norm x := by
  have hs : (m.body.getD []).length < 256 ^ fieldSize := Nat.lt_of_le_of_lt h.2 maxBodySize_lt
  rw [encodeMessage, List.append_assoc, List.append_assoc, parseOne_header _ (be_length _ _) (be_length _ _),
    fromBE_be _ _ h.1, fromBE_be _ _ hs, if_neg (Nat.not_lt.2 h.2),
    if_neg (Nat.not_lt.2 (List.length_append ▸ Nat.le_add_right _ _)), List.take_left' rfl, List.drop_left' rfl]
  obtain ⟨i, _ | _ | _⟩ := m <;> rfl

theorem pump_encodes (msgs : List Msg) (x : Bytes) (h : ∀ m ∈ msgs, m.WF) :
    pump ((msgs.map encodeMessage).flatten ++ x) = (msgs.map Msg.norm ++ (pump x).1, (pump x).2) := by
  induction msgs with
  | nil => simp
  | cons m ms ih =>
    simp only [List.map_cons, List.flatten_cons, List.append_assoc]
    rw [pump_of_msg (parseOne_encode m _ (h m (by simp))), ih (fun m' hm' => h m' (by simp [hm']))]
    simp

theorem runChunks_encodes (msgs : List Msg) (x : Bytes) (chunks : List Bytes) (hwf : ∀ m ∈ msgs, m.WF)
    (hsplit : chunks.flatten = (msgs.map encodeMessage).flatten ++ x) :
    runChunks (.buf []) chunks = (msgs.map Msg.norm ++ (pump x).1, (pump x).2) := by
  rw [runChunks_eq, hsplit, pump_encodes msgs x hwf]

/-- A header whose size field exceeds the limit. -/
def BadHeader (hdr : Bytes) : Prop :=
  hdr.length = headerSize ∧ maxBodySize < fromBE ((hdr.drop fieldSize).take fieldSize)

theorem parseOne_badHeader (hdr rest : Bytes) (h : BadHeader hdr) : parseOne (hdr ++ rest) = .bad := by
  obtain ⟨a, b, y, ha, hb, rfl⟩ := exists_header (Nat.not_lt.2 (Nat.le_of_eq h.1.symm))
  have hbad := h.2
  rw [List.drop_left' ha, List.take_left' hb] at hbad
  rw [List.append_assoc, List.append_assoc, parseOne_header _ ha hb, if_pos hbad]

theorem parseOne_truncated (m : Msg) (t : Bytes) (h : m.WF) (hp : t <+: encodeMessage m)
    (hlt : t.length < (encodeMessage m).length) : parseOne t = .need := by
  obtain ⟨s, hs⟩ := hp
  have he := parseOne_encode m [] h
  rw [List.append_nil, ← hs] at he
  cases ht : parseOne t with
  | need => rfl
  | bad => rw [parseOne_append_bad ht] at he; cases he
  | msg m' rest =>
    rw [parseOne_append_msg ht] at he
    injection he with _ hnil
    rw [← hs, List.length_append, (List.append_eq_nil_iff.1 hnil).2] at hlt
    exact absurd hlt (Nat.lt_irrefl _)

/-- The send loop has nothing to do: it has ended, waits for the writer to drain, or waits for a reply. -/
def Waits (c : Conn) : Prop :=
  c.sendAlive = false ∨ c.sendBlocked = true ∨ (c.queue = [] ∧ c.stopped = false)

/-- One turn of `_send_loop` that changes the state: the loop ends on the stop event, or takes the
head `d` of the queue.  The flag says whether the loop goes on to the next turn. -/
inductive Turn : Conn → Conn → Bool → Prop
  | finish {c} : c.sendBlocked = false → c.queue = [] → c.stopped = true →
      Turn c { c with sendAlive := false } false
  | lostFail {c d q} : c.queue = d :: q → c.lost = true → d.out = .unpicklable →
      Turn c (failConn { c with queue := q, dropped := c.dropped ++ [d.call] } .unpicklable) false
  | lostEnd {c d q} : c.queue = d :: q → c.lost = true → d.out ≠ .unpicklable →
      Turn c (endSend { c with queue := q, dropped := c.dropped ++ [d.call] }) false
  | drainThenFail {c d q} : c.sendAlive = true → c.queue = d :: q → c.lost = false → d.out = .unpicklable →
      Turn c { c with queue := q, sent := c.sent ++ [⟨d.call, d.out.kind⟩], sendBlocked := true,
                      failAfterDrain := true } false
  | fail {c d q} : c.queue = d :: q → c.lost = false → d.out = .unpicklable →
      Turn c (failConn { c with queue := q, sent := c.sent ++ [⟨d.call, d.out.kind⟩] } .unpicklable) false
  | block {c d q} : c.sendAlive = true → c.queue = d :: q → c.lost = false → d.out ≠ .unpicklable →
      Turn c { c with queue := q, sent := c.sent ++ [⟨d.call, d.out.kind⟩], sendBlocked := true,
                      paused := true } false
  | next {c d q} : c.sendAlive = true → c.sendBlocked = false → c.queue = d :: q → c.lost = false →
      d.out ≠ .unpicklable → Turn c { c with queue := q, sent := c.sent ++ [⟨d.call, d.out.kind⟩] } true

variable {cfg : Cfg} {c c' : Conn} {more : Bool} {d : Done} {q : List Done}

theorem sendLoop_succ (n : Nat) (c : Conn) :
    (Waits c ∧ sendLoop (n + 1) c = c) ∨
    ∃ c' more, Turn c c' more ∧ sendLoop (n + 1) c = if more then sendLoop n c' else c' := by
  rw [sendLoop]
  by_cases ha : c.sendAlive = true
  case neg => exact .inl ⟨.inl (eq_false_of_ne_true ha), by simp [ha]⟩
  by_cases hb : c.sendBlocked = true
  case pos => exact .inl ⟨.inr (.inl hb), by simp [hb]⟩
  have hb := eq_false_of_ne_true hb
  rw [if_neg (by simp [ha, hb])]
  split
  next hq =>
    by_cases hs : c.stopped = true
    · exact .inr ⟨_, _, .finish hb hq hs, if_pos hs⟩
    · exact .inl ⟨.inr (.inr ⟨hq, eq_false_of_ne_true hs⟩), if_neg hs⟩
  next d q hq =>
    refine .inr ?_
    by_cases hl : c.lost = true
    · rw [if_pos hl]
      split
      next hu => exact ⟨_, _, .lostFail hq hl hu, rfl⟩
      next hu => exact ⟨_, _, .lostEnd hq hl (fun h => hu h), rfl⟩
    · rw [if_neg hl]
      have hl := eq_false_of_ne_true hl
      split
      next hu =>
        by_cases hp : c.paused = true
        · exact ⟨_, _, .drainThenFail ha hq hl hu, if_pos hp⟩
        · exact ⟨_, _, .fail hq hl hu, if_neg hp⟩
      next hu =>
        split
        · exact ⟨_, _, .block ha hq hl (fun h => hu h), rfl⟩
        · exact ⟨_, _, .next ha hb hq hl (fun h => hu h), rfl⟩

theorem sendLoop_induction {P : Conn → Prop} (turn : ∀ {c c' more}, Turn c c' more → P c → P c')
    (n : Nat) (h : P c) : P (sendLoop n c) := by
  induction n generalizing c with
  | zero => exact h
  | succ n ih =>
    obtain ⟨_, e⟩ | ⟨c', more, t, e⟩ := sendLoop_succ n c
    · rw [e]; exact h
    · rw [e]
      cases more
      · exact turn t h
      · exact ih (turn t h)

theorem sendLoop_blocked (n : Nat) (hb : c.sendBlocked = true) : sendLoop n c = c := by
  cases n with
  | zero => rfl
  | succ n => rw [sendLoop, hb, Bool.or_true, if_pos rfl]

def Conn.calls (c : Conn) : List Call :=
  c.inflight ++ (c.queue.map (·.call) ++ (c.sent.map (·.call) ++ c.dropped))

/-- `c'` accounts for the same received calls as `c` (they may have moved between the classes). -/
structure Same (c c' : Conn) : Prop where
  recvd : c'.recvd = c.recvd
  invoked : c'.invoked = c.invoked
  calls : ∀ x, c'.calls.count x = c.calls.count x

namespace Same

theorem refl (c : Conn) : Same c c := ⟨rfl, rfl, fun _ => rfl⟩
theorem trans {a b c : Conn} (h1 : Same a b) (h2 : Same b c) : Same a c :=
  ⟨h2.recvd.trans h1.recvd, h2.invoked.trans h1.invoked, fun x => (h2.calls x).trans (h1.calls x)⟩

end Same

theorem same_failConn (c : Conn) (f : Failure) : Same c (failConn c f) :=
  ⟨rfl, rfl, fun x => by simp only [failConn, Conn.calls, List.count_append, List.map_nil, List.count_nil]; omega⟩

theorem same_endSend (c : Conn) : Same c (endSend c) :=
  ⟨rfl, rfl, fun x => by simp only [endSend, Conn.calls, List.count_append, List.map_nil, List.count_nil]; omega⟩

theorem same_drop (hq : c.queue = d :: q) :
    Same c { c with queue := q, dropped := c.dropped ++ [d.call] } :=
  ⟨rfl, rfl, fun x => by
    simp only [Conn.calls, hq, List.count_append, List.map_cons, List.count_cons, List.count_nil]; omega⟩

theorem same_write (hq : c.queue = d :: q) (k : RKind) :
    Same c { c with queue := q, sent := c.sent ++ [⟨d.call, k⟩] } :=
  ⟨rfl, rfl, fun x => by
    simp only [Conn.calls, hq, List.count_append, List.map_append, List.map_cons, List.map_nil, List.count_cons,
      List.count_nil]; omega⟩

theorem same_turn (t : Turn c c' more) : Same c c' := by
  cases t with
  | finish => exact ⟨rfl, rfl, fun _ => rfl⟩
  | lostFail hq => exact (same_drop hq).trans (same_failConn _ _)
  | lostEnd hq => exact (same_drop hq).trans (same_endSend _)
  | fail hq => exact (same_write hq _).trans (same_failConn _ _)
  | drainThenFail _ hq | block _ hq | next _ _ hq => exact (same_write hq _).trans ⟨rfl, rfl, fun _ => rfl⟩

theorem same_sendLoop (n : Nat) (c : Conn) : Same c (sendLoop n c) :=
  sendLoop_induction (fun t h => h.trans (same_turn t)) n (Same.refl c)

/-- As long as the stop event is not set nothing failed, both loops run and nothing was dropped. -/
def Live (c : Conn) : Prop :=
  c.stopped = false → c.failed = none ∧ c.sendAlive = true ∧ c.recvAlive = true ∧ c.dropped = []

/-- The send loop only leaves replies in the queue while it waits for the writer to drain. -/
def Idle (c : Conn) : Prop :=
  (c.sendBlocked = false → c.queue = []) ∧ (c.sendBlocked = true → c.sendAlive = true)

theorem idle_of_ended (hb : c.sendBlocked = false) (hq : c.queue = []) : Idle c :=
  ⟨fun _ => hq, fun h => absurd (hb.symm.trans h) Bool.noConfusion⟩

theorem live_of_stopped (h : c.stopped = true) : Live c :=
  fun hs => absurd (h.symm.trans hs) Bool.noConfusion

theorem live_turn (t : Turn c c' more) (h : Live c) : Live c' := by
  cases t with
  | finish _ _ hs => exact live_of_stopped hs
  | lostFail | lostEnd | fail => exact live_of_stopped rfl
  | drainThenFail | block | next => exact h

theorem live_sendLoop (n : Nat) (c : Conn) (h : Live c) : Live (sendLoop n c) :=
  sendLoop_induction live_turn n h

theorem idle_of_waits (ha : c.sendAlive = true) (w : Waits c) : Idle c := by
  obtain ha' | hb | ⟨hq, _⟩ := w
  · exact absurd (ha.symm.trans ha') Bool.noConfusion
  · exact ⟨fun hb' => absurd (hb'.symm.trans hb) Bool.noConfusion, fun _ => ha⟩
  · exact ⟨fun _ => hq, fun _ => ha⟩

theorem idle_turn (t : Turn c c' false) : Idle c' := by
  cases t with
  | finish hb hq => exact idle_of_ended hb hq
  | lostFail | lostEnd | fail => exact idle_of_ended rfl rfl
  | drainThenFail ha | block ha => exact ⟨fun h => (nomatch h), fun _ => ha⟩

/-- With fuel for the whole queue the loop ends idle: after its last turn, or at once when it has nothing to do. -/
theorem idle_sendLoop (n : Nat) (c : Conn) (hf : c.queue.length < n) (h0 : Waits c → Idle c) :
    Idle (sendLoop n c) := by
  induction n generalizing c with
  | zero => cases hf
  | succ n ih =>
    obtain ⟨w, e⟩ | ⟨c', more, t, e⟩ := sendLoop_succ n c
    · rw [e]; exact h0 w
    · rw [e]
      cases more
      · exact idle_turn t
      · cases t with
        | next ha _ hq => exact ih _ (by rw [hq] at hf; exact Nat.lt_of_succ_lt_succ hf) (idle_of_waits ha)

theorem callDecision_invoke {table : List (Name × Bool)} {name : Name} {b : Bool} :
    callDecision table name b = .invoke ↔ table.lookup name = some true ∧ b = true := by
  unfold callDecision
  cases h : table.lookup name with
  | none => simp
  | some f => cases f <;> cases b <;> simp

structure Inv (cfg : Cfg) (c : Conn) : Prop where
  acct : ∀ x, c.calls.count x = c.recvd.count x
  seqs : c.recvd.map (·.seq) = List.range c.recvd.length
  allowed : ∀ p ∈ c.invoked, cfg.table.lookup p.2 = some true
  live : Live c
  idle : Idle c

theorem inv_init (cfg : Cfg) : Inv cfg {} where
  acct := fun _ => rfl
  seqs := rfl
  allowed := fun _ h => by cases h
  live := by intro _; exact ⟨rfl, rfl, rfl, rfl⟩
  idle := ⟨fun _ => rfl, fun h => by cases h⟩

theorem inv_flags (h : Inv cfg c) (dec : Dec) (paused lost : Bool) :
    Inv cfg { c with dec := dec, paused := paused, lost := lost } :=
  ⟨h.acct, h.seqs, h.allowed, h.live, h.idle⟩

theorem inv_of_same (h : Inv cfg c) (s : Same c c') (l : Live c') (i : Idle c') :
    Inv cfg c' :=
  ⟨fun x => by rw [s.calls, s.recvd, h.acct], by rw [s.recvd]; exact h.seqs,
   by rw [s.invoked]; exact h.allowed, l, i⟩

theorem inv_failConn (h : Inv cfg c) (f : Failure) : Inv cfg (failConn c f) :=
  inv_of_same h (same_failConn c f) (live_of_stopped rfl) (idle_of_ended rfl rfl)

theorem inv_endSend (h : Inv cfg c) : Inv cfg (endSend c) :=
  inv_of_same h (same_endSend c) (live_of_stopped rfl) (idle_of_ended rfl rfl)

theorem inv_runSend (acct : ∀ x, c.calls.count x = c.recvd.count x)
    (seqs : c.recvd.map (·.seq) = List.range c.recvd.length)
    (allowed : ∀ p ∈ c.invoked, cfg.table.lookup p.2 = some true) (live : Live c) (h0 : Waits c → Idle c) :
    Inv cfg (runSend c) :=
  have s := same_sendLoop (c.queue.length + 1) c
  ⟨fun x => by rw [runSend, s.calls, s.recvd, acct], by rw [runSend, s.recvd]; exact seqs,
   by rw [runSend, s.invoked]; exact allowed, live_sendLoop _ _ live,
   idle_sendLoop _ _ (Nat.lt_succ_self _) h0⟩

theorem inv_stopNow (h : Inv cfg c) : Inv cfg (stopNow c) :=
  inv_runSend h.acct h.seqs h.allowed (live_of_stopped rfl) (fun _ => h.idle)

theorem complete_recvd_invoked (c : Conn) (call : Call) (o : Outcome) :
    (complete c call o).recvd = c.recvd ∧ (complete c call o).invoked = c.invoked :=
  ite_both (fun c' : Conn => c'.recvd = c.recvd ∧ c'.invoked = c.invoked)
    ⟨(same_sendLoop _ _).recvd, (same_sendLoop _ _).invoked⟩ ⟨rfl, rfl⟩

theorem inv_complete {call : Call} (o : Outcome)
    (acct : ∀ x, c.calls.count x + [call].count x = c.recvd.count x)
    (seqs : c.recvd.map (·.seq) = List.range c.recvd.length)
    (allowed : ∀ p ∈ c.invoked, cfg.table.lookup p.2 = some true) (live : Live c) (idle : Idle c) :
    Inv cfg (complete c call o) := by
  refine ite_ind (Inv cfg) (fun ha => ?_) (fun ha => ?_)
  · refine inv_runSend (fun x => ?_) seqs allowed live (idle_of_waits ha)
    simp only [← acct, Conn.calls, List.count_append, List.map_append, List.map_cons, List.map_nil]; omega
  · refine ⟨fun x => ?_, seqs, allowed, fun hs => absurd (live hs).2.1 ha, idle⟩
    simp only [← acct, Conn.calls, List.count_append]; omega

theorem stepFrame_call_ind (P : Conn → Prop) {id : Nat} {name : Name} {b : Bool}
    (dead : P c)
    (invoke : callDecision cfg.table name b = .invoke →
      P { c with recvd := c.recvd ++ [⟨c.recvd.length, id⟩], inflight := c.inflight ++ [⟨c.recvd.length, id⟩],
                 invoked := c.invoked ++ [(⟨c.recvd.length, id⟩, name)] })
    (reject : ∀ d, P (complete { c with recvd := c.recvd ++ [⟨c.recvd.length, id⟩] } ⟨c.recvd.length, id⟩
      (.rejected d))) :
    P (stepFrame cfg c (.call id name b)) := by
  refine ite_both P dead ?_
  cases hd : callDecision cfg.table name b with
  | invoke => simp only [hd]; exact invoke hd
  | unknown | notAllowed | badArgs => simp only [hd]; exact reject _

theorem settleRecv_eq (c : Conn) : settleRecv c = { c with recvAlive := c.recvAlive && !c.stopped } := by
  obtain ⟨_, _, _, _, _, _, _, _, stopped, _, _, _, _, _, _, _⟩ := c
  cases stopped <;> simp [settleRecv]

theorem run_append (cfg : Cfg) (c : Conn) (a b : List Ev) : run cfg c (a ++ b) = run cfg (run cfg c a) b :=
  List.foldl_append

theorem stepCore_complete_ind (P : Conn → Prop) {k : Nat} {o : Outcome} (same : P c)
    (done : ∀ call name, c.invoked[k]? = some (call, name) → call ∈ c.inflight →
      P (complete { c with inflight := c.inflight.erase call } call o)) :
    P (stepCore cfg c (.complete k o)) := by
  simp only [stepCore]
  split
  · exact same
  next call name hk => exact ite_ind P (done call name hk) (fun _ => same)

/-- Induction over what one event does to the connection: `P` holds after `step` when it held before and is
kept by each thing a step is made of.  `flags`: writes to the fields no loop reads back; `fail`: one of the loops
raises; `lose`: the send loop, waiting in `drain()`, meets the lost writer; `stop`: the stop event is set (close
request, EOF, `stop()`); `drained`: the send loop, waiting in `drain()`, goes on; `invoke`, `reject`: the two arms
of a call frame; `done`: a handler in flight ends; `settle`: the receive loop notices the stop event.  A fact
about two states is `P := R c ·` at the first state `c`. -/
theorem step_ind (P : Conn → Prop)
    (flags : ∀ {c : Conn} dec paused lost, P c → P { c with dec := dec, paused := paused, lost := lost })
    (fail : ∀ {c : Conn} f, P c → P (failConn c f))
    (lose : ∀ {c : Conn}, c.sendBlocked = true → P c → P (endSend c))
    (stop : ∀ {c : Conn}, P c → P (stopNow c))
    (drained : ∀ {c : Conn}, c.sendBlocked = true → P c → P (runSend { c with sendBlocked := false }))
    (invoke : ∀ {c : Conn} id name, cfg.table.lookup name = some true → P c →
      P { c with recvd := c.recvd ++ [⟨c.recvd.length, id⟩], inflight := c.inflight ++ [⟨c.recvd.length, id⟩],
                 invoked := c.invoked ++ [(⟨c.recvd.length, id⟩, name)] })
    (reject : ∀ {c : Conn} id d, P c →
      P (complete { c with recvd := c.recvd ++ [⟨c.recvd.length, id⟩] } ⟨c.recvd.length, id⟩ (.rejected d)))
    (done : ∀ {c : Conn} call o, call ∈ c.inflight → P c →
      P (complete { c with inflight := c.inflight.erase call } call o))
    (settle : ∀ {c : Conn}, c.stopped = true → P c → P { c with recvAlive := false })
    (h : P c) (e : Ev) : P (step cfg c e) := by
  have frame {c : Conn} (f : Frame) (h : P c) : P (stepFrame cfg c f) := by
    cases f with
    | close id => exact ite_both P h (stop h)
    | notCall id => exact ite_both P h (fail _ h)
    | call id name b =>
      exact stepFrame_call_ind P h (fun hd => invoke id name (callDecision_invoke.mp hd).1 h) (fun d => reject id d h)
  have core : P (stepCore cfg c e) := by
    cases e with
    | frame f => exact frame f h
    | badHeader => exact ite_both P (fail _ h) h
    | bytes b =>
      have h1 := foldl_ind P _ ((feed c.dec b).1.map cfg.frameOf) (fun _ f _ h => frame f h)
        (flags (feed c.dec b).2 c.paused c.lost h)
      exact ite_ind P (fun _ => h) fun _ => ite_both P (fail _ h1) h1
    | eof => exact ite_both P (stop h) h
    | stop => exact ite_both P h (stop h)
    | complete k o => exact stepCore_complete_ind P h fun call _ _ hin => done call o hin h
    | tick => exact h
    | pause => exact flags c.dec true c.lost h
    | resume =>
      have h0 := flags c.dec false c.lost h
      exact ite_ind P (fun hb => ite_both P (fail _ h0) (drained hb h0)) (fun _ => h0)
    | lose =>
      have h0 := flags c.dec c.paused true h
      exact ite_ind P (fun hb => ite_both P (fail _ h0) (lose hb h0)) (fun _ => h0)
  exact ite_ind P (fun hs => settle hs core) (fun _ => core)

theorem seqs_push (h : c.recvd.map (·.seq) = List.range c.recvd.length) (id : Nat) :
    (c.recvd ++ [(⟨c.recvd.length, id⟩ : Call)]).map (·.seq) =
      List.range (c.recvd ++ [(⟨c.recvd.length, id⟩ : Call)]).length := by
  rw [List.map_append, h, List.length_append]; exact List.range_succ.symm

theorem inv_step (h : Inv cfg c) (e : Ev) : Inv cfg (step cfg c e) := by
  refine step_ind (Inv cfg) (flags := fun d p l h => inv_flags h d p l) (fail := fun f h => inv_failConn h f)
    (lose := fun _ => inv_endSend) (stop := inv_stopNow)
    (drained := fun hb h => inv_runSend h.acct h.seqs h.allowed h.live (idle_of_waits (h.idle.2 hb)))
    (invoke := fun id name hn h => ⟨fun x => ?_, seqs_push h.seqs id, fun p hp => ?_, h.live, h.idle⟩)
    (reject := fun id d h => inv_complete _ (fun x => ?_) (seqs_push h.seqs id) h.allowed h.live h.idle)
    (done := fun call o hin h => inv_complete o (fun x => ?_) h.seqs h.allowed h.live h.idle)
    (settle := fun hs h => ⟨h.acct, h.seqs, h.allowed, live_of_stopped hs, h.idle⟩) h e
  · simp only [← h.acct, Conn.calls, List.count_append]; omega
  · obtain hp | hp := List.mem_append.1 hp
    · exact h.allowed p hp
    · cases List.mem_singleton.1 hp
      exact hn
  · rw [List.count_append, ← h.acct]; rfl
  · have := count_erase_add hin x
    simp only [← h.acct, Conn.calls, List.count_append]; omega

theorem inv_run (evs : List Ev) (h : Inv cfg c) : Inv cfg (run cfg c evs) :=
  foldl_ind (Inv cfg) _ evs (fun _ e _ h => inv_step h e) h

theorem nodup_recvd (h : Inv cfg c) : c.recvd.Nodup := by
  have : (c.recvd.map (·.seq)).Nodup := by rw [h.seqs]; exact List.nodup_range
  exact List.Pairwise.of_map (·.seq) (fun a b hne heq => hne (congrArg _ heq)) this

theorem calls_perm (h : Inv cfg c) : c.calls.Perm c.recvd :=
  List.perm_iff_count.mpr h.acct

theorem count_calls_eq (h : Inv cfg c) (x : Call) :
    c.inflight.count x + (c.queue.map (·.call)).count x + (c.sent.map (·.call)).count x + c.dropped.count x =
      if x ∈ c.recvd then 1 else 0 := by
  rw [← (nodup_recvd h).count, ← h.acct, Conn.calls, List.count_append, List.count_append, List.count_append,
    Nat.add_assoc, Nat.add_assoc]

theorem calls_nodup (h : Inv cfg c) : c.calls.Nodup := (calls_perm h).nodup_iff.2 (nodup_recvd h)

theorem sent_sublist (c : Conn) : (c.sent.map (·.call)).Sublist c.calls :=
  ((List.sublist_append_left _ _).trans (List.sublist_append_right _ _)).trans (List.sublist_append_right _ _)

theorem sent_nodup (h : Inv cfg c) : (c.sent.map (·.call)).Nodup := (calls_nodup h).sublist (sent_sublist c)

theorem sent_mem_recvd (h : Inv cfg c) (x : Call) (hx : x ∈ c.sent.map (·.call)) : x ∈ c.recvd :=
  (calls_perm h).subset ((sent_sublist c).subset hx)

theorem sent_perm_of_live (h : Inv cfg c) (hs : c.stopped = false)
    (hi : c.inflight = []) (hb : c.sendBlocked = false) : (c.sent.map (·.call)).Perm c.recvd := by
  refine List.perm_iff_count.mpr fun x => ?_
  rw [← h.acct, Conn.calls, hi, h.idle.1 hb, (h.live hs).2.2.2, List.nil_append, List.map_nil, List.nil_append,
    List.append_nil]

theorem sendLoop_nil (n : Nat) (c : Conn) (hq : c.queue = []) : (sendLoop n c).sent = c.sent := by
  cases n with
  | zero => rfl
  | succ n =>
    obtain ⟨_, e⟩ | ⟨c', more, t, e⟩ := sendLoop_succ n c
    · rw [e]
    · rw [e]
      cases t with
      | finish => rfl
      | lostFail h | lostEnd h | drainThenFail _ h | fail h | block _ h | next _ _ h => rw [hq] at h; cases h

theorem complete_writes (c : Conn) (call : Call) (o : Outcome) (ha : c.sendAlive = true)
    (hb : c.sendBlocked = false) (hq : c.queue = []) (hl : c.lost = false) :
    (complete c call o).sent = c.sent ++ [⟨call, o.kind⟩] := by
  rw [complete, if_pos ha, runSend, sendLoop, if_neg (by simp [ha, hb]), hq]
  simp only [List.nil_append]
  rw [if_neg (by simp [hl])]
  split
  · split <;> rfl
  · split
    · rfl
    · exact sendLoop_nil _ _ rfl

theorem step_complete_writes (h : Inv cfg c) (k : Nat) (o : Outcome) (call : Call)
    (name : Name) (hk : c.invoked[k]? = some (call, name)) (hin : call ∈ c.inflight)
    (ha : c.sendAlive = true) (hb : c.sendBlocked = false) (hl : c.lost = false) :
    (step cfg c (.complete k o)).sent = c.sent ++ [⟨call, o.kind⟩] := by
  rw [step, settleRecv_eq]
  simp only [stepCore, hk, hin, if_true]
  exact complete_writes _ call o ha hb (h.idle.1 hb) hl

def Clean (c : Conn) : Prop := ∀ d ∈ c.queue, d.out ≠ .unpicklable

/-- What a step leaves alone that writes or drops picklable replies only: the connection does not
fail, no handler is cancelled, and the stop event is set only when the writer is lost. -/
structure Kept (c c' : Conn) : Prop where
  clean : Clean c'
  cancelled : c'.cancelled = c.cancelled
  failed : c'.failed = c.failed
  failAfterDrain : c'.failAfterDrain = c.failAfterDrain
  lost : c'.lost = c.lost
  stopped : c.lost = false → c'.stopped = c.stopped

namespace Kept

theorem trans {a b c : Conn} (h1 : Kept a b) (h2 : Kept b c) : Kept a c :=
  ⟨h2.clean, h2.cancelled.trans h1.cancelled, h2.failed.trans h1.failed,
   h2.failAfterDrain.trans h1.failAfterDrain, h2.lost.trans h1.lost,
   fun hl => (h2.stopped (h1.lost.trans hl)).trans (h1.stopped hl)⟩

theorem of_eq (h : Clean c') (h1 : c'.cancelled = c.cancelled) (h2 : c'.failed = c.failed)
    (h3 : c'.failAfterDrain = c.failAfterDrain) (h4 : c'.lost = c.lost) (h5 : c'.stopped = c.stopped) :
    Kept c c' :=
  ⟨h, h1, h2, h3, h4, fun _ => h5⟩

theorem refl (h : Clean c) : Kept c c := of_eq h rfl rfl rfl rfl rfl

end Kept

theorem clean_tail (h : Clean c) (hq : c.queue = d :: q) :
    d.out ≠ .unpicklable ∧ ∀ d' ∈ q, d'.out ≠ .unpicklable :=
  ⟨h d (hq ▸ List.mem_cons_self), fun d' hd' => h d' (hq ▸ List.mem_cons_of_mem _ hd')⟩

theorem kept_turn (t : Turn c c' more) (h : Clean c) :
    Kept c c' ∧ c'.inflight = c.inflight := by
  cases t with
  | finish => exact ⟨.of_eq h rfl rfl rfl rfl rfl, rfl⟩
  | lostFail hq _ hu | drainThenFail _ hq _ hu | fail hq _ hu => exact absurd hu (clean_tail h hq).1
  | lostEnd hq hl =>
    exact ⟨⟨fun _ hd => (nomatch hd), rfl, rfl, rfl, rfl, fun h => absurd (hl.symm.trans h) Bool.noConfusion⟩, rfl⟩
  | block _ hq | next _ _ hq => exact ⟨.of_eq (clean_tail h hq).2 rfl rfl rfl rfl rfl, rfl⟩

theorem kept_sendLoop (n : Nat) (h : Clean c) :
    Kept c (sendLoop n c) ∧ (sendLoop n c).inflight = c.inflight :=
  sendLoop_induction (P := fun c' => Kept c c' ∧ c'.inflight = c.inflight)
    (fun t k => ⟨k.1.trans (kept_turn t k.1.clean).1, (kept_turn t k.1.clean).2.trans k.2⟩) n
    ⟨.refl h, rfl⟩

/-- Events after which the connection is certainly still live: calls arriving, handlers completing
with a picklable result or an exception, the writer pausing and draining, time passing.  `Ev.harmless`
admits these and the close request, EOF, `stop()` and the loss of the writer. -/
def Ev.benign : Ev → Bool
  | .frame (.call _ _ _) => true
  | .complete _ o => o != .unpicklable
  | .pause => true
  | .resume => true
  | .tick => true
  | _ => false

theorem clean_push (h : Clean c) (call : Call) {o : Outcome} (ho : o ≠ .unpicklable) :
    Clean { c with queue := c.queue ++ [⟨call, o⟩] } := by
  intro d hd
  obtain hd | hd := List.mem_append.1 hd
  · exact h d hd
  · cases List.mem_singleton.1 hd; exact ho

theorem Kept.sendLoop {c₀ c : Conn} {n : Nat} (k : Kept c₀ c) : Kept c₀ (sendLoop n c) :=
  k.trans (kept_sendLoop n k.clean).1

theorem Kept.complete {c₀ c : Conn} {call : Call} {o : Outcome} (k : Kept c₀ c) (ho : o ≠ .unpicklable) :
    Kept c₀ (complete c call o) :=
  ite_both (Kept c₀) ((k.trans (.of_eq (clean_push k.clean call ho) rfl rfl rfl rfl rfl)).sendLoop)
    (k.trans (.of_eq k.clean rfl rfl rfl rfl rfl))

theorem kept_step (h : Clean c) (hf : c.failAfterDrain = false) {e : Ev}
    (he : e.benign = true) : Kept c (step cfg c e) := by
  have same {c' : Conn} (h1 : c'.queue = c.queue) (h2 : c'.cancelled = c.cancelled) (h3 : c'.failed = c.failed)
      (h4 : c'.failAfterDrain = c.failAfterDrain) (h5 : c'.lost = c.lost) (h6 : c'.stopped = c.stopped) :
      Kept c c' :=
    .of_eq (fun d hd => h d (h1 ▸ hd)) h2 h3 h4 h5 h6
  have settle {c' : Conn} (k : Kept c c') : Kept c (settleRecv c') :=
    ite_both (Kept c) (k.trans (.of_eq k.clean rfl rfl rfl rfl rfl)) k
  apply settle
  cases e with
  | frame f =>
    cases f with
    | call id name b =>
      exact stepFrame_call_ind (Kept c) (same rfl rfl rfl rfl rfl rfl) (fun _ => same rfl rfl rfl rfl rfl rfl)
        (fun d => .complete (same rfl rfl rfl rfl rfl rfl) nofun)
    | notCall | close => cases he
  | complete k o =>
    exact stepCore_complete_ind (Kept c) (same rfl rfl rfl rfl rfl rfl) fun call _ _ _ =>
      .complete (same rfl rfl rfl rfl rfl rfl) (bne_iff_ne.mp he)
  | tick => exact same rfl rfl rfl rfl rfl rfl
  | pause => exact same rfl rfl rfl rfl rfl rfl
  | resume =>
    refine ite_both (Kept c) (ite_ind (Kept c) (fun hf' => ?_) (fun _ => ?_))
      (same rfl rfl rfl rfl rfl rfl)
    · exact absurd (hf.symm.trans hf') Bool.noConfusion
    · exact .sendLoop (same rfl rfl rfl rfl rfl rfl)
  | bytes | badHeader | eof | stop | lose => cases he

theorem kept_run (evs : List Ev) (h : Clean c) (hf : c.failAfterDrain = false) (he : ∀ e ∈ evs, e.benign = true) :
    Kept c (run cfg c evs) :=
  foldl_ind (Kept c) _ evs
    (fun _ e hm k => k.trans (kept_step k.clean (k.failAfterDrain.trans hf) (he e hm))) (.refl h)

theorem complete_keeps_inflight (hi : Idle c) (call : Call) (o : Outcome) (ho : o ≠ .unpicklable) :
    (complete c call o).inflight = c.inflight ∧ (complete c call o).cancelled = c.cancelled := by
  refine ite_both (fun c' : Conn => c'.inflight = c.inflight ∧ c'.cancelled = c.cancelled) ?_
    ⟨rfl, rfl⟩
  by_cases hb : c.sendBlocked = true
  · rw [runSend, sendLoop_blocked]
    · exact ⟨rfl, rfl⟩
    · exact hb
  · have h : Clean { c with queue := c.queue ++ [⟨call, o⟩] } :=
      clean_push (fun d hd => by rw [hi.1 (eq_false_of_ne_true hb)] at hd; cases hd) call ho
    exact ⟨(kept_sendLoop _ h).2, (kept_sendLoop _ h).1.cancelled⟩

theorem step_complete_keeps_others (h : Inv cfg c) (k : Nat) (o : Outcome)
    (ho : o ≠ .unpicklable) :
    (∀ x ∈ c.inflight, c.invoked[k]?.map (·.1) ≠ some x → x ∈ (step cfg c (.complete k o)).inflight) ∧
      (step cfg c (.complete k o)).cancelled = c.cancelled := by
  rw [step, settleRecv_eq]
  refine stepCore_complete_ind
    (fun c' => (∀ x ∈ c.inflight, c.invoked[k]?.map (·.1) ≠ some x → x ∈ c'.inflight) ∧ c'.cancelled = c.cancelled)
    ⟨fun _ hx _ => hx, rfl⟩ fun call name hk _ => ?_
  obtain ⟨e1, e2⟩ := complete_keeps_inflight (c := { c with inflight := c.inflight.erase call }) h.idle call o ho
  rw [e1, e2]
  refine ⟨fun x hx hne => (List.mem_erase_of_ne fun e => hne ?_).mpr hx, rfl⟩
  rw [hk, e]; rfl

/-- Events that are not a protocol violation of the peer or an unpicklable result: calls, the close
request, EOF/reset, `stop()`, handlers ending with a result or any exception (also a
`CancelledError` from inside), the writer pausing, draining or being lost with any error. -/
def Ev.harmless : Ev → Bool
  | .frame (.call _ _ _) => true
  | .frame (.close _) => true
  | .eof => true
  | .stop => true
  | .complete _ o => o != .unpicklable
  | .pause => true
  | .resume => true
  | .lose _ _ => true
  | .tick => true
  | _ => false

/-- `serve()` is not going to raise and no handler was cancelled. -/
def Quiet (c : Conn) : Prop :=
  c.failed = none ∧ c.cancelled = [] ∧ c.failAfterDrain = false ∧ Clean c

theorem quiet_of_kept (k : Kept c c') (h : Quiet c) : Quiet c' :=
  ⟨k.failed.trans h.1, k.cancelled.trans h.2.1, k.failAfterDrain.trans h.2.2.1, k.clean⟩

theorem quiet_stopNow (h : Quiet c) : Quiet (stopNow c) :=
  quiet_of_kept (kept_sendLoop (c := { c with stopped := true, recvAlive := false }) _ h.2.2.2).1 h

theorem quiet_step (h : Quiet c) (e : Ev) (he : e.harmless = true) : Quiet (step cfg c e) := by
  have benign (hb : e.benign = true) := quiet_of_kept (kept_step (cfg := cfg) h.2.2.2 h.2.2.1 hb) h
  have settle {c' : Conn} (h' : Quiet c') : Quiet (settleRecv c') := ite_both Quiet h' h'
  cases e with
  | frame f =>
    cases f with
    | call => exact benign rfl
    | notCall => cases he
    | close id => exact settle (ite_both Quiet h (quiet_stopNow h))
  | complete => exact benign he
  | tick | pause | resume => exact benign rfl
  | lose =>
    refine settle (ite_both Quiet (ite_ind Quiet (fun hf => ?_) (fun _ => ?_)) h)
    · exact absurd (h.2.2.1.symm.trans hf) Bool.noConfusion
    · exact ⟨h.1, h.2.1, h.2.2.1, fun _ hd => nomatch hd⟩
  | eof => exact settle (ite_both Quiet (quiet_stopNow h) h)
  | stop => exact settle (ite_both Quiet h (quiet_stopNow h))
  | bytes | badHeader => cases he

theorem quiet_run (evs : List Ev) (h : Quiet c) (he : ∀ e ∈ evs, e.harmless = true) :
    Quiet (run cfg c evs) :=
  foldl_ind Quiet _ evs (fun _ e hm h => quiet_step h e (he e hm)) h

theorem recvd_mono_sendLoop (n : Nat) (c : Conn) : (sendLoop n c).recvd = c.recvd := (same_sendLoop n c).recvd

theorem prefix_of_recvd_eq (h : c'.recvd = c.recvd) : c.recvd <+: c'.recvd := h ▸ List.prefix_refl _

theorem recvd_step (cfg : Cfg) (c : Conn) (e : Ev) : c.recvd <+: (step cfg c e).recvd :=
  step_ind (c.recvd <+: ·.recvd) (flags := fun _ _ _ h => h) (fail := fun _ h => h) (lose := fun _ h => h)
    (stop := fun h => h.trans (prefix_of_recvd_eq (recvd_mono_sendLoop _ _)))
    (drained := fun _ h => h.trans (prefix_of_recvd_eq (recvd_mono_sendLoop _ _)))
    (invoke := fun _ _ _ h => h.trans (List.prefix_append _ _))
    (reject := fun _ _ h => h.trans (by rw [(complete_recvd_invoked _ _ _).1]; exact List.prefix_append _ _))
    (done := fun _ _ _ h => h.trans (prefix_of_recvd_eq (complete_recvd_invoked _ _ _).1)) (settle := fun _ h => h)
    (List.prefix_refl _) e

theorem recvd_mono_run (cfg : Cfg) (evs : List Ev) (c : Conn) (x : Call) (hx : x ∈ c.recvd) :
    x ∈ (run cfg c evs).recvd :=
  foldl_ind (x ∈ ·.recvd) _ evs (fun c e _ h => (recvd_step cfg c e).subset h) hx

theorem calls_mono_run (h : Inv cfg c) (more : List Ev) {x : Call} (hx : x ∈ c.calls) :
    x ∈ (run cfg c more).calls :=
  (calls_perm (inv_run more h)).mem_iff.2 (recvd_mono_run cfg more c x ((calls_perm h).mem_iff.1 hx))

def CInv (c : Client) : Prop := (c.pending.map (·.1)).Nodup ∧ ∀ p ∈ c.pending, p.1 ≤ c.counter

theorem cstep_reply {c : Client} {id caller : Nat} (body : Option Bytes) (ha : c.alive = true)
    (hl : c.pending.lookup id = some caller) :
    cstep c (.reply id body) =
      { c with pending := c.pending.filter (fun p => p.1 != id), resolved := c.resolved ++ [(caller, .body body)] } := by
  simp [cstep, ha, hl]

theorem cinv_failAll {c : Client} (b : Bool) : CInv (c.failAll b) := by
  simp [CInv, Client.failAll]

theorem cinv_cstep {c : Client} (h : CInv c) (e : CEv) : CInv (cstep c e) := by
  cases e with
  | call caller =>
    refine ite_ind CInv (fun _ => ⟨?_, fun p hp => ?_⟩) (fun _ => h)
    · rw [List.map_append]
      refine List.nodup_append.2 ⟨h.1, List.pairwise_singleton _ _, fun a ha b hb e => ?_⟩
      obtain ⟨p, hp, rfl⟩ := List.mem_map.1 ha
      cases List.mem_singleton.1 hb
      exact absurd (h.2 p hp) (e ▸ Nat.not_succ_le_self _)
    · obtain hp | hp := List.mem_append.1 hp
      · exact Nat.le_succ_of_le (h.2 p hp)
      · cases List.mem_singleton.1 hp; exact Nat.le_refl _
  | reply id body =>
    refine ite_both CInv h ?_
    split
    · exact ⟨(List.filter_sublist.map _).nodup h.1, fun p hp => h.2 p (List.mem_filter.mp hp).1⟩
    · exact cinv_failAll _
  | badHeader => exact ite_both CInv (cinv_failAll _) h
  | eof => exact ite_both CInv (cinv_failAll _) h
  | bytes b => exact h

theorem cinv_fold {c : Client} (h : CInv c) (evs : List CEv) : CInv (evs.foldl cstep c) :=
  foldl_ind CInv _ evs (fun _ e _ h => cinv_cstep h e) h

theorem cinv_cstepB {c : Client} (h : CInv c) (e : CEv) : CInv (cstepB c e) := by
  cases e with
  | bytes b =>
    have h1 := foldl_ind CInv (fun c m => cstep c (.reply m.id m.body)) (feed c.dec b).1
      (fun _ _ _ h => cinv_cstep h _) (show CInv { c with dec := (feed c.dec b).2 } from h)
    exact ite_both CInv h (ite_both CInv (cinv_cstep h1 _) h1)
  | call | reply | badHeader | eof => exact cinv_cstep h _

theorem cinv_crun (evs : List CEv) : CInv (crun {} evs) :=
  foldl_ind CInv _ evs (fun _ e _ h => cinv_cstepB h e) ⟨.nil, nofun⟩

end StepupModel.P.Rpc
