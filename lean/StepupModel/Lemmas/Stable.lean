import StepupModel.Lemmas.Inv
/-!
# Predicates that are stable under the primitive writes

`Stable P` lists what a state predicate `P` has to survive: the primitive writes of `K/Prim.lean`
(with the trigger effects split into "cache" columns and the few hard columns) and the raw record
updates the composite operations of `K/Trellis.lean`, `K/Workflow.lean`, `K/Scheduler.lean`
perform.  That every composite operation of the kernel model, up to `KState.exec`, `KState.step`
and `KState.run`, preserves every stable predicate follows from the walk of `Lemmas/StableW.lean`
through `StableG.toC` and `StableCG.toW` (`Lemmas/StableC.lean`).  Instances are in
`Lemmas/StableInst.lean`.

`CacheOnly f`: `f` keeps the columns `Node.hard`, the hypothesis of the `cache` leaf.  `PlainL` holds the leaves that
write none of the columns `Node.main`, no edge and no row; the leaf structures of the development share them, and
`PlainL.ofMain` proves them all for a predicate of `nodes.map Node.main` and `deps`.  `HoldsGuarded G` is a history
whose `hold` requests meet the guard of `StableG G`.

The leaf of the insertions (`appendNode`; in `Lemmas/StableW.lean` `freshFile` as well) quantifies over the key and says
nothing of WHICH key a request inserts.  An invariant about the shape or kind of the keys is therefore no `Stable`
predicate even when it is true of the model; it goes through `exec_of_frame_call` (`Lemmas/WorkflowChain.lean`) with a `CallL`, which sees the calls of
the declaring requests: `SkStableV.toCall`, `SkStableV.exec` in `Lemmas/ReachLift.lean` are a worked example.
-/
namespace StepupModel.K

/-- The columns of a row that are neither caches of the scheduler (`_check_*`, `_safe*`,
`_implied_need`, `_tail_time`, `_ready`) nor declaration payload (`shell`, environment variables,
resources, overrides, glob registrations). -/
def Node.hard (n : Node) :
    Key × Option Key × Bool × FileState × Option Nat × StepState × Bool × Nat × Nat × Need × Option Nat × Bool :=
  (n.key, n.creator, n.detached, n.fstate, n.fhash, n.sstate, n.deferred, n.deferCount, n.holding, n.need,
    n.shash, n.hasHash)

/-- `f` writes cache and payload columns only: `Keeps Node.hard f` in the terms of `Lemmas/Rows.lean`. -/
def CacheOnly (f : Node → Node) : Prop := ∀ n, (f n).hard = n.hard

/-- The columns that only a write with a leaf of its own touches: the rest of `Node.hard` is written by the plain
writes (`PlainL` below), which no predicate of the row states and of the creator forest reads. -/
def Node.main (n : Node) : Key × Option Key × Bool × FileState × Option Nat × StepState × Bool :=
  (n.key, n.creator, n.detached, n.fstate, n.fhash, n.sstate, n.deferred)

section
variable {f : Node → Node} (h : CacheOnly f) (n : Node)
include h
theorem CacheOnly.key : (f n).key = n.key := congrArg (·.1) (h n)
theorem CacheOnly.creator : (f n).creator = n.creator := congrArg (·.2.1) (h n)
theorem CacheOnly.fstate : (f n).fstate = n.fstate := congrArg (·.2.2.2.1) (h n)
theorem CacheOnly.fhash : (f n).fhash = n.fhash := congrArg (·.2.2.2.2.1) (h n)
theorem CacheOnly.sstate : (f n).sstate = n.sstate := congrArg (·.2.2.2.2.2.1) (h n)
theorem CacheOnly.deferred : (f n).deferred = n.deferred := congrArg (·.2.2.2.2.2.2.1) (h n)
theorem CacheOnly.holding : (f n).holding = n.holding := congrArg (·.2.2.2.2.2.2.2.2.1) (h n)
end

theorem CacheOnly.main {f : Node → Node} (hf : CacheOnly f) (n : Node) : (f n).main = n.main :=
  congrArg (fun h => (h.1, h.2.1, h.2.2.1, h.2.2.2.1, h.2.2.2.2.1, h.2.2.2.2.2.1, h.2.2.2.2.2.2.1)) (hf n)

/-- What a state predicate must survive: one field per kind of primitive write.  Where the code
guards a write, the guard is a hypothesis of the field.  `Step.hold` has no guard in the code
(`UPDATE step SET _holding = _holding + 1`, whatever the state of the step: that only RUNNING steps
hold is the discipline of the caller, `DirectorHandler.hold`), so the structure takes one as a
parameter: `G s k` is what is known of the state when `hold k` is requested.  `Stable P` below is the
unguarded case. -/
structure StableG (G : KState → Key → Prop) (P : KState → Prop) : Prop where
  /-- any update of cache and payload columns, on any set of rows -/
  cache : ∀ (s : KState) (p : Node → Bool) (f : Node → Node), CacheOnly f → P s → P (s.modifyWhere p f)
  /-- `UPDATE node SET detached = ?` on one row -/
  detached : ∀ (s : KState) (k : Key) (d : Bool), P s → P (s.modify k fun n => { n with detached := d })
  /-- `UPDATE node SET creator = ?` once the creator triggers and CHECKs have accepted it -/
  creator : ∀ (s : KState) (k : Key) (c : Option Key) (d : Bool), s.creatorAllowed k c d = true → P s →
    P (s.modify k fun n => { n with creator := c })
  /-- the plain `UPDATE node SET creator = ?` of `register_static_tree` -/
  handOverRow : ∀ (s : KState) (k tk : Key), P s → P (s.modify k fun n => { n with creator := some tk })
  /-- `UPDATE file SET state = ?[, hash = ?]` with CHECK and triggers (`fileRowWrite`) -/
  fileWrite : ∀ (s : KState) (k : Key) (n n' : Node) (st : FileState) (nh : Option (Option Nat)),
    s.find? k = some n → fileRowWrite n st nh = .ok n' → P s → P (s.modify k fun _ => n')
  /-- `INSERT INTO file` for a fresh row: a declarable state, no hash -/
  fileInit : ∀ (s : KState) (k : Key) (st : FileState), NoHashState st →
    (st = .undeclared → s.isDetached k = true) → P s →
    P (s.modify k fun n => { n with fstate := st, fhash := none })
  /-- `UPDATE step SET state = ?[, deferred = ?]` with CHECK and triggers (`stepRowWrite`) -/
  stepWrite : ∀ (s : KState) (k : Key) (n n' : Node) (st : StepState) (d : Option Bool),
    s.find? k = some n → stepRowWrite n st d = .ok n' → P s → P (s.modify k fun _ => n')
  /-- `Step.initialize_row` -/
  stepInit : ∀ (s : KState) (k : Key) (i : StepInit), P s → P (s.initStepRow k i)
  setHash : ∀ (s : KState) (k : Key) (h : Nat), P s → P (s.setHash k h)
  deleteHash : ∀ (s : KState) (k : Key), P s → P (s.deleteHash k)
  bumpDefer : ∀ (s : KState) (k : Key), P s → P (s.modify k fun n => { n with deferCount := n.deferCount + 1 })
  hold : ∀ (s : KState) (k : Key), G s k → P s → P (s.modify k fun n => { n with holding := n.holding + 1 })
  release : ∀ (s : KState) (k : Key) (n : Node), s.find? k = some n → n.holding ≠ 0 → P s →
    P (s.modify k fun n => { n with holding := n.holding - 1 })
  /-- `Step.after_recycle` -/
  recycled : ∀ (s : KState) (k : Key) (need : Need) (shell : Bool), P s →
    P (s.modify k fun n => { n with need := need, shell := shell })
  /-- `INSERT INTO dependency` after UNIQUE and `dependency_check_kinds_ins` -/
  addDep : ∀ (s : KState) (src snk : Key), s.hasDep src snk = false → depKindOk src.kind snk.kind = true → P s →
    P { s with deps := s.deps ++ [({ src := src, snk := snk } : Dep)] }
  /-- `DELETE FROM dependency WHERE ...` -/
  filterDeps : ∀ (s : KState) (p : Dep → Bool), P s → P { s with deps := s.deps.filter fun d => !p d }
  /-- `INSERT INTO / DELETE FROM dynamic_dep` -/
  markDyn : ∀ (s : KState) (src snk : Key) (dyn : Bool), P s →
    P { s with deps := s.deps.map fun (d : Dep) => if d.src = src ∧ d.snk = snk then { d with dyn := dyn } else d }
  /-- `INSERT INTO node` of a label that has no row yet, creator kind accepted -/
  appendNode : ∀ (s : KState) (k : Key) (c : Option Key), s.find? k = none → s.insertAllowed k c = true → P s →
    P (s.appendNode k c)
  /-- `DELETE FROM node` of a row that is the sink of no edge any more -/
  removeNode : ∀ (s : KState) (k : Key), (∀ d ∈ s.deps, d.snk ≠ k) → P s →
    P { s with nodes := s.nodes.filter (·.key ≠ k) }
  queueDelete : ∀ (s : KState) (path : String) (h : Option Nat), P s → P (s.queueDelete path h)
  clearQueue : ∀ (s : KState), P s → P { s with toBeDeleted := [] }

/-- Stable under every primitive write, `hold` on any step in any state included. -/
abbrev Stable (P : KState → Prop) : Prop := StableG (fun _ _ => True) P

/-- The leaves that write no column of `Node.main`, no edge and no row.  `StableG` and its variants (`StableCG`, `StableRes`,
`FrameL`, `SuccOut.Leaf`, `OwnE.ELeaf`) have them under these names, so an instance of one of those can be written
`{ PlainL.ofMain .. with <the other leaves> }`; where `hold` carries a guard (`G s k →` in `StableG`, `StableCG`) it is one of
the other leaves. -/
structure PlainL (P : KState → Prop) : Prop where
  cache : ∀ (s : KState) (p : Node → Bool) (f : Node → Node), CacheOnly f → P s → P (s.modifyWhere p f)
  setHash : ∀ (s : KState) (k : Key) (h : Nat), P s → P (s.setHash k h)
  deleteHash : ∀ (s : KState) (k : Key), P s → P (s.deleteHash k)
  bumpDefer : ∀ (s : KState) (k : Key), P s → P (s.modify k fun n => { n with deferCount := n.deferCount + 1 })
  hold : ∀ (s : KState) (k : Key), P s → P (s.modify k fun n => { n with holding := n.holding + 1 })
  release : ∀ (s : KState) (k : Key) (n : Node), s.find? k = some n → n.holding ≠ 0 → P s →
    P (s.modify k fun n => { n with holding := n.holding - 1 })
  recycled : ∀ (s : KState) (k : Key) (need : Need) (shell : Bool), P s →
    P (s.modify k fun n => { n with need := need, shell := shell })
  queueDelete : ∀ (s : KState) (path : String) (h : Option Nat), P s → P (s.queueDelete path h)
  clearQueue : ∀ (s : KState), P s → P { s with toBeDeleted := [] }

theorem PlainL.ofMain {P : KState → Prop}
    (hP : ∀ s s', s'.nodes.map Node.main = s.nodes.map Node.main → s'.deps = s.deps → P s → P s') : PlainL P :=
  have at_k : ∀ (s : KState) (k : Key) (f : Node → Node), (∀ n, (f n).main = n.main) → P s → P (s.modify k f) :=
    fun s k f hf => hP _ _ (map_view_modify s k f Node.main fun n _ _ => hf n) rfl
  { cache := fun s p f hf => hP _ _ (map_view_modifyWhere s p f Node.main hf.main) rfl
    setHash := fun s k _ => at_k s k _ fun _ => rfl
    deleteHash := fun s k => at_k s k _ fun n => ite_both (fun m : Node => m.main = n.main) rfl rfl
    bumpDefer := fun s k => at_k s k _ fun _ => rfl
    hold := fun s k => at_k s k _ fun _ => rfl
    release := fun s k _ _ _ => at_k s k _ fun _ => rfl
    recycled := fun s k _ _ => at_k s k _ fun _ => rfl
    queueDelete := fun s _ _ => hP s _ rfl rfl
    clearQueue := fun s => hP s _ rfl rfl }

/-- A history in which every `hold k` request meets the guard `G` on the state it is issued in. -/
def HoldsGuarded (G : KState → Key → Prop) : KState → List (KConfig × Req) → Prop
  | _, [] => True
  | s, cr :: rest => (∀ k, cr.2 = .hold k → G s k) ∧ HoldsGuarded G (s.step cr.1 cr.2) rest

theorem holdsGuarded_iff (G : KState → Key → Prop) (s : KState) (h : List (KConfig × Req)) :
    HoldsGuarded G s h ↔ Guarded (fun s r => ∀ k, r = .hold k → G s k) s h := by
  induction h generalizing s with
  | nil => exact Iff.rfl
  | cons x xs ih => exact and_congr Iff.rfl (ih _)

end StepupModel.K
