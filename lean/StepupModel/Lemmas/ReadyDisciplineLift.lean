import StepupModel.Lemmas.StableReq
/-!
# Predicates that are stable under the primitive writes *with their triggers*

`StableG` splits every primitive write of `K/Prim.lean` into its hard part and the flags its
triggers raise, and asks a stable predicate to survive both halves separately (and every rewrite of
cache columns).  A flag discipline is not of that kind: between the hard write and the flag the
cache is stale, and clearing a flag is not harmless.  `StableR P` lists the primitive writes
*together with* the triggers that flag `_check_ready`; the only free rewrites are those that leave
`key`, `state` (of a file), `detached`, `_ready` and `_check_ready` alone.  Such a predicate
survives the writes of `Lemmas/StableW.lean` (`StableR.toW`), hence every request and every history.
The instance for the flag discipline of `_ready` is in `Lemmas/ReadyDisciplineBase.lean`.
-/
namespace StepupModel.K

/-- The columns that the definition of `_ready` and its flag discipline read. -/
def Node.rhard (n : Node) : Key × FileState × Bool × Bool × Bool :=
  (n.key, n.fstate, n.detached, n.ready, n.checkReady)

/-- `Keeps Node.rhard f`, written out. -/
def ReadyNeutral (f : Node → Node) : Prop := ∀ n, (f n).rhard = n.rhard

structure StableR (P : KState → Prop) : Prop where
  /-- any update that leaves `key`, `fstate`, `detached`, `ready`, `checkReady` alone -/
  cache : ∀ (s : KState) (p : Node → Bool) (f : Node → Node), ReadyNeutral f → P s → P (s.modifyWhere p f)
  /-- `UPDATE node SET detached = ?` with `step_node_check_ready_detached` -/
  setDetachedRow : ∀ (s : KState) (k : Key) (d : Bool), P s → P (s.setDetachedRow k d)
  /-- `UPDATE file SET state = ?[, hash = ?]` with `step_file_check_ready_upd` -/
  writeFile : ∀ (k : Key) (st : FileState) (nh : Option (Option Nat)), Preserves P (fun s => s.writeFile k st nh)
  /-- `INSERT INTO node` + `INSERT INTO file` of a fresh label with `step_file_check_ready_ins` -/
  freshFile : ∀ (s : KState) (k : Key) (c : Option Key) (st : FileState), s.find? k = none →
    s.insertAllowed k c = true → P s →
    P (((s.appendNode k c).modify k fun n => { n with fstate := st, fhash := none }).flagReadySinks k)
  /-- `INSERT INTO node` of a fresh label that is not a file -/
  appendNode : ∀ (s : KState) (k : Key) (c : Option Key), k.kind ≠ .file → s.find? k = none →
    s.insertAllowed k c = true → P s → P (s.appendNode k c)
  /-- `UPDATE step SET state = ?[, deferred = ?]` -/
  stepWrite : ∀ (s : KState) (k : Key) (n n' : Node) (st : StepState) (d : Option Bool),
    s.find? k = some n → stepRowWrite n st d = .ok n' → P s → P (s.modify k fun _ => n')
  /-- `Step.initialize_row` (the new row is flagged) -/
  stepInit : ∀ (s : KState) (k : Key) (i : StepInit), P s → P (s.initStepRow k i)
  /-- `INSERT INTO dependency` with `step_dependency_check_*_ins` -/
  insertDep : ∀ (a b : Key), Preserves P (fun s => s.insertDep a b)
  /-- `DELETE FROM dependency WHERE ...` with `step_dependency_check_*_del` -/
  deleteDeps : ∀ (s : KState) (p : Dep → Bool), P s → P (s.deleteDeps p)
  /-- `INSERT INTO / DELETE FROM dynamic_dep` with `dynamic_dep_check_ready_*` -/
  setDynamic : ∀ (s : KState) (a b : Key) (d : Bool), P s → P (s.setDynamic a b d)
  /-- `DELETE FROM node` of a row that is neither source nor sink of an edge any more -/
  removeNode : ∀ (s : KState) (k : Key), (∀ d ∈ s.deps, d.snk ≠ k) → (∀ d ∈ s.deps, d.src ≠ k) → P s →
    P { s with nodes := s.nodes.filter (·.key ≠ k) }
  /-- the memory-only deletion queue -/
  queue : ∀ (s : KState) (q : List (String × Option Nat)), P s → P { s with toBeDeleted := q }
  /-- `_update_meta_ready` -/
  updateMetaReady : ∀ (s : KState), P s → P s.updateMetaReady

namespace StableR
variable {P : KState → Prop}

theorem cacheAt (L : StableR P) (s : KState) (k : Key) (f : Node → Node) (hf : ReadyNeutral f) (hp : P s) :
    P (s.modify k f) := by
  rw [KState.modify_eq_modifyWhere]; exact L.cache _ _ _ hf hp

theorem creator (L : StableR P) (s : KState) (k : Key) (c : Option Key) (d : Bool)
    (_h : s.creatorAllowed k c d = true) (hp : P s) : P (s.modify k fun n => { n with creator := c }) :=
  L.cacheAt _ _ _ (fun _ => rfl) hp

theorem release (L : StableR P) (s : KState) (k : Key) (n : Node) (_hf : s.find? k = some n) (_hne : n.holding ≠ 0)
    (hp : P s) : P (s.modify k fun n => { n with holding := n.holding - 1 }) := L.cacheAt _ _ _ (fun _ => rfl) hp

theorem recycled (L : StableR P) (s : KState) (k : Key) (need : Need) (shell : Bool) (hp : P s) :
    P (s.modify k fun n => { n with need := need, shell := shell }) :=
  L.cacheAt _ _ _ (fun _ => rfl) hp

theorem toW (L : StableR P) : StableW (fun _ => true) (fun _ _ => True) (fun _ _ => True) P :=
  have cache : ∀ s p f, Keeps Node.inert f → P s → P (s.modifyWhere p f) := fun s p f hf =>
    L.cache s p f (hf.mono (.of_factor (fun i => (i.1.1, i.1.2.2.2.1, i.1.2.2.1, i.2.2.1, i.2.2.2)) fun _ => rfl))
  { flags := fun _ s p f hf => cache s p f hf.inert
    payload := fun _ s p f hf => cache s p f (hf.mono noEnv_inert)
    cache := fun _ => cache
    setDetachedRow := fun _ => L.setDetachedRow
    creator := fun s k c d _ => L.creator s k c d
    handOverRow := fun _ _ _ _ hp => L.cacheAt _ _ _ (fun _ => rfl) hp
    writeFile := fun _ => L.writeFile
    keepRole := fun _ k st nh s s' hp _ h => L.writeFile k st nh s s' hp h
    outdate := fun _ s s' _ f _ _ _ _ hp h => L.writeFile f .outdated none s s' hp h
    freshFile := fun _ s k c st hf hins _ _ hp => L.freshFile s k c st hf hins hp
    appendNode := fun _ => L.appendNode
    stepWrite := fun s k n n' st d _ _ => L.stepWrite s k n n' st d
    stepInit := fun _ => L.stepInit
    setHash := fun _ s k _ hp => L.cacheAt s k _ (fun _ => rfl) hp
    deleteHash := fun _ s k hp => L.cacheAt s k _ (fun n => ite_both (fun m : Node => m.rhard = n.rhard) rfl rfl) hp
    bumpDefer := fun _ _ _ hp => L.cacheAt _ _ _ (fun _ => rfl) hp
    hold := fun _ _ _ _ hp => L.cacheAt _ _ _ (fun _ => rfl) hp
    release := fun _ => L.release
    recycled := fun _ => L.recycled
    insertDep := fun a b s s' _ _ hp h => L.insertDep a b s s' hp h
    deleteDeps := fun _ => L.deleteDeps
    delStepDeps := fun _ s p _ => L.deleteDeps s p
    setDynamic := fun _ => L.setDynamic
    removeNode := fun _ => L.removeNode
    queueDelete := fun _ s _ _ hp => L.queue s _ hp
    clearQueue := fun _ s hp => L.queue s [] hp
    updateMetaReady := fun _ => L.updateMetaReady }

theorem setStepExtras (L : StableR P) (s : KState) (sk : Key) (d : StepDecl) (hp : P s) :
    P (s.setStepExtras sk d) := L.cacheAt _ _ _ (fun _ => rfl) hp

theorem setDetachedRec (L : StableR P) (s : KState) (k : Key) (d : Bool) (hp : P s) : P (s.setDetachedRec k d) :=
  L.toW.setDetachedRec rfl s k d hp

end StableR

theorem StableR.execInv {P : KState → Prop} (L : StableR P) : ExecInv (fun _ _ => True) P :=
  (L.toW.execInv L.setStepExtras).weaken fun _ _ _ _ _ => trivial

end StepupModel.K
