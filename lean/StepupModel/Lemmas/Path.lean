import StepupModel.P.Path
/-!
# Lemmas about the path functions (C20; the statements of the property are in `Props/C20.lean`)

`normpath` is a fold of `normStep` over the components (`run`); a stack of proper names (`Clean`) is
pushed unchanged and popped by `..`, and the relative loop can be replayed on top of any stack
(`run_over_rel`): from these come idempotence and `den_normpath`.

A path denotes a function on locations: `den p S` is where `p` leads from the stack of names `S`
(an absolute path forgets `S`).  `join` is composition (`den_join`), `normpath` the identity
(`den_normpath`), `relpathTo` leads from where its origin leads to where its destination leads
(`den_relpathTo`).  `resolve base p` is `den p` applied to where `base` leads (`resolve_eq_den`), so
statements about `resolve` are rewritten to `den` and closed by these equations, without side
conditions on the base directory; the round trips of `translate`/`translateBack` (`den_translate`,
`den_translateBack`) and the affixes (`apply_plain`, `keepAffixes_normal`) are derived that way.
-/
namespace StepupModel.P.Path

def SlashFree (c : Str) : Prop := slash ∉ c

theorem SlashFree.nil : SlashFree [] := List.not_mem_nil

theorem slashFree_cons {x : Nat} {xs : Str} : SlashFree (x :: xs) ↔ x ≠ slash ∧ SlashFree xs := by
  rw [SlashFree, List.mem_cons, not_or, ne_comm]; rfl

theorem splitSlash_slash (cs : Str) : splitSlash (slash :: cs) = [] :: splitSlash cs := by
  rw [splitSlash, if_pos rfl]

theorem splitSlash_cons {c : Nat} {cs h : Str} {t : List Str} (hc : c ≠ slash)
    (e : splitSlash cs = h :: t) : splitSlash (c :: cs) = (c :: h) :: t := by
  rw [splitSlash, if_neg hc, e]

theorem splitSlash_ne_nil (s : Str) : splitSlash s ≠ [] := by
  induction s with
  | nil => exact List.cons_ne_nil _ _
  | cons c cs ih =>
    by_cases hc : c = slash
    · rw [hc, splitSlash_slash]; exact List.cons_ne_nil _ _
    · obtain ⟨h, t, e⟩ := List.exists_cons_of_ne_nil ih
      rw [splitSlash_cons hc e]; exact List.cons_ne_nil _ _

theorem splitSlash_append_slash (a b : Str) :
    splitSlash (a ++ slash :: b) = splitSlash a ++ splitSlash b := by
  induction a with
  | nil => exact splitSlash_slash b
  | cons c cs ih =>
    by_cases hc : c = slash
    · rw [hc, List.cons_append, splitSlash_slash, splitSlash_slash, ih, List.cons_append]
    · obtain ⟨h, t, e⟩ := List.exists_cons_of_ne_nil (splitSlash_ne_nil cs)
      rw [List.cons_append, splitSlash_cons hc e, splitSlash_cons hc (ih.trans (by rw [e, List.cons_append])),
        List.cons_append]

theorem splitSlash_slashFree {c : Str} (h : SlashFree c) : splitSlash c = [c] := by
  induction c with
  | nil => rfl
  | cons x xs ih => exact splitSlash_cons (slashFree_cons.mp h).1 (ih (slashFree_cons.mp h).2)

theorem mem_splitSlash_slashFree {s c : Str} (h : c ∈ splitSlash s) : SlashFree c := by
  induction s generalizing c with
  | nil => rw [List.mem_singleton.mp h]; exact .nil
  | cons x xs ih =>
    by_cases hx : x = slash
    · rw [hx, splitSlash_slash] at h
      rcases List.mem_cons.mp h with rfl | h
      · exact .nil
      · exact ih h
    · obtain ⟨hd, tl, e⟩ := List.exists_cons_of_ne_nil (splitSlash_ne_nil xs)
      rw [splitSlash_cons hx e] at h
      rw [e] at ih
      rcases List.mem_cons.mp h with rfl | h
      · exact slashFree_cons.mpr ⟨hx, ih (List.mem_cons_self ..)⟩
      · exact ih (List.mem_cons_of_mem _ h)

theorem splitSlash_joinSlash {cs : List Str} (hne : cs ≠ []) (h : ∀ c ∈ cs, SlashFree c) :
    splitSlash (joinSlash cs) = cs := by
  induction cs with
  | nil => exact absurd rfl hne
  | cons c rest ih =>
    have hc := splitSlash_slashFree (h c (List.mem_cons_self ..))
    cases rest with
    | nil => exact hc
    | cons d ds =>
      rw [joinSlash, splitSlash_append_slash, hc,
        ih (List.cons_ne_nil _ _) (fun x hx => h x (List.mem_cons_of_mem _ hx)), List.singleton_append]

def Name (c : Str) : Prop := c ≠ [] ∧ c ≠ dot ∧ c ≠ dotdot
/-- A normalized absolute component list. -/
def Clean (l : List Str) : Prop := ∀ c ∈ l, Name c
/-- What a stack of the relative loop may contain. -/
def NoDot (l : List Str) : Prop := ∀ c ∈ l, c ≠ [] ∧ c ≠ dot

def run (ab : Bool) (st : List Str) (l : List Str) : List Str := l.foldl (normStep ab) st

theorem run_nil (ab st) : run ab st [] = st := rfl
theorem run_cons (ab st c l) : run ab st (c :: l) = run ab (normStep ab st c) l := rfl
theorem run_append (ab st a b) : run ab st (a ++ b) = run ab (run ab st a) b := List.foldl_append
theorem normComps_eq (ab l) : normComps ab l = (run ab [] l).reverse := rfl

theorem comp_cases (c : Str) : c = [] ∨ c = dot ∨ c = dotdot ∨ Name c :=
  if h1 : c = [] then .inl h1 else if h2 : c = dot then .inr (.inl h2)
  else if h3 : c = dotdot then .inr (.inr (.inl h3)) else .inr (.inr (.inr ⟨h1, h2, h3⟩))

theorem dotdot_ne : dotdot ≠ [] ∧ dotdot ≠ dot := by decide

theorem normStep_empty (ab st) : normStep ab st [] = st := if_pos (.inl rfl)
theorem normStep_dot (ab st) : normStep ab st dot = st := if_pos (.inr rfl)
theorem normStep_name {ab st c} (h : Name c) : normStep ab st c = c :: st := by
  unfold normStep; rw [if_neg (not_or.mpr ⟨h.1, h.2.1⟩), if_pos h.2.2]
theorem normStep_dotdot_nil (ab) : normStep ab [] dotdot = if ab then [] else [dotdot] := by
  unfold normStep; rw [if_neg (not_or.mpr dotdot_ne), if_neg (not_not_intro rfl)]
theorem normStep_dotdot_cons (ab t r) :
    normStep ab (t :: r) dotdot = if t = dotdot then dotdot :: t :: r else r := by
  unfold normStep; rw [if_neg (not_or.mpr dotdot_ne), if_neg (not_not_intro rfl)]

theorem mem_normStep {ab st c x} (h : x ∈ normStep ab st c) :
    x ∈ st ∨ x = c ∧ c ≠ [] ∧ c ≠ dot ∧ (c = dotdot → ab = false) := by
  rcases comp_cases c with rfl | rfl | rfl | hc
  · rw [normStep_empty] at h; exact .inl h
  · rw [normStep_dot] at h; exact .inl h
  · cases st with
    | nil =>
      rw [normStep_dotdot_nil] at h
      cases ab with
      | true => cases h
      | false => exact .inr ⟨List.mem_singleton.mp h, dotdot_ne.1, dotdot_ne.2, fun _ => rfl⟩
    | cons t r =>
      rw [normStep_dotdot_cons] at h
      by_cases ht : t = dotdot
      · rw [if_pos ht] at h
        rcases List.mem_cons.mp h with rfl | h
        · exact .inl (ht ▸ List.mem_cons_self ..)
        · exact .inl h
      · rw [if_neg ht] at h; exact .inl (List.mem_cons_of_mem _ h)
  · rw [normStep_name hc] at h
    rcases List.mem_cons.mp h with rfl | h
    · exact .inr ⟨rfl, hc.1, hc.2.1, fun e => absurd e hc.2.2⟩
    · exact .inl h

theorem mem_run {ab st} {l : List Str} {x} (h : x ∈ run ab st l) :
    x ∈ st ∨ x ∈ l ∧ x ≠ [] ∧ x ≠ dot ∧ (x = dotdot → ab = false) := by
  induction l generalizing st with
  | nil => exact .inl h
  | cons c l ih =>
    rcases ih h with h | ⟨h, h'⟩
    · rcases mem_normStep h with h | ⟨rfl, h'⟩
      · exact .inl h
      · exact .inr ⟨List.mem_cons_self .., h'⟩
    · exact .inr ⟨List.mem_cons_of_mem _ h, h'⟩

theorem run_clean {st} (l) (h : Clean st) : Clean (run true st l) :=
  fun x hx => (mem_run hx).elim (h x) fun h => ⟨h.2.1, h.2.2.1, fun e => Bool.noConfusion (h.2.2.2 e)⟩

theorem run_noDot {st} (l) (h : NoDot st) : NoDot (run false st l) :=
  fun x hx => (mem_run hx).elim (h x) fun h => ⟨h.2.1, h.2.2.1⟩

theorem mem_normComps {ab} {l : List Str} {x} (h : x ∈ normComps ab l) :
    x ∈ l ∧ x ≠ [] ∧ x ≠ dot ∧ (x = dotdot → ab = false) :=
  (mem_run (List.mem_reverse.mp h)).resolve_left (fun h => nomatch h)

theorem normComps_noDot (ab l) : NoDot (normComps ab l) :=
  fun _ hx => ⟨(mem_normComps hx).2.1, (mem_normComps hx).2.2.1⟩

theorem Clean.nil : Clean [] := fun _ h => nomatch h
theorem Clean.cons {c l} (hc : Name c) (hl : Clean l) : Clean (c :: l) := List.forall_mem_cons.mpr ⟨hc, hl⟩
theorem Clean.tail {c l} (h : Clean (c :: l)) : Clean l := (List.forall_mem_cons.mp h).2
theorem Clean.head {c l} (h : Clean (c :: l)) : Name c := (List.forall_mem_cons.mp h).1
theorem Clean.append {a b} (ha : Clean a) (hb : Clean b) : Clean (a ++ b) :=
  List.forall_mem_append.mpr ⟨ha, hb⟩
theorem Clean.reverse {a} (ha : Clean a) : Clean a.reverse := fun x hx => ha x (List.mem_reverse.mp hx)
theorem Clean.left {a b} (h : Clean (a ++ b)) : Clean a := (List.forall_mem_append.mp h).1
theorem Clean.right {a b} (h : Clean (a ++ b)) : Clean b := (List.forall_mem_append.mp h).2

theorem run_push {ab st l} (h : Clean l) : run ab st l = l.reverse ++ st := by
  induction l generalizing st with
  | nil => rfl
  | cons c l ih => rw [run_cons, normStep_name h.head, ih h.tail, List.reverse_cons, List.append_assoc]; rfl

theorem run_normComps_abs (st l) (h : Clean l) : run true st l = l.reverse ++ st := run_push h

theorem normComps_clean (l) : Clean (normComps true l) := (run_clean l Clean.nil).reverse

theorem normComps_of_clean {ab l} (h : Clean l) : normComps ab l = l := by
  rw [normComps_eq, run_push h, List.append_nil, List.reverse_reverse]

theorem run_pop {st l} (h : Clean l) :
    run true (l.reverse ++ st) (List.replicate l.length dotdot) = st := by
  induction l generalizing st with
  | nil => rfl
  | cons c l ih =>
    rw [List.reverse_cons, List.append_assoc, List.length_cons, List.replicate_succ', run_append,
      ih h.tail]
    exact (normStep_dotdot_cons true c st).trans (if_neg h.head.2.2)

theorem relSegs_nil_left (d : List Str) : relSegs [] d = d := by cases d <;> rfl
theorem relSegs_cons_same (x : Str) (os ds : List Str) : relSegs (x :: os) (x :: ds) = relSegs os ds :=
  if_pos rfl
theorem relSegs_cons_ne {x y : Str} (h : x ≠ y) (os ds : List Str) :
    relSegs (x :: os) (y :: ds) = List.replicate (os.length + 1) dotdot ++ y :: ds := if_neg h

/-- `relSegs` drops a common prefix `p`, climbs out of the rest of `o` and descends the rest of `d`. -/
theorem relSegs_spec (o d : List Str) : ∃ p o' d', o = p ++ o' ∧ d = p ++ d' ∧
    relSegs o d = List.replicate o'.length dotdot ++ d' := by
  induction o generalizing d with
  | nil => exact ⟨[], [], d, rfl, rfl, relSegs_nil_left d⟩
  | cons x os ih =>
    cases d with
    | nil => exact ⟨[], x :: os, [], rfl, rfl, rfl⟩
    | cons y ds =>
      by_cases hxy : x = y
      · obtain ⟨p, o', d', ho, hd, h⟩ := ih ds
        exact ⟨x :: p, o', d', by rw [ho]; rfl, by rw [hd, hxy]; rfl, by rw [← hxy, relSegs_cons_same, h]⟩
      · exact ⟨[], x :: os, y :: ds, rfl, rfl, relSegs_cons_ne hxy os ds⟩

theorem run_relSegs {st o d} (ho : Clean o) (hd : Clean d) :
    run true st (o ++ relSegs o d) = d.reverse ++ st := by
  obtain ⟨p, o', d', rfl, rfl, h⟩ := relSegs_spec o d
  rw [h, List.append_assoc, run_append, run_push ho.left, run_append, run_append, run_push ho.right,
    run_pop ho.right, run_push hd.right,
    List.reverse_append, List.append_assoc]

theorem relSegs_prefix (o n : List Str) : relSegs o (o ++ n) = n := by
  induction o with
  | nil => exact relSegs_nil_left n
  | cons x os ih => exact (relSegs_cons_same x os (os ++ n)).trans ih

theorem step_over_rel {ab S R c} (hR : NoDot R) :
    normStep ab (run ab S R.reverse) c = run ab S (normStep false R c).reverse := by
  have snoc : ∀ r t, run ab S (t :: r : List Str).reverse = normStep ab (run ab S r.reverse) t :=
    fun r t => by rw [List.reverse_cons, run_append]; rfl
  rcases comp_cases c with rfl | rfl | rfl | hc
  · rw [normStep_empty, normStep_empty]
  · rw [normStep_dot, normStep_dot]
  · cases R with
    | nil => rw [normStep_dotdot_nil false]; rfl
    | cons t r =>
      rw [normStep_dotdot_cons]
      by_cases ht : t = dotdot
      · rw [if_pos ht, snoc (t :: r)]
      · have hR := hR t (List.mem_cons_self ..)
        rw [if_neg ht, snoc, normStep_name ⟨hR.1, hR.2, ht⟩, normStep_dotdot_cons, if_neg ht]
  · rw [normStep_name hc, normStep_name hc, snoc, normStep_name hc]

theorem run_over_rel {ab S R} (xs : List Str) (hR : NoDot R) :
    run ab (run ab S R.reverse) xs = run ab S (run false R xs).reverse := by
  induction xs generalizing R with
  | nil => rfl
  | cons c xs ih => rw [run_cons, step_over_rel hR, ih (R := normStep false R c) (run_noDot [c] hR), run_cons]

/-- Normalizing a relative path first changes nothing for either loop, from any stack: so it leads
to the same place from every directory, and normalizing twice is normalizing once. -/
theorem run_normComps_rel (ab) (S xs : List Str) : run ab S (normComps false xs) = run ab S xs :=
  (run_over_rel (S := S) (R := []) xs (fun _ h => nomatch h)).symm

theorem normComps_idem (ab l) : normComps ab (normComps ab l) = normComps ab l := by
  cases ab
  · rw [normComps_eq, run_normComps_rel, ← normComps_eq]
  · exact normComps_of_clean (normComps_clean l)

theorem run_dotdots (k : Nat) : run false [] (List.replicate k dotdot) = List.replicate k dotdot := by
  induction k with
  | zero => rfl
  | succ k ih =>
    rw [List.replicate_succ', run_append, ih, ← List.replicate_succ']
    cases k with
    | zero => rfl
    | succ k => exact (normStep_dotdot_cons false ..).trans (if_pos rfl)

/-- Some `..` followed by names is what the relative loop leaves alone. -/
theorem normComps_relSegs {o d} (hd : Clean d) : normComps false (relSegs o d) = relSegs o d := by
  obtain ⟨p, o', d', rfl, rfl, h⟩ := relSegs_spec o d
  rw [h, normComps_eq, run_append, run_dotdots, run_push hd.right, List.reverse_append,
    List.reverse_reverse, List.reverse_replicate]

theorem isabs_cases (s : Str) : isabs s = false ∨ ∃ t, s = slash :: t := by
  cases s with
  | nil => exact .inl rfl
  | cons c r =>
    by_cases hc : c = slash
    · exact .inr ⟨r, hc ▸ rfl⟩
    · exact .inl (beq_false_of_ne hc)

theorem isabs_append_rel {a x : Str} (ha : isabs a = false) (hx : isabs x = false) :
    isabs (a ++ x) = false := by
  cases a with
  | nil => exact hx
  | cons c r => exact ha

theorem splitroot_slashes {k : Nat} {t : Str} (hk : k ≤ 2) (ht : isabs t = false) :
    splitroot (slashes k ++ t) = (k, t) := by
  have le_two : ∀ k, k ≤ 2 → k = 0 ∨ k = 1 ∨ k = 2 := by decide
  -- `splitroot` evaluates up to the test of the first character of `t`
  cases t with
  | nil => obtain rfl | rfl | rfl := le_two k hk <;> rfl
  | cons c r =>
    have hc : c ≠ slash := ne_of_beq_false ht
    obtain rfl | rfl | rfl := le_two k hk
    · exact if_pos hc
    · exact if_pos hc
    · exact if_neg hc

/-- Three or more slashes are one root slash. -/
theorem splitroot_three (r : Str) :
    splitroot (slash :: slash :: slash :: r) = (1, slash :: slash :: r) := by
  simp [splitroot]

theorem splitroot_cases (s : Str) :
    (∃ k t, k ≤ 2 ∧ isabs t = false ∧ s = slashes k ++ t) ∨ ∃ r, s = slash :: slash :: slash :: r := by
  rcases isabs_cases s with h | ⟨t, rfl⟩
  · exact .inl ⟨0, s, by decide, h, rfl⟩
  rcases isabs_cases t with h | ⟨t, rfl⟩
  · exact .inl ⟨1, t, by decide, h, rfl⟩
  rcases isabs_cases t with h | ⟨t, rfl⟩
  · exact .inl ⟨2, t, by decide, h, rfl⟩
  · exact .inr ⟨t, rfl⟩

theorem splitroot_fst_le (s : Str) : (splitroot s).1 ≤ 2 := by
  rcases splitroot_cases s with ⟨k, t, hk, ht, rfl⟩ | ⟨r, rfl⟩
  · rw [splitroot_slashes hk ht]; exact hk
  · rw [splitroot_three]; exact Nat.le_succ 1

theorem splitroot_eq (s : Str) : s = slashes (splitroot s).1 ++ (splitroot s).2 := by
  rcases splitroot_cases s with ⟨k, t, hk, ht, rfl⟩ | ⟨r, rfl⟩
  · rw [splitroot_slashes hk ht]
  · rw [splitroot_three]; rfl

theorem isabs_eq (s : Str) : isabs s = (rootK s != 0) := by
  unfold rootK
  rcases splitroot_cases s with ⟨k, t, hk, ht, rfl⟩ | ⟨r, rfl⟩
  · rw [splitroot_slashes hk ht]
    cases k with
    | zero => exact ht
    | succ k => rfl
  · rfl

theorem splitroot_rel {s : Str} (h : isabs s = false) : splitroot s = (0, s) :=
  splitroot_slashes (k := 0) (Nat.zero_le 2) h

theorem rootK_append_rel (a : Str) {x : Str} (hx : isabs x = false) : rootK (a ++ x) = rootK a := by
  unfold rootK
  rcases splitroot_cases a with ⟨k, t, hk, ht, rfl⟩ | ⟨r, rfl⟩
  · rw [List.append_assoc, splitroot_slashes hk ht, splitroot_slashes hk (isabs_append_rel ht hx)]
  · exact (congrArg Prod.fst (splitroot_three (r ++ x))).trans (congrArg Prod.fst (splitroot_three r)).symm

theorem endsSlash_snoc (a : Str) (c : Nat) : endsSlash (a ++ [c]) = (c == slash) := by
  rw [endsSlash, List.getLast?_concat]

theorem snoc_cases (a : Str) : a = [] ∨ ∃ a' c, a = a' ++ [c] ∧ endsSlash a = (c == slash) := by
  rcases List.eq_nil_or_concat a with h | ⟨a', c, h⟩
  · exact .inl h
  · rw [List.concat_eq_append] at h
    exact .inr ⟨a', c, h, by rw [h]; exact endsSlash_snoc a' c⟩

theorem endsSlash_iff {a : Str} : endsSlash a = true ↔ ∃ a', a = a' ++ [slash] := by
  constructor
  · intro h
    rcases snoc_cases a with rfl | ⟨a', c, rfl, hc⟩
    · cases h
    · exact ⟨a', by rw [eq_of_beq (hc.symm.trans h)]⟩
  · rintro ⟨a', rfl⟩; exact endsSlash_snoc a' slash

theorem endsSlash_append {a b : Str} (hb : b ≠ []) : endsSlash (a ++ b) = endsSlash b := by
  rcases snoc_cases b with rfl | ⟨b', c, rfl, hc⟩
  · exact absurd rfl hb
  · rw [hc, ← List.append_assoc, endsSlash_snoc]

theorem nonEmpty_append (a b : List Str) : nonEmpty (a ++ b) = nonEmpty a ++ nonEmpty b :=
  List.filter_append a b

theorem nonEmpty_of_noEmpty {l : List Str} (h : ∀ c ∈ l, c ≠ []) : nonEmpty l = l :=
  List.filter_eq_self.mpr fun c hc => decide_eq_true (h c hc)

theorem nonEmpty_of_clean {l : List Str} (h : Clean l) : nonEmpty l = l :=
  nonEmpty_of_noEmpty fun c hc => (h c hc).1

theorem mem_nonEmpty {l : List Str} {c : Str} (h : c ∈ nonEmpty l) : c ∈ l ∧ c ≠ [] :=
  ⟨(List.mem_filter.mp h).1, of_decide_eq_true (List.mem_filter.mp h).2⟩

theorem nonEmpty_cons_of_ne {c : Str} (hc : c ≠ []) (l : List Str) : nonEmpty (c :: l) = c :: nonEmpty l :=
  List.filter_cons_of_pos (decide_eq_true hc)

theorem run_nonEmpty (ab st) (l : List Str) : run ab st (nonEmpty l) = run ab st l := by
  induction l generalizing st with
  | nil => rfl
  | cons c l ih =>
    by_cases hc : c = []
    · rw [hc, run_cons, normStep_empty]; exact ih st
    · rw [nonEmpty_cons_of_ne hc, run_cons, run_cons]; exact ih _

theorem nonEmpty_splitSlash_slashes (k : Nat) (t : Str) :
    nonEmpty (splitSlash (slashes k ++ t)) = nonEmpty (splitSlash t) := by
  induction k with
  | zero => rfl
  | succ k ih => rw [slashes, List.replicate_succ, List.cons_append, splitSlash_slash]; exact ih

/-- The root can be left on when splitting: its slashes only make empty components. -/
theorem comps_eq (s : Str) : comps s = nonEmpty (splitSlash s) := by
  unfold comps
  rcases splitroot_cases s with ⟨k, t, hk, ht, rfl⟩ | ⟨r, rfl⟩
  · rw [splitroot_slashes hk ht, nonEmpty_splitSlash_slashes]
  · rw [splitroot_three]; exact (nonEmpty_splitSlash_slashes 1 _).symm

theorem parseNorm_eq (s : Str) : parseNorm s = (rootK s, normComps (isabs s) (comps s)) := by
  rw [parseNorm, comps, normComps_eq, normComps_eq, run_nonEmpty, isabs_eq, rootK]

theorem comps_slashFree {s c : Str} (h : c ∈ comps s) : SlashFree c :=
  mem_splitSlash_slashFree (mem_nonEmpty (comps_eq s ▸ h)).1

theorem comps_ne_nil {s c : Str} (h : c ∈ comps s) : c ≠ [] :=
  (mem_nonEmpty (comps_eq s ▸ h)).2

theorem comps_nil : comps [] = [] := by decide
theorem rootK_nil : rootK [] = 0 := by decide

theorem comps_append_slash (a b : Str) : comps (a ++ slash :: b) = comps a ++ comps b := by
  rw [comps_eq, comps_eq, comps_eq, splitSlash_append_slash, nonEmpty_append]

theorem join_abs {a b : Str} (h : isabs b = true) : join a b = b := if_pos h

theorem join_nil_left {b : Str} : join [] b = b := by
  unfold join; split <;> rfl

theorem join_rel {a b : Str} (h : isabs b = false) :
    join a b = if a = [] ∨ endsSlash a = true then a ++ b else a ++ slash :: b := by
  unfold join; rw [if_neg (by rw [h]; exact Bool.false_ne_true)]

theorem join_ends {a b : Str} (h : isabs b = false) (he : endsSlash a = true) : join a b = a ++ b := by
  rw [join_rel h, if_pos (.inr he)]

theorem join_plain {a b : Str} (h : isabs b = false) (ha : a ≠ []) (he : endsSlash a = false) :
    join a b = a ++ slash :: b := by
  rw [join_rel h, if_neg (not_or.mpr ⟨ha, by rw [he]; exact Bool.false_ne_true⟩)]

theorem rootK_join {a b : Str} (h : isabs b = false) : rootK (join a b) = rootK a := by
  rw [join_rel h]
  split
  · exact rootK_append_rel a h
  · next hn =>
    rcases snoc_cases a with rfl | ⟨a', c, rfl, hc⟩
    · exact absurd (.inl rfl) hn
    · have hc : isabs [c] = false := by
        rw [show isabs [c] = (c == slash) from rfl, ← hc]; exact Bool.eq_false_iff.mpr (not_or.mp hn).2
      rw [List.append_assoc, rootK_append_rel a' hc, rootK_append_rel a' (x := [c] ++ slash :: b) hc]

theorem comps_join {a b : Str} (h : isabs b = false) : comps (join a b) = comps a ++ comps b := by
  rw [join_rel h]
  split
  · next ha =>
    rcases ha with rfl | ha
    · rfl
    · obtain ⟨a', rfl⟩ := endsSlash_iff.mp ha
      rw [List.append_assoc, List.singleton_append, comps_append_slash, comps_append_slash, comps_nil,
        List.append_nil]
  · exact comps_append_slash a b

theorem isabs_join_left {a b : Str} (h : isabs a = true) : isabs (join a b) = true := by
  by_cases hb : isabs b = true
  · rw [join_abs hb]; exact hb
  · rw [isabs_eq, rootK_join (Bool.eq_false_iff.mpr hb), ← isabs_eq]; exact h

theorem isabs_join_join {a : Str} (h : isabs a = true) {b c : Str} : isabs (join (join a b) c) = true :=
  isabs_join_left (isabs_join_left h)

theorem isabs_join_rel {a b : Str} (ha : isabs a = false) (hb : isabs b = false) : isabs (join a b) = false := by
  rw [isabs_eq, rootK_join hb, ← isabs_eq]; exact ha

/-- Components that `joinSlash` and `splitSlash` take to each other. -/
def Segs (l : List Str) : Prop := ∀ c ∈ l, SlashFree c ∧ c ≠ []

theorem splitSlash_no_nil {s : Str} (h : [] ∉ splitSlash s) :
    s ≠ [] ∧ isabs s = false ∧ endsSlash s = false := by
  refine ⟨fun e => h (by rw [e]; exact List.mem_singleton_self []), ?_, ?_⟩
  · rcases isabs_cases s with h' | ⟨t, rfl⟩
    · exact h'
    · exact absurd (by rw [splitSlash_slash]; exact List.mem_cons_self ..) h
  · cases he : endsSlash s with
    | false => rfl
    | true =>
      obtain ⟨a, rfl⟩ := endsSlash_iff.mp he
      exact absurd (by rw [splitSlash_append_slash]; exact List.mem_append_right _ (List.mem_singleton_self [])) h

theorem joinSlash_plain {l : List Str} (h : Segs l) (hl : l ≠ []) :
    joinSlash l ≠ [] ∧ isabs (joinSlash l) = false ∧ endsSlash (joinSlash l) = false :=
  splitSlash_no_nil (by rw [splitSlash_joinSlash hl fun c hc => (h c hc).1]; exact fun hm => (h _ hm).2 rfl)

theorem joinSlash_eq_nil {l : List Str} (h : Segs l) : joinSlash l = [] ↔ l = [] :=
  ⟨fun e => Decidable.by_contra fun hl => (joinSlash_plain h hl).1 e, fun e => e ▸ rfl⟩

theorem joinSlash_rel {l : List Str} (h : Segs l) : isabs (joinSlash l) = false := by
  by_cases hl : l = []
  · rw [hl]; rfl
  · exact (joinSlash_plain h hl).2.1

theorem comps_slashes_joinSlash (k : Nat) {l : List Str} (h : Segs l) :
    comps (slashes k ++ joinSlash l) = l := by
  rw [comps_eq, nonEmpty_splitSlash_slashes]
  by_cases hl : l = []
  · rw [hl]; rfl
  · rw [splitSlash_joinSlash hl (fun c hc => (h c hc).1)]
    exact nonEmpty_of_noEmpty fun c hc => (h c hc).2

/-- Only the relative path without components is rendered as `.`. -/
theorem render_eq (k : Nat) {l : List Str} (h : Segs l) :
    render k l = if k = 0 ∧ l = [] then dot else slashes k ++ joinSlash l := by
  simp only [render, slashes, List.append_eq_nil_iff, List.replicate_eq_nil_iff, joinSlash_eq_nil h]

theorem rootK_render {k : Nat} {l : List Str} (hk : k ≤ 2) (h : Segs l) : rootK (render k l) = k := by
  rw [render_eq k h]
  split
  · next h0 => rw [h0.1]; rfl
  · exact congrArg Prod.fst (splitroot_slashes hk (joinSlash_rel h))

theorem comps_render_of_ne {k : Nat} {l : List Str} (h : Segs l) (hn : ¬(k = 0 ∧ l = [])) :
    comps (render k l) = l := by
  rw [render_eq k h, if_neg hn, comps_slashes_joinSlash k h]

theorem comps_dot : comps dot = [dot] := by decide
theorem normpath_dot : normpath dot = dot := by decide

theorem run_comps_dot (ab S) : run ab S (comps dot) = S := by
  rw [comps_dot, run_cons, normStep_dot, run_nil]

/-- The `.` that stands for no components does nothing in the loop. -/
theorem run_comps_render (ab S k) {l : List Str} (h : Segs l) :
    run ab S (comps (render k l)) = run ab S l := by
  by_cases hn : k = 0 ∧ l = []
  · rw [render_eq k h, if_pos hn, run_comps_dot, hn.2, run_nil]
  · rw [comps_render_of_ne h hn]

theorem dotdot_slashFree : SlashFree dotdot := by unfold SlashFree; decide
theorem dot_slashFree : SlashFree dot := by unfold SlashFree; decide

theorem normComps_segs (ab : Bool) (s : Str) : Segs (normComps ab (comps s)) :=
  fun _ hc => ⟨comps_slashFree (mem_normComps hc).1, comps_ne_nil (mem_normComps hc).1⟩

/-- A root marker with a component list that normalization leaves alone. -/
def Normal (k : Nat) (l : List Str) : Prop := k ≤ 2 ∧ Segs l ∧ normComps (k != 0) l = l

theorem parseNorm_normal (s : Str) : Normal (parseNorm s).1 (parseNorm s).2 := by
  rw [parseNorm_eq]
  exact ⟨splitroot_fst_le s, normComps_segs _ s, by rw [isabs_eq]; exact normComps_idem _ _⟩

theorem parseNorm_render {k : Nat} {l : List Str} (h : Normal k l) : parseNorm (render k l) = (k, l) := by
  rw [parseNorm_eq, isabs_eq, rootK_render h.1 h.2.1, normComps_eq, run_comps_render _ _ _ h.2.1,
    ← normComps_eq, h.2.2]

theorem normpath_def (s : Str) : normpath s = render (parseNorm s).1 (parseNorm s).2 := rfl

theorem parseNorm_normpath (s : Str) : parseNorm (normpath s) = parseNorm s :=
  parseNorm_render (parseNorm_normal s)

theorem normpath_idem (s : Str) : normpath (normpath s) = normpath s := by
  rw [normpath_def (normpath s), parseNorm_normpath]; rfl

theorem rootK_normpath (s : Str) : rootK (normpath s) = rootK s := by
  have := congrArg Prod.fst (parseNorm_normpath s)
  rwa [parseNorm_eq, parseNorm_eq] at this

theorem isabs_normpath (s : Str) : isabs (normpath s) = isabs s := by
  rw [isabs_eq, isabs_eq, rootK_normpath]

theorem normpath_eq (s : Str) : normpath s = render (rootK s) (normComps (isabs s) (comps s)) := by
  rw [normpath_def, parseNorm_eq]

theorem comps_normpath_abs {s : Str} (h : isabs s = true) : comps (normpath s) = normComps true (comps s) := by
  rw [normpath_eq, comps_render_of_ne (normComps_segs _ s), h]
  rw [isabs_eq, bne_iff_ne] at h
  exact fun h0 => h h0.1

theorem run_comps_normpath_rel (S : List Str) {s : Str} (h : isabs s = false) :
    run true S (comps (normpath s)) = run true S (comps s) := by
  rw [normpath_eq, run_comps_render _ _ _ (normComps_segs _ s), h, run_normComps_rel]

theorem abspath_abs {cwd s : Str} (h : isabs s = true) : abspath cwd s = normpath s := by
  rw [abspath, if_pos h]

theorem abspath_eq (cwd s : Str) : abspath cwd s = normpath (join cwd s) := by
  unfold abspath
  split
  · next h => rw [join_abs h]
  · rfl

/-- What the path `p` does to the location `S` (a stack of names, innermost first): an absolute path
starts from the root, a relative one from `S`.  `join` is composition, `normpath` changes nothing. -/
def den (p : Str) (S : List Str) : List Str := run true (if isabs p then [] else S) (comps p)

theorem den_abs {p : Str} (h : isabs p = true) (S : List Str) : den p S = run true [] (comps p) := by
  rw [den, if_pos h]

theorem den_rel {p : Str} (h : isabs p = false) (S : List Str) : den p S = run true S (comps p) := by
  rw [den, if_neg (by rw [h]; exact Bool.false_ne_true)]

theorem den_abs_irrel {p : Str} (h : isabs p = true) (S S' : List Str) : den p S = den p S' := by
  rw [den_abs h, den_abs h]

theorem den_abs_reverse {p : Str} (h : isabs p = true) (S : List Str) :
    (den p S).reverse = normComps true (comps p) := by
  rw [den_abs h, normComps_eq]

/-- For an absolute path `normpath` renders the root marker and the location: an equality between normalized
absolute strings is an equality of `rootK` and of `den`. -/
theorem normpath_abs {s : Str} (h : isabs s = true) : normpath s = render (rootK s) (den s []).reverse := by
  rw [normpath_eq, h, den_abs_reverse h]

theorem normpath_abs_congr {s t : Str} (hs : isabs s = true) (ht : isabs t = true) (hk : rootK s = rootK t)
    (hd : den s [] = den t []) : normpath s = normpath t := by
  rw [normpath_abs hs, normpath_abs ht, hk, hd]

theorem den_join (a b : Str) (S : List Str) : den (join a b) S = den b (den a S) := by
  cases hb : isabs b with
  | true => rw [join_abs hb]; exact den_abs_irrel hb _ _
  | false => rw [den_rel hb, den, den, comps_join hb, run_append, isabs_eq, rootK_join hb, ← isabs_eq]

theorem den_normpath (s : Str) (S : List Str) : den (normpath s) S = den s S := by
  cases hs : isabs s with
  | true =>
    rw [den_abs ((isabs_normpath s).trans hs), den_abs hs, comps_normpath_abs hs, run_push (normComps_clean _),
      normComps_eq, List.reverse_reverse, List.append_nil]
  | false => rw [den_rel ((isabs_normpath s).trans hs), den_rel hs, run_comps_normpath_rel _ hs]

theorem isabs_dot : isabs dot = false := rfl
theorem den_dot (S : List Str) : den dot S = S := run_comps_dot true S
theorem den_nil (S : List Str) : den [] S = S := rfl

theorem den_clean (p : Str) {S : List Str} (h : Clean S) : Clean (den p S) := by
  unfold den; split
  · exact run_clean _ Clean.nil
  · exact run_clean _ h

theorem resolve_abs {base p : Str} (hp : isabs p = true) : resolve base p = normComps true (comps p) := by
  rw [resolve, join_abs hp, parseNorm_eq, hp]

theorem resolve_rel {base p : Str} (hb : isabs base = true) (hp : isabs p = false) :
    resolve base p = normComps true (comps base ++ comps p) := by
  rw [resolve, parseNorm_eq, isabs_join_left hb, comps_join hp]

theorem resolve_eq_den {base : Str} (hb : isabs base = true) (p : Str) :
    resolve base p = (den p (den base [])).reverse := by
  rw [resolve, parseNorm_eq, isabs_join_left hb, normComps_eq, ← den_abs (isabs_join_left hb) [], den_join]

theorem resolve_stepDir {root : Str} (hroot : isabs root = true) (here wd p : Str) :
    resolve (join (join root here) wd) p = (den p (den wd (den here (den root [])))).reverse := by
  rw [resolve_eq_den (isabs_join_join hroot), den_join, den_join]

theorem resolve_dot {root : Str} (hroot : isabs root = true) : resolve root dot = normComps true (comps root) := by
  rw [resolve_eq_den hroot, den_dot, den_abs_reverse hroot]

theorem relSegs_segs {o d : List Str} (hd : Segs d) : Segs (relSegs o d) := by
  obtain ⟨p, o', d', rfl, rfl, e⟩ := relSegs_spec o d
  intro c hc
  rcases List.mem_append.mp (e ▸ hc) with h | h
  · rw [(List.mem_replicate.mp h).2]; exact ⟨dotdot_slashFree, dotdot_ne.1⟩
  · exact hd c (List.mem_append_right _ h)

theorem renderRel_eq_render {segs : List Str} (h : Segs segs) : renderRel segs = render 0 segs := by
  rw [render_eq 0 h, renderRel]
  by_cases hs : segs = []
  · rw [if_pos hs, if_pos ⟨rfl, hs⟩]
  · rw [if_neg hs, if_neg (fun h => hs h.2)]; rfl

theorem isabs_renderRel {segs : List Str} (h : Segs segs) : isabs (renderRel segs) = false := by
  rw [isabs_eq, renderRel_eq_render h, rootK_render (Nat.zero_le 2) h]; rfl

/-- The relative path from a directory to the location `d`, taken from that directory, leads to `d`. -/
theorem den_renderRel_relSegs {root : Str} (hroot : isabs root = true) {d : List Str} (hd : Clean d) (hs : Segs d)
    (S : List Str) : den (renderRel (relSegs (normComps true (comps root)) d)) (den root S) = d.reverse := by
  have hg := relSegs_segs (o := normComps true (comps root)) hs
  have h := run_relSegs (st := []) (normComps_clean (comps root)) hd
  rw [run_append, run_push (normComps_clean (comps root)), normComps_eq, List.reverse_reverse,
    List.append_nil, List.append_nil] at h
  rw [den_rel (isabs_renderRel hg), renderRel_eq_render hg, run_comps_render _ _ _ hg, den_abs hroot, normComps_eq, h]

theorem relpathTo_eq (cwd origin dest : Str) : relpathTo cwd origin dest =
    if rootK (abspath cwd origin) ≠ rootK (abspath cwd dest) then abspath cwd dest
    else renderRel (relSegs (comps (abspath cwd origin)) (comps (abspath cwd dest))) := rfl

theorem relpathTo_same {cwd origin dest : Str} (ho : isabs origin = true) (hd : isabs dest = true)
    (hk : rootK origin = rootK dest) :
    relpathTo cwd origin dest =
      renderRel (relSegs (normComps true (comps origin)) (normComps true (comps dest))) := by
  rw [relpathTo_eq, abspath_abs ho, abspath_abs hd, rootK_normpath, rootK_normpath, if_neg (not_not_intro hk),
    comps_normpath_abs ho, comps_normpath_abs hd]

theorem relpathTo_diff {cwd origin dest : Str} (ho : isabs origin = true) (hd : isabs dest = true)
    (hk : rootK origin ≠ rootK dest) : relpathTo cwd origin dest = normpath dest := by
  rw [relpathTo_eq, abspath_abs ho, abspath_abs hd, rootK_normpath, rootK_normpath, if_pos hk]

/-- `relpathTo` from where `o` leads, leads to where `d` leads (also when the roots `/` and `//` differ
and the result is absolute). -/
theorem den_relpathTo {cwd o d : Str} (ho : isabs o = true) (hd : isabs d = true) (S S' : List Str) :
    den (relpathTo cwd o d) (den o S) = den d S' := by
  by_cases hk : rootK o = rootK d
  · rw [relpathTo_same ho hd hk, den_renderRel_relSegs ho (normComps_clean _) (normComps_segs true d),
      den_abs hd, normComps_eq, List.reverse_reverse]
  · rw [relpathTo_diff ho hd hk, den_normpath]; exact den_abs_irrel hd _ _

theorem normpath_relpathTo {cwd origin dest : Str} (ho : isabs origin = true) (hd : isabs dest = true) :
    normpath (relpathTo cwd origin dest) = relpathTo cwd origin dest := by
  by_cases hk : rootK origin = rootK dest
  · have hg := relSegs_segs (o := normComps true (comps origin)) (normComps_segs true dest)
    rw [relpathTo_same ho hd hk, renderRel_eq_render hg, normpath_def,
      parseNorm_render ⟨Nat.zero_le 2, hg, normComps_relSegs (normComps_clean _)⟩]
  · rw [relpathTo_diff ho hd hk, normpath_idem]

theorem isabs_abspath {cwd s : Str} (hc : isabs cwd = true) : isabs (abspath cwd s) = true := by
  rw [abspath_eq, isabs_normpath]; exact isabs_join_left hc

theorem abspath_idem {cwd s : Str} (hc : isabs cwd = true) : abspath cwd (abspath cwd s) = abspath cwd s := by
  rw [abspath_abs (isabs_abspath hc), abspath_eq, normpath_idem]

theorem relpathTo_abspath {cwd o d : Str} (hc : isabs cwd = true) :
    relpathTo cwd o d = relpathTo cwd (abspath cwd o) (abspath cwd d) := by
  rw [relpathTo_eq, relpathTo_eq, abspath_idem hc, abspath_idem hc]

theorem den_abspath (cwd s : Str) (S : List Str) : den (abspath cwd s) S = den s (den cwd S) := by
  rw [abspath_eq, den_normpath, den_join]

/-- `relpathTo` with arguments relative to `cwd`. -/
theorem den_relpathTo_gen {cwd : Str} (hc : isabs cwd = true) (o d : Str) (S : List Str) :
    den (relpathTo cwd o d) (den o (den cwd S)) = den d (den cwd S) := by
  rw [relpathTo_abspath hc, ← den_abspath cwd o, den_relpathTo (isabs_abspath hc) (isabs_abspath hc) S S, den_abspath]

/-- `HERE` as the executor sets it leads from the root to the step's directory. -/
theorem den_envHereVar (root w : Str) (hroot : isabs root = true) (S : List Str) :
    den (envHereVar root w) (den root S) = den w (den root S) := by
  have h := den_relpathTo_gen hroot dot w S
  rwa [den_dot] at h

theorem translate_of_rel_abs {cwd root here p wd : Str} (hp : isabs p = false) (hwd : isabs wd = true) :
    translate cwd root here p wd = normpath (join (normpath wd) (normpath p)) := by
  rw [translate, isabs_normpath, isabs_normpath, hp, hwd, if_neg Bool.false_ne_true, if_pos rfl]

theorem translate_of_rel {cwd root here p wd : Str} (hp : isabs p = false) (hwd : isabs wd = false) :
    translate cwd root here p wd =
      relpathTo cwd root (normpath (join (join root here) (join (normpath wd) (normpath p)))) := by
  rw [translate, isabs_normpath, isabs_normpath, hp, hwd, if_neg Bool.false_ne_true,
    if_neg Bool.false_ne_true]

theorem translateBack_of_rel {cwd root here wd p : Str} (hp : isabs p = false) :
    translateBack cwd root here p wd =
      relpathTo cwd (join (join root here) (normpath wd)) (join root (normpath p)) := by
  rw [translateBack, isabs_normpath, hp, if_neg Bool.false_ne_true]

theorem translateBack_of_abs {cwd root here wd p : Str} (hp : isabs p = true) :
    translateBack cwd root here p wd =
      if isabs (normpath wd) = true ∧ (normpath wd).isPrefixOf (normpath p) = true then
        relpathTo cwd (normpath wd) (normpath p)
      else normpath p := by
  rw [translateBack, isabs_normpath p, hp, if_pos rfl]

theorem isabs_translateBack_rel {cwd root here p wd : Str} (hroot : isabs root = true)
    (hhere : isabs here = false) (hp : isabs p = false) (hwd : isabs wd = false) :
    isabs (translateBack cwd root here p wd) = false := by
  rw [translateBack_of_rel hp, relpathTo_same (isabs_join_join hroot) (isabs_join_left hroot)
    (by rw [rootK_join ((isabs_normpath wd).trans hwd), rootK_join hhere,
      rootK_join ((isabs_normpath p).trans hp)])]
  exact isabs_renderRel (relSegs_segs (normComps_segs true _))

/-- `translate` by its three arms: an absolute path, a relative path under an absolute working directory, a relative
path under a relative working directory (the only arm that looks at `root` and `here`). -/
theorem translate_cases (cwd root here p wd : Str) (motive : Str → Prop)
    (abs : isabs p = true → motive (normpath p))
    (absWd : isabs p = false → isabs wd = true → motive (normpath (join (normpath wd) (normpath p))))
    (rel : isabs p = false → isabs wd = false →
      motive (relpathTo cwd root (normpath (join (join root here) (join (normpath wd) (normpath p)))))) :
    motive (translate cwd root here p wd) := by
  cases hp : isabs p with
  | true => rw [translate, if_pos ((isabs_normpath p).trans hp)]; exact abs hp
  | false =>
    cases hwd : isabs wd with
    | true => rw [translate_of_rel_abs hp hwd]; exact absWd hp hwd
    | false => rw [translate_of_rel hp hwd]; exact rel hp hwd

theorem den_translate (cwd root here wd p : Str) (hroot : isabs root = true) (S : List Str) :
    den (translate cwd root here p wd) (den root S) = den p (den wd (den here (den root S))) := by
  refine translate_cases cwd root here p wd (fun r => den r (den root S) = _) (fun hp => ?_) (fun _ hwd => ?_) fun _ _ => ?_
  · rw [den_normpath]; exact den_abs_irrel hp _ _
  · rw [den_normpath, den_join, den_normpath, den_normpath, den_abs_irrel hwd _ (den here (den root S))]
  · rw [den_relpathTo hroot ((isabs_normpath _).trans (isabs_join_join hroot)) S S,
      den_normpath, den_join, den_join, den_join, den_normpath, den_normpath]

theorem den_translateBack (cwd root here wd p : Str) (hroot : isabs root = true) (S : List Str) :
    den (translateBack cwd root here p wd) (den wd (den here (den root S))) = den p (den root S) := by
  cases hp : isabs p with
  | true =>
    rw [translateBack_of_abs hp]
    split
    · next h =>
      rw [← den_normpath wd, den_relpathTo h.1 ((isabs_normpath p).trans hp) _ S, den_normpath]
      exact den_abs_irrel hp _ _
    · rw [den_normpath]; exact den_abs_irrel hp _ _
  | false =>
    have e : den wd (den here (den root S)) = den (join (join root here) (normpath wd)) S := by
      rw [den_join, den_join, den_normpath]
    rw [translateBack_of_rel hp, e,
      den_relpathTo (isabs_join_join hroot) (isabs_join_left hroot) S S, den_join, den_normpath]

/-- `apply_affixes` as one chain of tests: both `if … then x ++ p else p` are plain appends. -/
theorem applyAffixes_eq (p l t : Str) : applyAffixes p l t =
    if l ≠ [] ∧ l ≠ dotSlash then .error 1
    else if l ≠ [] ∧ (isabs p = true ∨ dotSlash.isPrefixOf p = true) then .error 2
    else if t ≠ [] ∧ t ≠ [slash] then .error 3
    else if t ≠ [] ∧ endsSlash (l ++ p) = true then .error 4
    else .ok (l ++ p ++ t) := by
  have h1 : ∀ a b : Str, (if a ≠ [] then a ++ b else b) = a ++ b := fun a b => by cases a <;> rfl
  have h2 : ∀ a b : Str, (if b ≠ [] then a ++ b else a) = a ++ b := fun a b => by
    cases b with
    | nil => exact (List.append_nil a).symm
    | cons c r => rfl
  simp only [applyAffixes, h1, h2]

/-- A path without affixes of its own: not empty, no trailing slash, no leading `./`. -/
def Plain (q : Str) : Prop := q ≠ [] ∧ endsSlash q = false ∧ dotSlash.isPrefixOf q = false

theorem getAffixes_of_ends (b : Str) :
    getAffixes (b ++ [slash]) = (if dotSlash.isPrefixOf b then dotSlash else [], [slash]) := by
  simp only [getAffixes, endsSlash_snoc, beq_self_eq_true, if_true, List.dropLast_concat]

theorem getAffixes_of_not_ends {s : Str} (h : endsSlash s = false) :
    getAffixes s = (if dotSlash.isPrefixOf s then dotSlash else [], []) := by
  simp only [getAffixes, h, Bool.false_eq_true, if_false]

theorem getAffixes_shape (p : Str) :
    ((getAffixes p).1 = [] ∨ (getAffixes p).1 = dotSlash) ∧ ((getAffixes p).2 = [] ∨ (getAffixes p).2 = [slash]) := by
  have lead : ∀ c : Bool, (if c then dotSlash else ([] : Str)) = [] ∨ (if c then dotSlash else []) = dotSlash
    | true => .inr rfl
    | false => .inl rfl
  cases he : endsSlash p with
  | true => obtain ⟨b, rfl⟩ := endsSlash_iff.mp he; rw [getAffixes_of_ends]; exact ⟨lead _, .inr rfl⟩
  | false => rw [getAffixes_of_not_ends he]; exact ⟨lead _, .inl rfl⟩

/-- The body that `get_affixes` looks at is a prefix of the path, so an absolute path has no `./`. -/
theorem getAffixes_lead_abs {p : Str} (h : isabs p = true) : (getAffixes p).1 = [] := by
  refine if_neg fun hp => ?_
  have hb : (if endsSlash p then p.dropLast else p) <+: p := by
    split
    · exact List.dropLast_prefix p
    · exact List.prefix_refl p
  obtain ⟨r, rfl⟩ := (List.isPrefixOf_iff_prefix.mp hp).trans hb
  cases h

/-- A rendered normal form other than a bare root has no affixes of its own: a leading `./` would be a
`.` component, which normalization does not leave. -/
theorem render_plain {k : Nat} {l : List Str} (h : Normal k l) (hne : k = 0 ∨ l ≠ []) :
    Plain (render k l) := by
  have hg := h.2.1
  by_cases hn : k = 0 ∧ l = []
  · rw [render_eq k hg, if_pos hn]; exact ⟨by decide, by decide, by decide⟩
  · obtain ⟨h1, _, h3⟩ := joinSlash_plain hg (hne.elim (fun hk hl => hn ⟨hk, hl⟩) id)
    rw [render_eq k hg, if_neg hn]
    refine ⟨List.append_ne_nil_of_right_ne_nil _ h1, (endsSlash_append h1).trans h3,
      Bool.eq_false_iff.mpr fun hp => ?_⟩
    obtain ⟨r, e⟩ := List.isPrefixOf_iff_prefix.mp hp
    have hd : dot ∈ l := by
      rw [← comps_slashes_joinSlash k hg, ← e, show dotSlash ++ r = dot ++ slash :: r from rfl,
        comps_append_slash, comps_dot]
      exact List.mem_cons_self ..
    rw [← h.2.2] at hd
    exact (normComps_noDot _ l dot hd).2 rfl

/-- A normalized path `q` has no affixes of its own, unless it is a bare root; here `q` comes from a
path `p` that is no spelling of the root and of which it is the normal form whenever it is absolute. -/
theorem normal_plain {q p : Str} (hn : normpath q = q)
    (hv : isabs q = true → isabs p = true ∧ q = normpath p)
    (hnr : isabs p = true → normComps true (comps p) ≠ []) : Plain q := by
  rw [← hn, normpath_def]
  apply render_plain (parseNorm_normal q)
  rw [parseNorm_eq]
  cases hq : isabs q with
  | true =>
    rw [(hv hq).2, comps_normpath_abs (hv hq).1, normComps_idem]
    exact .inr (hnr (hv hq).1)
  | false => rw [isabs_eq, bne_eq_false_iff_eq] at hq; exact .inl hq

theorem den_dotSlash {q : Str} (hq : isabs q = false) (S : List Str) : den (dotSlash ++ q) S = den q S := by
  rw [show dotSlash ++ q = join dot q from (join_plain (a := dot) hq (by decide) rfl).symm, den_join, den_dot]

theorem den_trailing {q : Str} (hne : q ≠ []) (he : endsSlash q = false) (S : List Str) :
    den (q ++ [slash]) S = den q S := by
  rw [show q ++ [slash] = join q [] from (join_plain rfl hne he).symm, den_join, den_nil]

theorem apply_plain {base q l t : Str} (hb : isabs base = true) (hq : Plain q)
    (hl : l = [] ∨ l = dotSlash) (ht : t = [] ∨ t = [slash]) (habs : isabs q = true → l = []) :
    applyAffixes q l t = .ok (l ++ q ++ t) ∧ getAffixes (l ++ q ++ t) = (l, t) ∧
      resolve base (l ++ q ++ t) = resolve base q := by
  obtain ⟨hne, hend, hpre⟩ := hq
  have hend' : endsSlash (l ++ q) = false := (endsSlash_append hne).trans hend
  have hlead : (if dotSlash.isPrefixOf (l ++ q) then dotSlash else []) = l ∧
      ∀ S, den (l ++ q) S = den q S := by
    rcases hl with rfl | rfl
    · exact ⟨if_neg (by rw [List.nil_append, hpre]; exact Bool.false_ne_true), fun _ => rfl⟩
    · exact ⟨if_pos (List.isPrefixOf_iff_prefix.mpr (List.prefix_append ..)),
        den_dotSlash (Bool.eq_false_iff.mpr fun h => nomatch habs h)⟩
  refine ⟨?_, ?_, ?_⟩
  · rw [applyAffixes_eq, if_neg, if_neg, if_neg, if_neg]
    · exact fun c => Bool.false_ne_true (hend'.symm.trans c.2)
    · exact fun c => ht.elim c.1 c.2
    · exact fun c => c.2.elim (fun b => c.1 (habs b)) fun b => Bool.false_ne_true (hpre.symm.trans b)
    · exact fun c => hl.elim c.1 c.2
  · rcases ht with rfl | rfl
    · rw [List.append_nil, getAffixes_of_not_ends hend', hlead.1]
    · rw [getAffixes_of_ends, hlead.1]
  · rw [resolve_eq_den hb, resolve_eq_den hb]
    rcases ht with rfl | rfl
    · rw [List.append_nil, hlead.2]
    · rw [den_trailing (List.append_ne_nil_of_right_ne_nil _ hne) hend', hlead.2]

/-- `_keep_affixes(p, f)` for any transform `f` whose result on `p` is normalized, and absolute only as the
normal form of an absolute `p`: unless `p` spells the root, the result is `f p` with the affixes of `p`, which
`get_affixes` reads off again, and it designates what `f p` designates. -/
theorem keepAffixes_normal {base : Str} (hb : isabs base = true) (f : Str → Str) (p : Str)
    (hn : normpath (f p) = f p) (hv : isabs (f p) = true → isabs p = true ∧ f p = normpath p)
    (hnr : isabs p = true → normComps true (comps p) ≠ []) :
    keepAffixes f p = .ok ((getAffixes p).1 ++ f p ++ (getAffixes p).2) ∧
    getAffixes ((getAffixes p).1 ++ f p ++ (getAffixes p).2) = getAffixes p ∧
    resolve base ((getAffixes p).1 ++ f p ++ (getAffixes p).2) = resolve base (f p) :=
  apply_plain hb (normal_plain hn hv hnr) (getAffixes_shape p).1 (getAffixes_shape p).2
    fun h => getAffixes_lead_abs (hv h).1

end StepupModel.P.Path
