import StepupModel.Lemmas.ReachLift
/-!
# C09, first clause: a node is detached exactly when it is not reachable from the root

`Trellis._check_consistency` checks a *local* invariant of the creator links: (i) the root is
attached (and its own creator), (ii) an attached node other than the root has a creator that
exists and is attached, (iii) a detached node has no creator, a creator that does not exist, or a
detached creator.  Under that invariant (`CreatorOK`), one row per key and well-founded creator links among
attached nodes (`AttachedWF`), a node is attached exactly when it is reachable from the root
(`attached_iff_reach`).  The local invariant with its companions (one row per key, no dangling creator:
`Forest`) and the well-foundedness (`ForestWF`) are kept by every accepted request of the kernel model, hence
hold after every history (`forest_reachable`, `forestWF_reachable`), which gives
`Props.C09.detached_iff_unreachable_after_every_history`.  `detach` of the root is not an exception: the CHECKs
of the `node` table reject it (`detach_root_rejected`).

The work is done on the list of `(key, creator, detached)` triples: `Lemmas/ReachSkel.lean` (the
local invariant), `Lemmas/ReachLinks.lean` (well-founded creator links), `Lemmas/ReachDesc.lean` (the
recursive walk of `RECURSIVELY_SET_DETACHED` is exact), `Lemmas/ReachFrame.lean` (operations that do
not write these columns), `Lemmas/ReachLift.lean` (the lift through every composite operation).

Each notion of a state `s` has its twin on the list `s.skel`, and a lemma that says so:

| on `KState`                          | on `List Tri`                 | link                           |
|--------------------------------------|-------------------------------|--------------------------------|
| `Forest`                             | `Sk.OK`                       | `forest_iff`                   |
| `AttachedWF`                         | `Sk.ARw`                      | `arw_iff_attachedWF`           |
| `NoFileCreator`                      | `Sk.NFC`                      | `nfc_iff`                      |
| `ForestWF`                           | `Sk.Tree`                     | `forestWF_iff`                 |
| `CreatorAcyclic`                     | `Sk.Acy`                      | `creatorAcyclic_iff`           |
| `ForestAcy`                          | `Sk.TreeAcy`                  | `forestAcy_iff`                |
| `Own.TreesDisjointOn`                | `Own.DisjSkOn`                | `Own.ownOn_skel`               |
| `Own.TreeOwnsBeneathOn`              | `Own.TobSkOn`                 | `Own.ownOn_skel`               |
| `Own.att`, `Own.recycled s k`        | `Own.attT`, `Own.recT l k`    | `Own.recT_iff`                 |
| `treeGuard .. = .ok (some hs)`       | `Sk.TreeGuard`                | `treeGuard_sk`                 |
| `owningTree p = .ok none`            | `Sk.NoTreeAbove`              | `noTreeAbove_sk`               |
| `descendants`, `createdBy`           | `Sk.Desc`, `Sk.createdBy`     | `mem_descendants`, `createdBy_skel` |

`Sk.ARw`: the links of Attached Rows are well-founded; `Sk.NFC`: No File is a Creator; `Sk.Acy`: the links of all
rows are acyclic; `Sk.Tree` = `OK ∧ ARw ∧ NFC` (the creator forest is a tree below the root), not to be confused with
the static trees of `Sk.TreeGuard`/`Sk.NoTreeAbove`; `PQ Q s` is `Q s.skel`.

The table covers the modules that import this one as well: the rows `CreatorAcyclic` and `ForestAcy` (with `Sk.TreeAcy`)
are declared in `Lemmas/ReachAcy.lean`, the three `Own.` rows in `Lemmas/Ownership.lean`; the last three rows are
declared below this file, in `Lemmas/ReachLift.lean` and `Lemmas/ReachDesc.lean`.
-/
namespace StepupModel.K
open Sk

def RootAttached (s : KState) : Prop :=
  ∃ r, s.find? rootKey = some r ∧ r.detached = false ∧ r.creator = some rootKey

/-- What `Trellis._check_consistency` checks of the creator links: (i) to (iii) of the header. -/
def CreatorOK (s : KState) : Prop :=
  RootAttached s ∧
  (∀ n ∈ s.nodes, n.key ≠ rootKey → n.detached = false →
    ∃ c cn, n.creator = some c ∧ s.find? c = some cn ∧ cn.detached = false) ∧
  (∀ n ∈ s.nodes, n.detached = true → ∀ c, n.creator = some c → ∀ cn, s.find? c = some cn → cn.detached = true)

/-- No dangling creator (the foreign key `node.creator`). -/
def CreatorsExist (s : KState) : Prop := ∀ n ∈ s.nodes, ∀ c, n.creator = some c → s.has c = true

inductive Reach (s : KState) : Key → Prop
  | root : Reach s rootKey
  | step (k c : Key) (n : Node) : s.find? k = some n → n.creator = some c → Reach s c → Reach s k

def AttachedWF (s : KState) : Prop :=
  WellFounded fun c k => k ≠ rootKey ∧ ∃ n, s.find? k = some n ∧ n.detached = false ∧ n.creator = some c

/-- No node is created by a file (the creator-kind triggers of the `node` table). -/
def NoFileCreator (s : KState) : Prop := ∀ n ∈ s.nodes, ∀ c, n.creator = some c → c.kind ≠ .file

def Forest (s : KState) : Prop := KeysNodup s ∧ CreatorsExist s ∧ CreatorOK s

def ForestWF (s : KState) : Prop := Forest s ∧ AttachedWF s ∧ NoFileCreator s

theorem Forest.attached_creator {s : KState} (h : Forest s) {n : Node} (hn : n ∈ s.nodes) (hr : n.key ≠ rootKey)
    (hd : n.detached = false) : ∃ c cn, n.creator = some c ∧ s.find? c = some cn ∧ cn.detached = false :=
  h.2.2.2.1 n hn hr hd

theorem CreatorOK.file_creator {s : KState} (hc : CreatorOK s) {n : Node} (hn : n ∈ s.nodes) (hk : n.key.kind = .file)
    (hd : n.detached = false) : ∃ c cn, n.creator = some c ∧ s.find? c = some cn ∧ cn.detached = false :=
  hc.2.1 n hn (fun he => by rw [he] at hk; cases hk) hd

theorem reach_attached {s : KState} (hc : CreatorOK s) {k : Key} (h : Reach s k) :
    ∃ n, s.find? k = some n ∧ n.detached = false := by
  induction h with
  | root =>
    obtain ⟨r, hr, hd, _⟩ := hc.1
    exact ⟨r, hr, hd⟩
  | step k c n hf hcr _ ih =>
    obtain ⟨cn, hcn, hcd⟩ := ih
    refine ⟨n, hf, ?_⟩
    cases hd : n.detached with
    | false => rfl
    | true =>
      have := hc.2.2 n (find_mem hf) hd c hcr cn hcn
      rw [hcd] at this; cases this

theorem attached_reach {s : KState} (hc : CreatorOK s) (hwf : AttachedWF s) (k : Key) :
    (∃ n, s.find? k = some n ∧ n.detached = false) → Reach s k := by
  refine hwf.induction (C := fun k => (∃ n, s.find? k = some n ∧ n.detached = false) → Reach s k) k ?_
  intro k ih ⟨n, hf, hd⟩
  by_cases hk : k = rootKey
  · rw [hk]; exact Reach.root
  · obtain ⟨c, cn, hcr, hcn, hcd⟩ := hc.2.1 n (find_mem hf) (by rw [find_key hf]; exact hk) hd
    exact Reach.step k c n hf hcr (ih c ⟨hk, n, hf, hd, hcr⟩ ⟨cn, hcn, hcd⟩)

/-- C09, first clause, on one state that has the invariants. -/
theorem attached_iff_reach (s : KState) (hk : KeysNodup s) (hc : CreatorOK s) (hwf : AttachedWF s) :
    ∀ n ∈ s.nodes, (n.detached = false ↔ Reach s n.key) := by
  intro n hn
  have hf := find?_of_mem ((keysNodup_iff s).1 hk) hn
  constructor
  · intro hd; exact attached_reach hc hwf n.key ⟨n, hf, hd⟩
  · intro hr
    obtain ⟨m, hm, hd⟩ := reach_attached hc hr
    rw [hf] at hm
    simp only [Option.some.injEq] at hm
    rw [hm]; exact hd

theorem detached_iff_not_reach (s : KState) (hk : KeysNodup s) (hc : CreatorOK s) (hwf : AttachedWF s) :
    ∀ n ∈ s.nodes, (n.detached = true ↔ ¬ Reach s n.key) := by
  intro n hn
  rw [← attached_iff_reach s hk hc hwf n hn]
  cases n.detached <;> simp

theorem forest_iff (s : KState) : Forest s ↔ PQ Sk.OK s := by
  constructor
  · rintro ⟨hk, he, ⟨r, hr, h1, h2⟩, hii, hiii⟩
    have hn := (skNodup_iff s).2 hk
    refine ⟨hn, by have := find?_row hr; rwa [h1, h2] at this, ?_, ?_⟩
    · intro t ht hr
      obtain ⟨n, hm, rfl⟩ := List.mem_map.1 ht
      constructor
      · intro hd
        obtain ⟨c, cn, hc, hcn, hcd⟩ := hii n hm hr hd
        exact ⟨c, hc, (att_iff_find hn c).2 ⟨cn, hcn, hcd⟩⟩
      · rintro ⟨c, hc, hac⟩
        obtain ⟨cn, hcn, hcd⟩ := (att_iff_find hn c).1 hac
        refine Bool.eq_false_iff.2 fun hd => ?_
        rw [hiii n hm hd c hc cn hcn] at hcd; cases hcd
    · intro t ht c hc
      obtain ⟨n, hm, rfl⟩ := List.mem_map.1 ht
      exact (has_iff_skel s c).1 (he n hm c hc)
  · intro h
    have hn := h.nodup
    refine ⟨(skNodup_iff s).1 hn, fun n hm c hc => (has_iff_skel s c).2 (h.exist _ (mem_skel_of_mem hm) c hc), ?_, ?_, ?_⟩
    · obtain ⟨r, hr, h1, h2⟩ := find?_of_row hn h.root
      exact ⟨r, hr, h2, h1⟩
    · intro n hm hroot hd
      obtain ⟨c, hc, hac⟩ := (h.loc _ (mem_skel_of_mem hm) hroot).1 hd
      obtain ⟨cn, hcn, hcd⟩ := (att_iff_find hn c).1 hac
      exact ⟨c, cn, hc, hcn, hcd⟩
    · intro n hm hd c hc cn hcn
      refine Classical.byContradiction fun hne => ?_
      have hcd : cn.detached = false := Bool.eq_false_iff.2 hne
      have hroot : n.key ≠ rootKey := fun hr => by
        have := congrArg (·.2.2) (Sk.uniq hn (mem_skel_of_mem hm) h.root hr)
        exact absurd (hd.symm.trans this) (by decide)
      have : n.detached = false := (h.loc _ (mem_skel_of_mem hm) hroot).2 ⟨c, hc, (att_iff_find hn c).2 ⟨cn, hcn, hcd⟩⟩
      rw [hd] at this; cases this

theorem forest_of_skel {s s' : KState} (h : s'.skel = s.skel) (hf : Forest s) : Forest s' :=
  (forest_iff s').2 (pq_of_skel (Q := Sk.OK) h ((forest_iff s).1 hf))

theorem forest_eq : Forest = PQ Sk.OK := funext fun s => propext (forest_iff s)

theorem product_detached {s : KState} (hFo : Forest s) {k : Key} {n p : Node} (hf : s.find? k = some n)
    (hdet : n.detached = true) (hp : p ∈ s.nodes) (hpc : p.creator = some k) (hpk : p.key ≠ k) : p.detached = true :=
  Sk.products_detached ((forest_iff s).1 hFo) (hdet ▸ find?_row hf) p.tri (mem_skel_of_mem hp) hpc hpk

def Sk.Tree (l : List Tri) : Prop := Sk.OK l ∧ Sk.ARw l ∧ Sk.NFC l

theorem nfc_iff (s : KState) : Sk.NFC s.skel ↔ NoFileCreator s := by
  constructor
  · intro h n hn c hc
    exact h _ (mem_skel_of_mem hn) c hc
  · intro h t ht c hc
    obtain ⟨n, hn, rfl⟩ := List.mem_map.1 ht
    exact h n hn c hc

theorem arw_iff_attachedWF {s : KState} (hn : Sk.Nodup s.skel) : Sk.ARw s.skel ↔ AttachedWF s := by
  have e : Sk.GLink (· = rootKey) (· = false) s.skel =
      fun c k => k ≠ rootKey ∧ ∃ n, s.find? k = some n ∧ n.detached = false ∧ n.creator = some c := by
    funext c k
    refine propext (attLink_iff.trans (and_congr_right fun _ => ⟨fun hm => ?_, fun ⟨n, hf, hd, hc⟩ => ?_⟩))
    · obtain ⟨n, hf, hc, hd⟩ := find?_of_row hn hm
      exact ⟨n, hf, hd, hc⟩
    · exact hc ▸ hd ▸ find?_row hf
  unfold Sk.ARw Sk.GWF AttachedWF
  rw [e]

theorem forestWF_iff (s : KState) : ForestWF s ↔ PQ Sk.Tree s := by
  unfold ForestWF Sk.Tree
  constructor
  · rintro ⟨h1, h2, h3⟩
    have hpq : Sk.OK s.skel := (forest_iff s).1 h1
    exact ⟨hpq, (arw_iff_attachedWF hpq.nodup).2 h2, (nfc_iff s).2 h3⟩
  · rintro ⟨h2, h3, h4⟩
    exact ⟨(forest_iff s).2 h2, (arw_iff_attachedWF h2.nodup).1 h3, (nfc_iff s).1 h4⟩

theorem forestWF_eq : ForestWF = PQ Sk.Tree := funext fun s => propext (forestWF_iff s)

theorem skStable_ok : SkStable Sk.OK where
  ok _ h := h
  detachAtt l k ck D hq hk hrow hD := ok_setRow_desc hq hk ⟨_, hrow, rfl⟩ (fitsRow_none l k) D hD
  detachDet l k ck hq hrow := by
    refine ok_setRow hq (ne_root_of_detached hq hrow) ⟨_, hrow, rfl⟩ (fitsRow_none l k) ?_
    constructor
    · intro h; exact absurd h (not_att_of_detached hq hrow)
    · intro h; cases h
  reattach l k ck c d D hq hrow hck hhas _ hd hD :=
    ok_setRow_desc hq (ne_root_of_detached hq hrow) ⟨_, hrow, rfl⟩ (fitsRow_some hck hhas hd) D hD
  recycle l k ck newc d hq hrow hfits _ := (ok_recycle hq hrow hfits).1
  append l k newc d hq hfresh hk hd := ok_append hq hfresh (fun c hc => (hk c hc).1) hd
  hand l tk hs hq htk _ hfile hatt := by
    refine ok_hand hq htk ?_ hatt
    intro hr
    have := hfile _ hr
    cases this
  filter l D hq hdet hleaf := ok_filter hq D hdet hleaf

theorem skStable_tree : SkStable Sk.Tree where
  ok _ h := h.1
  detachAtt l k ck D hq hk hrow hD :=
    ⟨skStable_ok.detachAtt l k ck D hq.1 hk hrow hD, gwf_detachAtt (fun h => nomatch h) hq.2.1 k D,
      nfc_setD (nfc_setRow hq.2.2 (fun c hc => by cases hc)) D true⟩
  detachDet l k ck hq hrow :=
    ⟨skStable_ok.detachDet l k ck hq.1 hrow, gwf_detachDet hq.2.1 k,
      nfc_setRow hq.2.2 (fun c hc => by cases hc)⟩
  reattach l k ck c d D hq hrow hck hhas hkind hd hD := by
    refine ⟨skStable_ok.reattach l k ck c d D hq.1 hrow hck hhas hkind hd hD, arw_reattach hq.1 hq.2.1 hrow hd D hD,
      nfc_setD (nfc_setRow hq.2.2 ?_) D d⟩
    intro c' hc'
    simp only [Option.some.injEq] at hc'
    subst hc'; exact kindOk_not_file hkind
  recycle l k ck newc d hq hrow hfits hkind :=
    ⟨skStable_ok.recycle l k ck newc d hq.1 hrow hfits hkind, gwf_recycle hq.2.1 hfits,
      nfc_cut (nfc_setRow hq.2.2 (fun c hc => kindOk_not_file (hkind c hc))) k⟩
  append l k newc d hq hfresh hk hd :=
    ⟨skStable_ok.append l k newc d hq.1 hfresh hk hd, gwf_append hq.2.1 hq.1.exist hfresh (fun c hc => (hk c hc).1),
      nfc_append hq.2.2 (fun c hc => kindOk_not_file (hk c hc).2)⟩
  hand l tk hs hq htk hkind hfile hatt :=
    ⟨skStable_ok.hand l tk hs hq.1 htk hkind hfile hatt, gwf_hand hq.2.1 hq.2.2 hkind hfile,
      nfc_hand hq.2.2 hkind hs⟩
  filter l D hq hdet hleaf :=
    ⟨skStable_ok.filter l D hq.1 hdet hleaf, gwf_filter hq.2.1 _, nfc_filter hq.2.2 _⟩

theorem init_skel : KState.init.skel = [(rootKey, some rootKey, false)] := rfl

theorem init_skOK : Sk.OK KState.init.skel := by
  rw [init_skel]
  refine ⟨List.pairwise_singleton _ _, List.mem_singleton.2 rfl, fun t ht hr => ?_, fun t ht c hc => ?_⟩
  · rw [List.mem_singleton.1 ht] at hr; exact absurd rfl hr
  · rw [List.mem_singleton.1 ht] at hc
    exact ⟨_, List.mem_singleton.2 rfl, Option.some.inj hc⟩

theorem init_tree : Sk.Tree KState.init.skel := by
  refine ⟨init_skOK, ⟨fun x => Acc.intro x fun a hl => ?_⟩, fun t ht c hc => ?_⟩
  · have hm := (attLink_iff.1 hl).2
    rw [init_skel, List.mem_singleton] at hm
    exact absurd (congrArg (·.1) hm) (attLink_iff.1 hl).1
  · rw [init_skel, List.mem_singleton] at ht
    rw [ht] at hc
    rw [← Option.some.inj hc]; exact fun h => nomatch h

theorem init_forest : Forest KState.init := (forest_iff _).2 init_skOK

theorem init_forestWF : ForestWF KState.init := (forestWF_iff _).2 init_tree

theorem forest_inv : ExecInv (fun _ _ => True) Forest := forest_eq ▸ skStable_ok.toG.execInv

theorem exec_creatorOK (cfg : KConfig) (r : Req) (s : KState) (res : KState × String)
    (hk : KeysNodup s) (he : CreatorsExist s) (hc : CreatorOK s)
    (h : s.exec cfg r = .ok res) : CreatorOK res.1 :=
  (forest_inv cfg r s res trivial ⟨hk, he, hc⟩ h).2.2

theorem step_creatorOK (cfg : KConfig) (r : Req) (s : KState)
    (hk : KeysNodup s) (he : CreatorsExist s) (hc : CreatorOK s) : CreatorOK (s.step cfg r) :=
  (forest_inv.step cfg r s trivial ⟨hk, he, hc⟩).2.2

theorem run_creatorOK (h : List (KConfig × Req)) (s : KState)
    (hk : KeysNodup s) (he : CreatorsExist s) (hc : CreatorOK s) : CreatorOK (s.run h) :=
  (forest_inv.run' h s ⟨hk, he, hc⟩).2.2

/-- After every history of accepted and rejected requests: the local invariant of
`_check_consistency`, one row per key, no dangling creator. -/
theorem forest_reachable (h : List (KConfig × Req)) : Forest (KState.init.run h) :=
  forest_inv.run' h _ init_forest

theorem creatorOK_reachable (h : List (KConfig × Req)) : CreatorOK (KState.init.run h) :=
  (forest_reachable h).2.2

/-- `Node.detach` of the root is rejected: the CHECKs of the `node` table (`kind != 'root' OR
creator IS i`, `kind != 'root' OR NOT detached`) refuse the write. -/
theorem detach_root_rejected (s : KState) (hr : RootAttached s) : ∃ e, s.detach rootKey = .error e := by
  obtain ⟨r, hf, _, hc⟩ := hr
  have hall : s.creatorAllowed rootKey none true = false :=
    Bool.eq_false_iff.2 fun h => (creatorAllowed_none h).2 rfl
  refine ⟨.integrity, ?_⟩
  unfold KState.detach
  simp only [hf]
  unfold KState.detachCore
  simp only [hc, Option.isSome_some, if_true]
  unfold KState.setCreator
  simp [hall, bind, Except.bind, throw, throwThe, MonadExceptOf.throw]

theorem detach_forest (k : Key) : Preserves Forest (fun s => s.detach k) :=
  forest_eq ▸ skStable_ok.toG.detach_preserves k

theorem reattach_forest (k c : Key) : Preserves Forest (fun s => s.reattach k c) :=
  forest_eq ▸ fun s s' => skStable_ok.toG.toV.reattach_preserves k c s s' trivial

theorem create_forest (k : Key) (creator : Option Key) (init : Init) (hi : InitOK init) :
    Preserves Forest (fun s => s.create k creator init) :=
  forest_eq ▸ skStable_ok.toG.create_preserves k creator init hi

theorem registerStaticTree_forest (cfg : KConfig) (creator : Key) (path : String) (s : KState)
    (r : KState × List String) (hp : Forest s) (h : s.registerStaticTree cfg creator path = .ok r) : Forest r.1 :=
  forest_eq ▸ skStable_ok.toG.toCall.registerStaticTree_preserves cfg creator path s r (forest_eq ▸ hp) h

theorem deletePass_forest (s : KState) (r : KState × List Key × Bool) (hp : Forest s) (h : s.deletePass = .ok r) :
    Forest r.1 :=
  forest_eq ▸ skStable_ok.toG.toV.deletePass_preserves s r (forest_eq ▸ hp) h

theorem deleteDetached_forest : Preserves Forest (fun s => s.deleteDetached) :=
  forest_eq ▸ skStable_ok.toG.deleteDetached_preserves

theorem forestWF_inv : ExecInv (fun _ _ => True) ForestWF := forestWF_eq ▸ skStable_tree.toG.execInv

theorem exec_forestWF (cfg : KConfig) (r : Req) (s : KState) (res : KState × String)
    (hp : ForestWF s) (h : s.exec cfg r = .ok res) : ForestWF res.1 :=
  forestWF_inv cfg r s res trivial hp h

theorem step_forestWF (cfg : KConfig) (r : Req) (s : KState) (hp : ForestWF s) : ForestWF (s.step cfg r) :=
  forestWF_inv.step cfg r s trivial hp

theorem forestWF_reachable (h : List (KConfig × Req)) : ForestWF (KState.init.run h) :=
  forestWF_inv.run' h _ init_forestWF

theorem attachedWF_reachable (h : List (KConfig × Req)) : AttachedWF (KState.init.run h) :=
  (forestWF_reachable h).2.1

theorem attached_iff_reach_reachable (h : List (KConfig × Req)) :
    ∀ n ∈ (KState.init.run h).nodes, (n.detached = false ↔ Reach (KState.init.run h) n.key) := by
  obtain ⟨hf, hwf, _⟩ := forestWF_reachable h
  exact attached_iff_reach _ hf.1 hf.2.2 hwf

/-! Non-vacuity: the hypotheses of the main theorems are met by the empty workflow, and the
history theorems have no hypothesis left. -/

example : Forest KState.init ∧ ForestWF KState.init := ⟨init_forest, init_forestWF⟩

example : AttachedWF KState.init := init_forestWF.2.1

example : RootAttached KState.init := init_forest.2.2.1

end StepupModel.K
