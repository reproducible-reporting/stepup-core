import StepupModel.Lemmas.ReachSkel
import StepupModel.Lemmas.FuelLoop
/-!
# Well-founded creator links

`Sk.OK` (`Lemmas/ReachSkel.lean`) is local: it allows a cycle of attached rows next to the root, and says nothing
about the creators that detached rows keep.  The two global facts about the creator forest are both
well-foundedness of ONE relation with two parameters, `GLink ex fl l c x`: "`c` is the creator of the row `x`",
for rows `x` that are not exempt (`ex`) and whose `detached` flag counts (`fl`):

* `Sk.Acy`: the links of all rows that are not of kind root (the recursive CTEs that walk step products with
  `UNION ALL` start at detached steps as well);
* `Sk.ARw`: the links of the attached rows other than the root, which under `Sk.OK` says that every attached row
  reaches the root.

Six of the seven rewrites of the kernel keep `GWF ex fl` whatever the parameters (`gwf_*`): they only remove links
(`Subrelation.wf`) or redirect links into rows that create nothing afterwards (`wf_leaves`).  Only `Node.reattach`
needs an argument per invariant: for all rows the guard `Trellis.raise_if_created_by` (`acy_reattach`; without the
guard it fails, finding F11), for attached rows that the detached subtree of the row hangs below an attached creator
afterwards (`arw_reattach`).  All arguments about relations come from one lemma, `acc_transfer`.
`createdBy_complete` reads the guard: the walk of `raise_if_created_by` finds `k` whenever `c` is `k` or below `k` on
an acyclic forest.  No `KState` here.
-/
namespace StepupModel.K
namespace Sk

theorem acc_transfer {α : Type} {R R' : α → α → Prop} (S : α → Prop) (h : ∀ a b, S b → R' a b → R a b ∧ S a)
    {x : α} (hx : Acc R x) (hs : S x) : Acc R' x := by
  induction hx with
  | intro x _ ih => exact Acc.intro x fun a ha => ih a (h a x hs ha).1 (h a x hs ha).2

/-- `S`: nodes that have no outgoing edge in `R'`; only their incoming edges may be new. -/
theorem wf_leaves {α : Type} {R R' : α → α → Prop} (hwf : WellFounded R) (S : α → Prop)
    (h : ∀ a b, R' a b → ¬ S a ∧ (S b ∨ R a b)) : WellFounded R' := by
  have h1 : ∀ x, ¬ S x → Acc R' x := fun x hx =>
    acc_transfer (fun y => ¬ S y) (fun a b hb hab => ⟨(h a b hab).2.resolve_left hb, (h a b hab).1⟩) (hwf.apply x) hx
  exact ⟨fun x => Acc.intro x fun a ha => h1 a (h a x ha).1⟩

/-- Paths downwards from `k`, with the list of the nodes met (last first). -/
inductive BelowL {α : Type} (R : α → α → Prop) (k : α) : List α → α → Prop
  | refl : BelowL R k [k] k
  | step {p : List α} {a b : α} : BelowL R k p a → R a b → BelowL R k (b :: p) b

def Below {α : Type} (R : α → α → Prop) (k x : α) : Prop := ∃ p, BelowL R k p x

theorem Below.refl {α : Type} (R : α → α → Prop) (k : α) : Below R k k := ⟨[k], .refl⟩

theorem Below.step {α : Type} {R : α → α → Prop} {k a b : α} (h : Below R k a) (hr : R a b) : Below R k b := by
  obtain ⟨p, hp⟩ := h
  exact ⟨b :: p, .step hp hr⟩

theorem wf_add_edge {α : Type} {R R' : α → α → Prop} (hwf : WellFounded R) (c k : α)
    (hsub : ∀ a b, R' a b → R a b ∨ (a = c ∧ b = k)) (hg : ¬ Below R k c) : WellFounded R' := by
  -- nothing that is not below `k` has the new edge above it
  have hc : Acc R' c := by
    refine acc_transfer (fun y => ¬ Below R k y) (fun a b hb hab => ?_) (hwf.apply c) hg
    rcases hsub a b hab with hr | ⟨_, hbk⟩
    · exact ⟨hr, fun ha => hb (ha.step hr)⟩
    · exact absurd (hbk ▸ Below.refl R k) hb
  refine ⟨fun x => hwf.induction (C := Acc R') x fun x ih => Acc.intro x fun a ha => ?_⟩
  rcases hsub a x ha with hr | ⟨hac, _⟩
  · exact ih a hr
  · exact hac ▸ hc

/-- `c` is the creator of the row `k` (rows of kind root are their own creators and excluded).  It is
`GLink (·.kind = .root) (fun _ => True)` (`link_eq`), written out because the guard of `reattach` is stated on it
(`Below (Link l)`, `createdBy_complete`). -/
def Link (l : List Tri) (c k : Key) : Prop := k.kind ≠ .root ∧ ∃ d, (k, some c, d) ∈ l

def Acy (l : List Tri) : Prop := WellFounded (Link l)

/-- No row is created by a file: the part of the triggers `node_check_creator_kind_*` (`workflow.py`) that the
hand-over of `register_static_tree` needs (`gwf_hand`). -/
def NFC (l : List Tri) : Prop := ∀ t ∈ l, ∀ c, t.2.1 = some c → c.kind ≠ .file

def GLink (ex : Key → Prop) (fl : Bool → Prop) (l : List Tri) (c x : Key) : Prop :=
  ¬ ex x ∧ ∃ d, fl d ∧ (x, some c, d) ∈ l

def GWF (ex : Key → Prop) (fl : Bool → Prop) (l : List Tri) : Prop := WellFounded (GLink ex fl l)

theorem link_eq (l : List Tri) : Link l = GLink (·.kind = .root) (fun _ => True) l := by
  funext c k
  exact propext ⟨fun ⟨h, d, hm⟩ => ⟨h, d, trivial, hm⟩, fun ⟨h, d, _, hm⟩ => ⟨h, d, hm⟩⟩

theorem acy_iff (l : List Tri) : Acy l ↔ GWF (·.kind = .root) (fun _ => True) l := by
  unfold Acy GWF; rw [link_eq]

theorem Acy.of_gwf {l l' : List Tri} (ha : Acy l)
    (h : GWF (·.kind = .root) (fun _ => True) l → GWF (·.kind = .root) (fun _ => True) l') : Acy l' :=
  (acy_iff l').2 (h ((acy_iff l).1 ha))

def ARw (l : List Tri) : Prop := GWF (· = rootKey) (· = false) l

theorem attLink_iff {l : List Tri} {c x : Key} :
    GLink (· = rootKey) (· = false) l c x ↔ x ≠ rootKey ∧ (x, some c, false) ∈ l :=
  ⟨fun ⟨h, _, hd, hm⟩ => ⟨h, hd ▸ hm⟩, fun ⟨h, hm⟩ => ⟨h, false, rfl, hm⟩⟩

section
variable {ex : Key → Prop} {fl : Bool → Prop}

theorem glink_setRow {l : List Tri} {k : Key} {newc : Option Key} {d : Bool} {c x : Key}
    (h : GLink ex fl (setRow k newc d l) c x) : (x ≠ k ∧ GLink ex fl l c x) ∨ (x = k ∧ newc = some c ∧ fl d) := by
  obtain ⟨hx, d', hf, hm⟩ := h
  rcases mem_setRow hm with ⟨he, _⟩ | ⟨hm', hne⟩
  · simp only [Prod.mk.injEq] at he
    exact .inr ⟨he.1, he.2.1.symm, he.2.2 ▸ hf⟩
  · exact .inl ⟨hne, hx, d', hf, hm'⟩

theorem glink_setD {l : List Tri} {D : Key → Bool} {d : Bool} {c x : Key} (h : GLink ex fl (setD D d l) c x) :
    (D x = false ∧ GLink ex fl l c x) ∨ (D x = true ∧ fl d ∧ ¬ ex x ∧ ∃ d', (x, some c, d') ∈ l) := by
  obtain ⟨hx, d', hf, hm⟩ := h
  rcases mem_setD_inv hm with ⟨h1, h2⟩ | ⟨h1, h2, h3⟩
  · exact .inl ⟨h1, hx, d', hf, h2⟩
  · exact .inr ⟨h1, (show d' = d from h2) ▸ hf, hx, h3⟩

/-- `Node.detach` of a detached row. -/
theorem gwf_detachDet {l : List Tri} (h : GWF ex fl l) (k : Key) : GWF ex fl (setRow k none true l) :=
  Subrelation.wf (h₂ := h) @fun c x hl => by
    rcases glink_setRow hl with ⟨_, h2⟩ | ⟨_, h2, _⟩
    · exact h2
    · cases h2

/-- `Node.detach` of an attached row.  `hm`: a flag that counts when set counts when not set, true of "every flag"
(`Acy`) and of "attached" (`ARw`, where a set flag never counts). -/
theorem gwf_detachAtt {l : List Tri} (hm : fl true → ∀ d, fl d) (h : GWF ex fl l) (k : Key) (D : Key → Bool) :
    GWF ex fl (setD D true (setRow k none true l)) :=
  Subrelation.wf (h₂ := (gwf_detachDet h k)) @fun c x hl => by
    rcases glink_setD hl with ⟨_, h1⟩ | ⟨_, h1, h2, d', h3⟩
    · exact h1
    · exact ⟨h2, d', hm h1 d', h3⟩

theorem gwf_filter {l : List Tri} (h : GWF ex fl l) (p : Tri → Bool) : GWF ex fl (l.filter p) :=
  Subrelation.wf (h₂ := h) @fun _ _ ⟨hx, d, hf, hm⟩ => ⟨hx, d, hf, (List.mem_filter.1 hm).1⟩

/-- The fresh branch of `Trellis.create`: nothing is created by the new row. -/
theorem gwf_append {l : List Tri} (h : GWF ex fl l) (he : Exist l) {k : Key} (hfresh : ¬ Has l k) {newc : Option Key}
    {d : Bool} (hk : ∀ c, newc = some c → Has l c) : GWF ex fl (l ++ [(k, newc, d)]) := by
  refine wf_leaves h (fun x => x = k) fun a b ⟨hx, d', hf, hm⟩ => ?_
  rcases List.mem_append.1 hm with hm | hm
  · exact ⟨fun hak => hfresh (hak ▸ he _ hm a rfl), .inr ⟨hx, d', hf, hm⟩⟩
  · simp only [List.mem_singleton, Prod.mk.injEq] at hm
    exact ⟨fun hak => hfresh (hak ▸ hk a hm.2.1.symm), .inl hm.1⟩

/-- The recycling branch of `Trellis.create`: the old products are cut loose, so nothing is created by the recycled
row afterwards. -/
theorem gwf_recycle {l : List Tri} (h : GWF ex fl l) {k : Key} {newc : Option Key} {d : Bool}
    (hf : FitsRow l k newc d) : GWF ex fl (cut k (setRow k newc d l)) := by
  refine wf_leaves h (fun x => x = k) fun a b ⟨hx, d', hfl, hm⟩ => ?_
  obtain ⟨u, hu, he⟩ := List.mem_map.1 hm
  split at he
  · cases (Prod.mk.inj (Prod.mk.inj he).2).1
  · rename_i hnc
    subst he
    rcases glink_setRow ⟨hx, _, hfl, hu⟩ with ⟨hne, h2⟩ | ⟨hbk, h2, _⟩
    · exact ⟨fun hak => hnc ⟨by rw [hak], hne⟩, .inr h2⟩
    · exact ⟨(hf.1 a h2).1, .inl hbk⟩

/-- The hand-over of `register_static_tree`: files get a tree as their creator, and files create nothing. -/
theorem gwf_hand {l : List Tri} (h : GWF ex fl l) (hnfc : NFC l) {tk : Key} (hkind : tk.kind = .st) {hs : List Key}
    (hfile : ∀ x ∈ hs, x.kind = .file) : GWF ex fl (hand tk hs l) := by
  refine wf_leaves h (fun x => x ∈ hs) fun a b ⟨hx, d', hfl, hm⟩ => ?_
  obtain ⟨u, hu, he⟩ := List.mem_map.1 hm
  split at he
  · rename_i hc
    simp only [Prod.mk.injEq, Option.some.injEq] at he
    refine ⟨fun hin => ?_, .inl (he.1 ▸ List.contains_iff_mem.1 hc)⟩
    have := hfile a hin
    rw [← he.2.1, hkind] at this
    cases this
  · subst he
    exact ⟨fun hin => hnfc _ hu a rfl (hfile a hin), .inr ⟨hx, _, hfl, hu⟩⟩

end

/-- `Node.reattach`, with the guard of `Trellis.raise_if_created_by`. -/
theorem acy_reattach {l : List Tri} (ha : Acy l) {k c : Key} (hg : ¬ Below (Link l) k c) (d : Bool) (D : Key → Bool) :
    Acy (setD D d (setRow k (some c) d l)) := by
  refine wf_add_edge ha c k (fun a b h => ?_) hg
  rw [link_eq] at h ⊢
  have h1 : GLink (·.kind = .root) (fun _ => True) (setRow k (some c) d l) a b := by
    rcases glink_setD h with ⟨_, h1⟩ | ⟨_, _, hx, d', hm⟩
    · exact h1
    · exact ⟨hx, d', trivial, hm⟩
  rcases glink_setRow h1 with ⟨_, h2⟩ | ⟨h2, h3, _⟩
  · exact .inl h2
  · exact .inr ⟨(Option.some.inj h3).symm, h2⟩

/-- `Node.reattach`: when the new creator is attached, the detached subtree of `k` hangs below it afterwards;
when it is not, no row becomes attached. -/
theorem arw_reattach {l : List Tri} (h : OK l) (har : ARw l) {k : Key} {ck : Option Key} (hrow : (k, ck, true) ∈ l)
    {c : Key} {d : Bool} (hd : d = false ↔ Att l c) (D : Key → Bool)
    (hD : ∀ x, D x = true ↔ Desc (setRow k (some c) d l) k x) : ARw (setD D d (setRow k (some c) d l)) := by
  have hn1 : Nodup (setRow k (some c) d l) := nodup_setRow k (some c) d h.nodup
  have hkrow : (k, some c, d) ∈ setRow k (some c) d l := mem_setRow_self (some c) d ⟨_, hrow, rfl⟩
  have hcr : ∀ {x a a' : Key} {d' d'' : Bool}, (x, some a, d') ∈ setRow k (some c) d l →
      (x, some a', d'') ∈ setRow k (some c) d l → a = a' := fun h1 h2 =>
    Option.some.inj (congrArg (·.2.1) (uniq hn1 h1 h2 rfl))
  -- a link of the new table: an old attached link of a row that is left alone, or (only when the new flag is
  -- "attached") the link of `k` or of a recursive product of `k`
  have hcases : ∀ a x, GLink (· = rootKey) (· = false) (setD D d (setRow k (some c) d l)) a x →
      (x ≠ k ∧ D x = false ∧ GLink (· = rootKey) (· = false) l a x) ∨
      (d = false ∧ (x = k ∨ D x = true) ∧ ∃ d', (x, some a, d') ∈ setRow k (some c) d l) := by
    intro a x hl
    rcases glink_setD hl with ⟨h1, h2⟩ | ⟨h1, h2, _, h3⟩
    · rcases glink_setRow h2 with ⟨h3, h4⟩ | ⟨h3, _, h5⟩
      · exact .inl ⟨h3, h1, h4⟩
      · exact .inr ⟨h5, .inl h3, h2.2.imp fun _ h => h.2⟩
    · exact .inr ⟨h2, .inr h1, h3⟩
  show WellFounded (GLink (· = rootKey) (· = false) (setD D d (setRow k (some c) d l)))
  generalize GLink (· = rootKey) (· = false) (setD D d (setRow k (some c) d l)) = R' at hcases ⊢
  by_cases hdf : d = false
  · have hnk := not_att_of_detached h hrow
    have hnot : ∀ x, Att l x → ¬ (x = k ∨ D x = true) := by
      rintro x hx (rfl | h3)
      · exact hnk hx
      · rcases desc_setRow_sub ((hD x).1 h3) with rfl | hdesc
        · exact hnk hx
        · exact desc_not_att h.nodup h.root h.loc hnk hdesc hx
    -- old attached rows keep their links, and their creators are attached
    have hold : ∀ x, Att l x → Acc R' x := fun x hx => by
      refine acc_transfer (R := GLink (· = rootKey) (· = false) l) (Att l) (fun a b hb hl => ?_) (har.apply x) hx
      rcases hcases a b hl with ⟨_, _, h3⟩ | ⟨_, h2, _⟩
      · exact ⟨h3, att_creator h.nodup h.loc (attLink_iff.1 h3).2 (attLink_iff.1 h3).1 hb⟩
      · exact absurd h2 (hnot b hb)
    have hk : Acc R' k := Acc.intro k fun a hl => by
      rcases hcases a k hl with ⟨h1, _⟩ | ⟨_, _, d', h3⟩
      · exact absurd rfl h1
      · exact hcr hkrow h3 ▸ hold c (hd.1 hdf)
    have hdesc : ∀ x, Desc (setRow k (some c) d l) k x → Acc R' x := fun x hx =>
      hx.induct_row fun x c' d' hm _ hx ih => Acc.intro x fun a hl => by
        rcases hcases a x hl with ⟨_, h2, _⟩ | ⟨_, _, d'', h3⟩
        · rw [(hD x).2 hx] at h2; cases h2
        · exact hcr hm h3 ▸ ih.elim (· ▸ hk) (·.2)
    refine ⟨fun x => Acc.intro x fun a hl => ?_⟩
    rcases hcases a x hl with ⟨_, _, h3⟩ | ⟨_, rfl | h2, _⟩
    · have h4 := attLink_iff.1 h3
      exact hold a (att_creator h.nodup h.loc h4.2 h4.1 ⟨_, h4.2, rfl, rfl⟩)
    · exact hk.inv hl
    · exact (hdesc x ((hD x).1 h2)).inv hl
  · exact Subrelation.wf (h₂ := har) @fun a x hl => by
      rcases hcases a x hl with ⟨_, _, h3⟩ | ⟨h1, _⟩
      · exact h3
      · exact absurd h1 hdf

theorem nfc_setRow {l : List Tri} (h : NFC l) {k : Key} {newc : Option Key} {d : Bool}
    (hk : ∀ c, newc = some c → c.kind ≠ .file) : NFC (setRow k newc d l) := by
  intro t ht c hc
  rcases mem_setRow ht with ⟨rfl, _⟩ | ⟨hm, _⟩
  · exact hk c hc
  · exact h t hm c hc

theorem nfc_setD {l : List Tri} (h : NFC l) (D : Key → Bool) (d : Bool) : NFC (setD D d l) := by
  intro t ht c hc
  unfold setD at ht
  obtain ⟨u, hu, rfl⟩ := List.mem_map.1 ht
  refine h u hu c ?_
  by_cases hD : D u.1 = true
  · simpa [hD] using hc
  · simpa [hD] using hc

theorem nfc_cut {l : List Tri} (h : NFC l) (k : Key) : NFC (cut k l) := by
  intro t ht c hc
  unfold cut at ht
  obtain ⟨u, hu, rfl⟩ := List.mem_map.1 ht
  by_cases hcc : u.2.1 = some k ∧ u.1 ≠ k
  · rw [if_pos hcc] at hc; cases hc
  · rw [if_neg hcc] at hc; exact h u hu c hc

theorem nfc_append {l : List Tri} (h : NFC l) {k : Key} {newc : Option Key} {d : Bool}
    (hk : ∀ c, newc = some c → c.kind ≠ .file) : NFC (l ++ [(k, newc, d)]) := by
  intro t ht c hc
  simp only [List.mem_append, List.mem_singleton] at ht
  rcases ht with ht | rfl
  · exact h t ht c hc
  · exact hk c hc

theorem nfc_hand {l : List Tri} (h : NFC l) {tk : Key} (hkind : tk.kind = .st) (hs : List Key) : NFC (hand tk hs l) := by
  intro t ht c hc
  unfold hand at ht
  obtain ⟨u, hu, rfl⟩ := List.mem_map.1 ht
  by_cases hcc : hs.contains u.1 = true
  · rw [if_pos hcc] at hc
    simp only [Option.some.injEq] at hc
    rw [← hc, hkind]; intro hh; cases hh
  · rw [if_neg hcc] at hc; exact h u hu c hc

theorem nfc_filter {l : List Tri} (h : NFC l) (p : Tri → Bool) : NFC (l.filter p) :=
  fun t ht c hc => h t (List.mem_filter.1 ht).1 c hc

/-- `(s.find? k).bind (·.creator)` on the triples (`creatorOf_skel`). -/
def creatorOf (l : List Tri) (k : Key) : Option Key := (l.find? fun t => t.1 = k).bind (·.2.1)

/-- `KState.createdBy` on the list of triples. -/
def createdByGo (l : List Tri) (k : Key) : Nat → Key → Bool
  | 0, _ => false
  | fuel + 1, cur =>
    if cur.kind = .root then false
    else if cur = k then true
    else match creatorOf l cur with
      | some p => createdByGo l k fuel p
      | none => false

def createdBy (l : List Tri) (k c : Key) : Bool := createdByGo l k (l.length + 1) c

theorem creatorOf_of_mem {l : List Tri} (hn : Nodup l) {k : Key} {c : Option Key} {d : Bool} (h : (k, c, d) ∈ l) :
    creatorOf l k = c :=
  congrArg (·.bind (·.2.1)) (find?_of_nodup_map (f := fun t : Tri => t.1) hn h)

theorem createdByGo_of_belowL {l : List Tri} (hn : Nodup l) {k : Key} (hk : k.kind ≠ .root) {p : List Key} {x : Key}
    (h : BelowL (Link l) k p x) : ∀ fuel, p.length ≤ fuel → createdByGo l k fuel x = true := by
  induction h with
  | refl =>
    intro fuel hf
    obtain ⟨f, rfl⟩ : ∃ f, fuel = f + 1 := ⟨fuel - 1, by simp at hf; omega⟩
    unfold createdByGo
    rw [if_neg hk, if_pos rfl]
  | step hp hr ih =>
    rename_i p a b
    intro fuel hf
    obtain ⟨f, rfl⟩ : ∃ f, fuel = f + 1 := ⟨fuel - 1, by simp at hf; omega⟩
    obtain ⟨hb, d, hm⟩ := hr
    unfold createdByGo
    rw [if_neg hb]
    by_cases hbk : b = k
    · rw [if_pos hbk]
    · rw [if_neg hbk, creatorOf_of_mem hn hm]
      exact ih f (by simp at hf; omega)

theorem belowL_deep {l : List Tri} {k : Key} (hhas : Has l k) {p : List Key} {x : Key} (h : BelowL (Link l) k p x) :
    ∃ r, p.length = r + 1 ∧ Deep (fun u v => Relation.TransGen (Link l) v u) (l.map (·.1)) r x := by
  induction h with
  | refl =>
    obtain ⟨t, ht, hk⟩ := hhas
    exact ⟨0, rfl, .zero (List.mem_map.2 ⟨t, ht, hk⟩)⟩
  | step hp hr ih =>
    obtain ⟨r, hlen, hd⟩ := ih
    refine ⟨r + 1, by rw [List.length_cons, hlen], hd.succ (fun _ _ _ h1 h2 => .trans h2 h1) (.single hr) ?_⟩
    obtain ⟨_, d, hm⟩ := hr
    exact List.mem_map.2 ⟨_, hm, rfl⟩

/-- The guard of `Node.reattach` misses nothing.  The fuel `l.length + 1` of `createdBy` suffices: on an acyclic
forest with one row per key a path below `k` has at most `#rows` nodes. -/
theorem createdBy_complete {l : List Tri} (hn : Nodup l) (ha : Acy l) {k c : Key} (hk : k.kind ≠ .root)
    (hhas : Has l k) (hb : Below (Link l) k c) : createdBy l k c = true := by
  obtain ⟨p, hp⟩ := hb
  obtain ⟨r, hlen, hd⟩ := belowL_deep hhas hp
  have hlt := Deep.lt (R := fun u v => Relation.TransGen (Link l) v u) (fun a => wf_irrefl ha.transGen a) hd
  rw [List.length_map] at hlt
  exact createdByGo_of_belowL hn hk hp _ (by omega)

end Sk
end StepupModel.K
