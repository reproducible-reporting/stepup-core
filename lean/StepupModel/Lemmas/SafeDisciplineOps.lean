import StepupModel.Lemmas.SoftCall
import StepupModel.Lemmas.SafeDisciplineBase
import StepupModel.Lemmas.Reach
import StepupModel.Lemmas.ReachDesc
/-!
# The flag discipline of `_update_meta_safe`: the operations of the kernel model

`P F` (one row per key and the discipline up to the debt `F`) has, for every `F`, the leaves of
`Lemmas/SoftChain.lean` for the row relation `SRow` (`P.leaves`): `UPDATE step SET state` flags the row
(trigger `step_flag_check_safe`: `stepRowWrite_srow`), a file row is read by no local equation.  So it
survives the kinds of write `softA` of the walk of `Lemmas/StableW.lean` (`SoftLeaves.toW`), and with them those that
the discipline of `_check_after` (`Lemmas/Discipline*.lean`) does not allow (dependency table, `detached` column,
`UPDATE file SET state` across roles): the kinds `safeA` (`P.toW`), whatever the debt.  What is walked here are the
operations that change the debt: the two passes that change `_holding` and flag the subtree (`hold_safe`,
`release_safe`), creator links, new and deleted rows; and `_update_meta_after`.  Only `define_step` has a side condition
(the third argument of `callL`; on a request it is `DefineOK`, `Lemmas/SafeDiscipline.lean`): a step that is defined
*safe* (`_safe = True`, which only `initialize_boot` passes, with the root as creator) is not defined by a step; the
creator forest is what `Trellis.create` of such a step needs.
-/
namespace StepupModel.K.SafeDisc
open StepupModel.K.MetaSafe StepupModel.Generated StepupModel.K.Sk

theorem srow_same {D : Key → Prop} {n n' : Node} (h1 : n'.key = n.key) (h2 : n'.checkSafe = n.checkSafe)
    (h3 : n'.safe = n.safe) (h4 : n'.safeNH = n.safeNH) (h5 : n'.sstate = n.sstate) (h6 : n'.holding = n.holding)
    (h7 : n'.creator = n.creator) : SRowD D n n' := by
  refine ⟨h1, fun _ => ?_⟩
  cases h : n.checkSafe with
  | true => exact .inr (.inl (by rw [h2, h]))
  | false => exact .inr (.inr ⟨rfl, h3, h4, by rw [h5], by rw [h6], h7⟩)

theorem srow_flag {D : Key → Prop} {n n' : Node} (h1 : n'.key = n.key) (h2 : n'.checkSafe = true) : SRowD D n n' :=
  ⟨h1, fun _ => .inr (.inl h2)⟩

theorem srow_nonstep {D : Key → Prop} {n n' : Node} (h1 : n'.key = n.key) (h : n.key.kind ≠ .step) : SRowD D n n' :=
  ⟨h1, fun hs => absurd hs h⟩

theorem srow_of_quiet {n n' : Node} (h : SoftQuiet n n') : SRow n n' := by
  obtain ⟨hs, _, hc⟩ := h
  simp only [Node.soft, Prod.mk.injEq] at hs
  obtain ⟨h1, h2, _, _, h5, h6, _, _, _, h10, h11⟩ := hs
  refine ⟨h1, fun _ => ?_⟩
  cases h : n.checkSafe with
  | true => exact .inr (.inl (hc h))
  | false => exact .inr (.inr ⟨rfl, h10, h11, by rw [h5], by rw [h6], h2⟩)

theorem fileRowWrite_srow {n n' : Node} {st : FileState} {nh : Option (Option Nat)}
    (h : fileRowWrite n st nh = .ok n') : SRow n n' := by
  cases fileRowWrite_eq h
  exact srow_same rfl rfl rfl rfl rfl rfl rfl

/-- `UPDATE step SET state = ?` fires `step_flag_check_safe`. -/
theorem stepRowWrite_srow {n n' : Node} {st : StepState} {d : Option Bool}
    (h : stepRowWrite n st d = .ok n') : SRow n n' := by
  cases stepRowWrite_eq h
  exact srow_flag rfl rfl

section
variable {F : Key → Prop}

theorem P.queue {s : KState} (q : List (String × Option Nat)) (hp : P F s) : P F { s with toBeDeleted := q } :=
  P.sameNodes (s := s) rfl hp

theorem P.setDeps {s : KState} (d : List Dep) (hp : P F s) : P F { s with deps := d } :=
  P.sameNodes (s := s) rfl hp

theorem P.leaves : SoftLeaves SRow (P F) where
  map := P.mapStable
  queue _ q hp := hp.queue q
  found _ _ hp hn := find?_of_mem hp.1 hn
  refl := SRowD.refl _
  quiet _ _ := srow_of_quiet
  fileWrite _ _ _ _ _ h := fileRowWrite_srow h
  stepWrite _ _ _ _ h := stepRowWrite_srow h

/-! ## What `P F` survives whatever the debt: no local equation reads the dependency table, the `detached` column, a
file row (in any role), `need` or `shell` -/

theorem insertDep_safe (a b : Key) : Preserves (P F) (fun s => s.insertDep a b) := by
  intro s s' hp h
  obtain ⟨_, _, rfl⟩ := insertDep_ok h
  exact P.leaves.flagDepEndpoints _ a b (hp.setDeps _)

theorem deleteDeps_safe (s : KState) (p : Dep → Bool) (hp : P F s) : P F (s.deleteDeps p) :=
  deleteDeps_ind s p (hp.setDeps _) fun t a b ht => P.leaves.flagDepEndpoints t a b ht

/-- The kinds of write that `P F` survives for every `F`: those of `softA`, and those above.  The others change the
debt: a creator link or the hold counter of a step, a new step row, a removed row. -/
def safeA : WClass → Bool
  | .writeFile | .recycled | .depIn | .depOut | .delDeps | .delStepDeps | .setDynamic | .detached => true
  | c => softA c

theorem P.toW : StableW safeA (fun _ _ => True) (fun _ _ => True) (P F) :=
  have W := (P.leaves (F := F)).toW
  { flags := W.flags, payload := W.payload, cache := absent, keepRole := W.keepRole, outdate := W.outdate
    stepWrite := fun s k _ _ _ _ _ _ hf hw hp => P.leaves.replace s k hf (stepRowWrite_srow hw) hp
    stepInit := absent, setHash := W.setHash, deleteHash := W.deleteHash, bumpDefer := W.bumpDefer
    hold := absent, release := absent
    queueDelete := W.queueDelete, clearQueue := W.clearQueue, updateMetaReady := W.updateMetaReady
    creator := fun _ k c _ h => absurd h (creatorW_const (A := safeA) rfl rfl rfl k.kind c ▸ nofun)
    handOverRow := absent, freshFile := absent, appendNode := absent, removeNode := absent
    writeFile := fun _ _ _ _ _ _ hp h => P.leaves.writeFile_of (fun _ _ _ hw => fileRowWrite_srow hw) hp h
    recycled := fun _ _ k _ _ hp => hp.modify k _ fun _ _ _ => srow_same rfl rfl rfl rfl rfl rfl rfl
    insertDep := fun a b s s' _ _ hp h => insertDep_safe a b s s' hp h
    deleteDeps := fun _ s p hp => deleteDeps_safe s p hp
    delStepDeps := fun _ s p _ hp => deleteDeps_safe s p hp
    setDynamic := fun _ => setDynamic_of_fine
      (fun s p f hf => P.leaves.quietWhere s p f (softQuiet_of_payload hf)) (fun _ _ _ _ hp => hp.setDeps _)
    setDetachedRow := fun _ s x d hp =>
      setDetachedRow_ind s x d hp (P.leaves.modify s x _ (fun _ => srow_same rfl rfl rfl rfl rfl rfl rfl) hp)
        fun t ht => P.leaves.flagReadySinks t x ht }

/-- What the operations below perform besides `Node.detach`. -/
def safeOpsW : List WClass := .recycled :: (StableW.markCompletedW ++ StableW.resetForRerunW)

theorem safe_ops : Sub safeOpsW safeA := by decide

theorem safe_outdate : Sub StableW.outdateW safeA := safe_ops.tail.right.right.right

/-! ## `hold` and `release` -/

theorem flagChecksWithProducts_pays {s s' : KState} {k : Key} (hp : P (fun x => F x ∨ x = k) s)
    (h : s.flagChecksWithProducts k = .ok s') : P F s' := by
  have hp' := P.leaves.toW.flagChecksWithProducts_preserves rfl k s s' hp h
  by_cases hs : k.kind = .step
  · exact hp'.dropFlagged fun n hn hk _ => (flagChecksWithProducts_self h hs n hn hk).1
  · exact hp'.dropNonStep hs

theorem srow_holding {n : Node} {h : Nat} (hh : (h == 0) = (n.holding == 0)) : SRow n { n with holding := h } := by
  refine ⟨rfl, fun _ => ?_⟩
  cases hc : n.checkSafe with
  | true => exact .inr (.inl rfl)
  | false => exact .inr (.inr ⟨rfl, rfl, rfl, rfl, hh, rfl⟩)

/-- `Step.hold`: the counter goes up; when it leaves zero the subtree is flagged. -/
theorem hold_safe (k : Key) : Preserves (P F) (fun s => s.hold k) := by
  intro s s' hp h
  obtain h | ⟨h0, rfl⟩ := hold_ok h
  · exact flagChecksWithProducts_pays
      (hp.modifyDebt k (fun n => { n with holding := n.holding + 1 }) fun _ _ hk => hk) h
  · refine hp.modify k _ fun n hn hk => srow_holding ?_
    have h0 : n.holding ≠ 0 := h0 n (hk ▸ find?_of_mem hp.1 hn)
    simp [h0]

/-- `Step.release`: the counter goes down; when it reaches zero the subtree is flagged. -/
theorem release_safe (k : Key) : Preserves (P F) (fun s => s.release k) := by
  intro s s' hp h
  obtain ⟨n, hf, hn0, h | ⟨hn1, rfl⟩⟩ := release_ok h
  · exact flagChecksWithProducts_pays
      (hp.modifyDebt k (fun n => { n with holding := n.holding - 1 }) fun _ _ hk => hk) h
  · refine hp.modify k _ fun m hm hk => ?_
    have hm' := find?_of_mem hp.1 hm
    rw [hk, hf] at hm'
    cases hm'
    refine srow_holding ?_
    have h2 : (n.holding == 0) = false := by simpa using hn0
    have h3 : (n.holding - 1 == 0) = false := by
      simp only [beq_eq_false_iff_ne, ne_eq]
      omega
    rw [h2, h3]

theorem updateMetaAfter_safe (cfg : KConfig) : Preserves (P F) (fun s => s.updateMetaAfter cfg) := by
  intro s s' hp h
  obtain ⟨g, hg, rfl⟩ := updateMetaAfter_rowMap h
  exact hp.soft g rfl fun n _ => srow_same (congrArg Node.key (hg n) :) (congrArg Node.checkSafe (hg n) :)
    (congrArg Node.safe (hg n) :) (congrArg Node.safeNH (hg n) :) (congrArg Node.sstate (hg n) :)
    (congrArg Node.holding (hg n) :) (congrArg Node.creator (hg n) :)

/-! ## Creator links -/

theorem setCreator_debt {s s' : KState} {k : Key} {c : Option Key} {d : Bool} (h : s.setCreator k c d = .ok s')
    (hp : P F s) : P (fun x => F x ∨ x = k) s' := by
  obtain ⟨_, rfl⟩ := setCreator_ok h
  exact P.toW.setDetachedRow rfl _ _ _ (hp.modifyDebt k (fun n => { n with creator := c }) fun _ _ hk => hk)

/-- `Node.detach` (+ `Step.detach`), whatever the node: the key whose creator link is cut is in the debt until
`_flag_checks_with_products` pays (a file or a tree is read by no local equation). -/
theorem detach_safe (k : Key) : Preserves (P F) (fun s => s.detach k) := by
  intro s s' hp h
  obtain ⟨n, s1, _, hc, hfl⟩ := detach_ok h
  have hp1 : P (fun x => F x ∨ x = k) s1 := by
    rcases detachCore_ok hc with ⟨_, rfl⟩ | ⟨_, sc, hsc, rfl⟩
    · exact hp.addDebt _
    · have h1 := setCreator_debt hsc hp
      split
      · exact P.toW.setDetachedRec rfl _ _ _ h1
      · exact h1
  rcases detachFlags_ok hfl with ⟨hk, rfl⟩ | ⟨_, s2, h2, h3⟩
  · exact hp1.dropNonStep hk
  · exact P.leaves.toW.flagCheckAfterSources_preserves rfl k s2 s' (flagChecksWithProducts_pays hp1 h2) h3

theorem detachProducts_safe (k : Key) : Preserves (P F) (fun s => s.detachProducts k) :=
  fun s => foldlM_preserves (P F) _ _ (fun (p : Node) => detach_safe p.key) s

/-! ## `Node.reattach`, `try_recycle` -/

theorem flagIfStep_pays {s s' : KState} {k : Key} (h : s.flagIfStep k = .ok s') (hp : P (fun x => F x ∨ x = k) s) :
    P F s' := by
  rcases flagIfStep_ok h with ⟨hk, rfl⟩ | ⟨_, h⟩
  · exact hp.dropNonStep hk
  · exact flagChecksWithProducts_pays hp h

theorem reattach_safe (k c : Key) : Preserves (P F) (fun s => s.reattach k c) := by
  intro s s' hp h
  obtain ⟨n, _, _, _, h⟩ := reattach_ok h
  obtain ⟨s1, s2, h1, h2, h3⟩ := reattachCore_ok h
  exact flagIfStep_pays h3
    (P.toW.setDetachedRec rfl _ _ _ (P.toW.lostProduct_preserves rfl _ s1 s2 (setCreator_debt h1 hp) h2))

theorem setStepExtras_safe (s : KState) (sk : Key) (d : StepDecl) (hp : P F s) : P F (s.setStepExtras sk d) :=
  P.leaves.quietAt s sk _ (fun _ => ⟨rfl, id, id⟩) hp

/-- `Trellis.try_recycle` for a step + `Step.after_recycle`: no local equation reads `need` or `shell`. -/
theorem recycleStep_safe (sk creator : Key) (d : StepDecl) (n : Node) :
    Preserves (P F) (fun s => s.recycleStep sk creator d n) := by
  intro s s' hp h
  obtain ⟨s1, s3, h1, h3, rfl⟩ := recycleStep_ok h
  exact setStepExtras_safe _ _ _
    (P.toW.afterRecycle_of (P.toW.markStepPending'_preserves safe_outdate.tail) safe_ops.head sk d n s1 s3
      (reattach_safe sk creator s s1 hp h1) h3)

/-! ## `Trellis.create` -/

/-- The step row `initialize_row` leaves: flagged unless created safe, both columns as requested. -/
def StepRowInit (k : Key) (init : Init) (s' : KState) : Prop :=
  ∀ i, init = .step i → ∀ n ∈ s'.nodes, n.key = k → n.checkSafe = !i.safe ∧ n.safe = i.safe ∧ n.safeNH = i.safe

theorem initRow_debt {s s' : KState} {k : Key} {init : Init} {existed : Bool} (h : s.initRow k init existed = .ok s')
    (hp : P (fun x => F x ∨ x = k) s) : P (fun x => F x ∨ x = k) s' ∧ StepRowInit k init s' := by
  cases init with
  | root => exact ⟨pure_ok_iff.1 h ▸ hp, fun _ e => nomatch e⟩
  | tree => exact ⟨pure_ok_iff.1 h ▸ hp, fun _ e => nomatch e⟩
  | file st =>
    refine ⟨?_, fun _ e => nomatch e⟩
    obtain ⟨s1, h1, h2⟩ := initFileRow_ok h
    have hp1 : P (fun x => F x ∨ x = k) s1 := by
      rcases writeInitialFile_ok h1 with ⟨_, h1⟩ | ⟨_, _, rfl⟩
      · exact P.toW.setFileState_preserves rfl k _ s s1 hp h1
      · exact P.leaves.flagReadySinks _ _ (P.leaves.modify s k _ (fun _ => srow_same rfl rfl rfl rfl rfl rfl rfl) hp)
    rcases h2 with ⟨_, h2⟩ | ⟨_, rfl⟩
    · exact P.toW.markFileOutdated_preserves safe_outdate k s1 s' hp1 h2
    · exact hp1
  | step i =>
    cases pure_ok_iff.1 h
    refine ⟨hp.modifyIn k _ (.inr rfl) fun _ _ hk => hk, fun i' hi' n' hn' hk' => ?_⟩
    cases hi'
    obtain ⟨n, hn, rfl⟩ := List.mem_map.1 hn'
    by_cases hnk : n.key = k
    · rw [if_pos hnk]
      exact ⟨rfl, rfl, rfl⟩
    · rw [if_neg hnk] at hk'
      exact absurd hk' hnk

theorem create_debt {s s' : KState} {k : Key} {creator : Option Key} {init : Init}
    (h : s.create k creator init = .ok s') (hp : P F s) :
    P (fun x => F x ∨ x = k) s' ∧ StepRowInit k init s' := by
  rcases create_ok h with ⟨n, _, _, _, h⟩ | ⟨hf, _, h⟩
  · obtain ⟨s1, s2, s3, h1, h2, h3, h4⟩ := recycleCore_ok h
    have hp2 := P.toW.lostProduct_preserves rfl _ s1 s2 (setCreator_debt h1 hp) h2
    exact initRow_debt h4 (detachProducts_safe k _ s3 (deleteDeps_safe s2 _ hp2) h3)
  · exact initRow_debt h (hp.append creator hf)

/-- What is asked of the initialisation: only a step row is initialised as a step, and a step that is
created *safe* (`_safe = True`: the boot step) is not created by a step. -/
def InitKindS (k : Key) (creator : Option Key) : Init → Prop
  | .step i => i.safe = true → ∀ c, creator = some c → c.kind ≠ .step
  | _ => k.kind ≠ .step

/-- `Trellis.create`: fresh or recycled, the row of a step ends up flagged, or (created safe, by a creator that is
no step) correct by itself, without products. -/
theorem create_safe {s s' : KState} {k : Key} {creator : Option Key} {init : Init} (hkind : InitKindS k creator init)
    (hi : InitOK init) (hfo : Forest s) (h : s.create k creator init = .ok s') (hp : P F s) : P F s' := by
  obtain ⟨hp', hrow⟩ := create_debt h hp
  by_cases hs : k.kind = .step
  · cases init with
    | root => exact absurd hs hkind
    | tree => exact absurd hs hkind
    | file st => exact absurd hs hkind
    | step i =>
      cases hsafe : i.safe with
      | false =>
        refine hp'.dropFlagged fun n hn hk _ => ?_
        rw [(hrow i rfl n hn hk).1, hsafe]; rfl
      | true =>
        have hkc : ∀ c, creator = some c → c.kind ≠ .step := hkind hsafe
        have hok := (forest_iff s).1 hfo
        have key := fun n (hn : n ∈ s'.nodes) =>
          (createSpec_of_create hi hok h).row hok.exist (fun hc => hkc k hc hs) (mem_skel_of_mem hn)
        refine hp'.dropFresh ?_ (fun p hpm _ => (key p hpm).2)
        intro n hn hk _ _
        have hcr : n.creator = creator := (key n hn).1 hk
        refine ⟨?_, by rw [(hrow i rfl n hn hk).2.1, hsafe], by rw [(hrow i rfl n hn hk).2.2, hsafe]⟩
        cases hc : creator with
        | none => exact stepCreator_none_of_creator (by rw [hcr, hc])
        | some c => exact stepCreator_none_of_kind (by rw [hcr, hc]) (hkc c hc)
  · exact hp'.dropNonStep hs

/-- `Trellis.create` of a file, a tree (or the root): no local equation reads the row. -/
theorem create_safe_nonstep {s s' : KState} {k : Key} {creator : Option Key} {init : Init} (hk : k.kind ≠ .step)
    (h : s.create k creator init = .ok s') (hp : P F s) : P F s' :=
  (create_debt h hp).1.dropNonStep hk

/-- A row that `delete_detached` removes had no products when the pass selected it (`deleteDetached_ind`). -/
theorem deleteDetached_safe : Preserves (P F) (fun s => s.deleteDetached) :=
  deleteDetached_ind (fun _ _ b _ _ _ _ hp => deleteDeps_safe b _ hp) (fun s _ _ hp => P.leaves.queue s _ hp)
    (fun _ _ _ hc hp => hp.remove rfl hc) (fun s k hp => P.leaves.deleteHash s k hp)
    (fun s k s' hp h => detach_safe k s s' hp h)

theorem resetForRerun_safe (k : Key) : Preserves (P F) (fun s => s.resetForRerun k) :=
  P.toW.resetForRerun_of_detach safe_ops.tail.right detach_safe k

theorem markCompleted_safe (cfg : KConfig) (k : Key) (nh : Option Nat) (wd : Bool) (s s' : KState) (b : Bool)
    (hp : P F s) (h : s.markCompleted cfg k nh wd = .ok (s', b)) : P F s' :=
  P.toW.markCompleted_of_detach safe_ops.tail.left detach_safe cfg k nh wd s s' b hp h

/-! ## The declaring requests -/

theorem declareFile_safe (cfg : KConfig) (creator : Key) (p : String) (st : FileState) :
    Preserves (P F) (fun s => s.declareFile cfg creator p st) := by
  intro s s' hp h
  obtain ⟨s1, _, h1, h2⟩ := declareFile_ok h
  exact volatileSinkCheck_ok h2 ▸ create_safe_nonstep (k := fileKey p) (fun e => nomatch e) h1 hp

/-- The plain `UPDATE node SET creator = ?` of `register_static_tree`, on file rows. -/
theorem handOver_safe (tk : Key) (hs : List Key) (hfile : ∀ k ∈ hs, k.kind ≠ .step) (s : KState) (hp : P F s) :
    P F (s.handOver tk hs) :=
  foldl_ind (P F) (fun st k => st.modify k fun n => { n with creator := some tk }) hs
    (fun t k hk ht => ht.modify k _ fun n _ hnk => srow_nonstep rfl (by rw [hnk]; exact hfile k hk)) hp

/-- The discipline together with the creator forest (which `Trellis.create` of a *safe* step needs; its own
instance is `SkStableG.toCall` of `Lemmas/ReachLift.lean`) survives every call that the declaring requests
make: `Lemmas/WorkflowChain.lean` does the rest. -/
theorem callL : CallL (fun _ _ _ => True) (fun _ _ _ => True) (fun c i => i.safe = true → c.kind ≠ .step)
    (fun s => P F s ∧ PQ Sk.OK s) where
  payload s p f hf hp :=
    ⟨P.leaves.quietWhere s p f (softQuiet_of_payload hf.payloadOnly) hp.1,
      skStable_ok.toG.toCall.payload s p f hf hp.2⟩
  setDynamic s a b d hp :=
    ⟨P.toW.setDynamic rfl s a b d hp.1, skStable_ok.toG.toCall.setDynamic s a b d hp.2⟩
  insertDep a b ha s s' hc hp h :=
    ⟨insertDep_safe a b s s' hp.1 h, skStable_ok.toG.toCall.insertDep a b ha s s' hc hp.2 h⟩
  declareStatic cfg c p hD s s' hp h :=
    ⟨declareFile_safe cfg c p _ s s' hp.1 h, skStable_ok.toG.toCall.declareStatic cfg c p hD s s' hp.2 h⟩
  declareProduct cfg step p st hst hD s s' hp h := by
    refine ⟨?_, skStable_ok.toG.toCall.declareProduct cfg step p st hst hD s s' hp.2 h⟩
    obtain ⟨s1, h1, _, h2⟩ := declareProduct_ok h
    exact insertDep_safe _ _ s1 s' (declareFile_safe cfg step p st s s1 hp.1 h1) h2
  adopt s s' p t ht hp h :=
    ⟨create_safe_nonstep (k := fileKey p) (fun e => nomatch e) h hp.1, skStable_ok.toG.toCall.adopt s s' p t ht hp.2 h⟩
  placeholder p s s' hp h :=
    ⟨create_safe_nonstep (k := fileKey p) (fun e => nomatch e) h hp.1, skStable_ok.toG.toCall.placeholder p s s' hp.2 h⟩
  createStep label c i hC s s' hp h :=
    ⟨create_safe (init := .step i) (fun hs c' hc' => Option.some.inj hc' ▸ hC hs) trivial ((forest_iff s).2 hp.2) h hp.1,
      skStable_ok.toG.toCall.createStep label c i trivial s s' hp.2 h⟩
  stepExtras c i _ s sk d hp :=
    ⟨setStepExtras_safe s sk d hp.1, skStable_ok.toG.toCall.stepExtras c i trivial s sk d hp.2⟩
  recycleStep label c d n s s' hR hp h :=
    ⟨recycleStep_safe _ c d n s s' hp.1 h, skStable_ok.toG.toCall.recycleStep label c d n s s' hR hp.2 h⟩
  treeCreateHandOver hp hg h1 := by
    refine ⟨handOver_safe _ _ (fun k hk => ?_) _ (create_safe_nonstep (k := treeKey _) (fun e => nomatch e) h1 hp.1),
      skStable_ok.toG.toCall.treeCreateHandOver hp.2 hg h1⟩
    obtain ⟨n, _, hnk, hfile, _⟩ := (treeGuard_ok_some hg).1 k hk
    rw [← hnk, hfile]
    exact fun e => nomatch e
  ofTree _ _ _ _ := trivial
  ofUnder _ _ _ _ := trivial

end

end StepupModel.K.SafeDisc
