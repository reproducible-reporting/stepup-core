import StepupModel.P.Like
/-! The BINARY collation order on code point / byte lists is a strict total order. -/
namespace StepupModel.P.Like

theorem ltB_nil_right (s : Str) : ltB s [] = false := by cases s <;> rfl

theorem ltB_cons (x y : Nat) (xs ys : Str) :
    ltB (x :: xs) (y :: ys) = true ↔ x < y ∨ x = y ∧ ltB xs ys = true := by
  rw [ltB]
  by_cases h1 : x < y
  · rw [if_pos h1]; exact iff_of_true rfl (.inl h1)
  by_cases h2 : y < x
  · rw [if_neg h1, if_pos h2]
    exact iff_of_false Bool.false_ne_true fun h => h.elim h1 fun h => Nat.ne_of_gt h2 h.1
  · rw [if_neg h1, if_neg h2]
    exact ⟨fun h => .inr ⟨Nat.le_antisymm (Nat.le_of_not_lt h2) (Nat.le_of_not_lt h1), h⟩,
      fun h => h.elim (absurd · h1) (·.2)⟩

theorem ltB_asymm (a b : Str) : ltB a b = true → ltB b a = false := by
  induction a generalizing b with
  | nil => intro _; exact ltB_nil_right b
  | cons x xs ih =>
    cases b with
    | nil => intro h; cases h
    | cons y ys =>
      rw [ltB_cons, Bool.eq_false_iff, Ne, ltB_cons]
      rintro (h | ⟨rfl, h⟩) (h' | ⟨e, h'⟩)
      · exact Nat.lt_asymm h h'
      · exact Nat.ne_of_gt h e
      · exact Nat.lt_irrefl _ h'
      · exact Bool.eq_false_iff.mp (ih ys h) h'

theorem ltB_irrefl (a : Str) : ltB a a = false := by
  cases h : ltB a a with
  | false => rfl
  | true => exact h.symm.trans (ltB_asymm a a h)

theorem ltB_trichotomy (a b : Str) : ltB a b = false → ltB b a = false → a = b := by
  induction a generalizing b with
  | nil =>
    cases b with
    | nil => exact fun _ _ => rfl
    | cons y ys => intro h; cases h
  | cons x xs ih =>
    cases b with
    | nil => intro _ h; cases h
    | cons y ys =>
      rw [Bool.eq_false_iff, Bool.eq_false_iff, Ne, Ne, ltB_cons, ltB_cons]
      intro h1 h2
      have hxy : x = y :=
        Nat.le_antisymm (Nat.le_of_not_lt fun h => h2 (.inl h)) (Nat.le_of_not_lt fun h => h1 (.inl h))
      rw [hxy, ih ys (Bool.eq_false_iff.mpr fun h => h1 (.inr ⟨hxy, h⟩))
        (Bool.eq_false_iff.mpr fun h => h2 (.inr ⟨hxy.symm, h⟩))]

theorem ltB_trans (a b c : Str) : ltB a b = true → ltB b c = true → ltB a c = true := by
  induction a generalizing b c with
  | nil =>
    cases b with
    | nil => intro h; cases h
    | cons y ys => cases c with
      | nil => intro _ h; cases h
      | cons z zs => exact fun _ _ => rfl
  | cons x xs ih =>
    cases b with
    | nil => intro h; cases h
    | cons y ys =>
      cases c with
      | nil => intro _ h; cases h
      | cons z zs =>
        rw [ltB_cons, ltB_cons, ltB_cons]
        rintro (h1 | ⟨rfl, h1⟩) (h2 | ⟨rfl, h2⟩)
        · exact .inl (Nat.lt_trans h1 h2)
        · exact .inl h1
        · exact .inl h2
        · exact .inr ⟨rfl, ih ys zs h1 h2⟩

theorem leB_total (a b : Str) : (leB a b || leB b a) = true := by
  cases h : ltB b a with
  | false => rw [leB, h]; rfl
  | true => rw [leB, leB, ltB_asymm b a h, h]; rfl

theorem leB_antisymm (a b : Str) : leB a b = true → leB b a = true → a = b := by
  rw [leB, leB, Bool.not_eq_true', Bool.not_eq_true']
  exact fun h1 h2 => ltB_trichotomy a b h2 h1

theorem leB_trans (a b c : Str) : leB a b = true → leB b c = true → leB a c = true := by
  rw [leB, leB, leB, Bool.not_eq_true', Bool.not_eq_true', Bool.not_eq_true']
  intro h1 h2
  -- were `c < a`, then `a < b` would give `c < b`, and `a = b` gives it at once
  cases hca : ltB c a with
  | false => rfl
  | true =>
    cases hab : ltB a b with
    | true => exact (ltB_trans c a b hca hab).symm.trans h2
    | false => rw [ltB_trichotomy a b hab h1] at hca; exact hca.symm.trans h2

/-! Sorting by a key that tells the entries apart gives a canonical form of the list as a finite map. -/

theorem perm_of_mergeSort_eq {α : Type} (le : α → α → Bool) {l1 l2 : List α}
    (h : l1.mergeSort le = l2.mergeSort le) : l1.Perm l2 :=
  (List.mergeSort_perm l1 le).symm.trans (h ▸ List.mergeSort_perm l2 le)

theorem mergeSort_key_eq_iff_perm {α : Type} (key : α → Str) {l1 l2 : List α}
    (hk : ∀ a ∈ l1, ∀ b ∈ l1, key a = key b → a = b) :
    l1.mergeSort (fun a b => leB (key a) (key b)) = l2.mergeSort (fun a b => leB (key a) (key b)) ↔ l1.Perm l2 := by
  refine ⟨perm_of_mergeSort_eq _, fun hp => ?_⟩
  have sorted := fun l : List α => List.pairwise_mergeSort (le := fun a b => leB (key a) (key b))
    (fun a b c => leB_trans (key a) (key b) (key c)) (fun a b => leB_total (key a) (key b)) l
  refine List.Perm.eq_of_pairwise (le := fun a b => leB (key a) (key b) = true) ?_ (sorted l1) (sorted l2)
    ((List.mergeSort_perm l1 _).trans (hp.trans (List.mergeSort_perm l2 _).symm))
  intro a b ha hb hab hba
  exact hk a (List.mem_mergeSort.1 ha) b (hp.symm.subset (List.mem_mergeSort.1 hb)) (leB_antisymm _ _ hab hba)

end StepupModel.P.Like
