import StepupModel.Lemmas.Reach
import StepupModel.Lemmas.EverOutput
import StepupModel.Lemmas.Norm
import StepupModel.Lemmas.WorkflowChain
/-!
# C08 "every path has one owner": (O1), (O3), (O4) of `koracles.ownership_invariants` over request histories

O1 and O4 only read the `(key, creator, detached)` triples of the rows, i.e. the creator forest (`KState.skel`,
`Lemmas/ReachFrame.lean`).  They come in a form relative to the set of rows regarded as attached (`...On A`): the
side condition of a recycling `define` is the same predicate for "attached, or a recursive product of the recycled
step".  The invariant survives the seven rewrites of the creator forest, each with what the code has checked
where it performs it (`ownV : SkStableV ..`, `Lemmas/ReachLift.lean`).  `OwnL P` reads the same list as a
specification of the kernel operations for a state predicate `P`; it is a statement of what such a predicate has to
survive, and no instance of it is proved or used.  Every accepted request keeps `Own` (`exec_own`), the side
conditions of `ReqOKO` granted, each judged on the state in which the request is issued:

* `define c d`, in the case in which `define_step` recycles a detached step as it is (`try_recycle`) below an
  attached creator: `RecycleClean` (`DefineOK`).  This is finding F21: `Node.reattach` brings the product subtree
  back without validating it against what was declared while it was detached.  The condition is needed:
  `Lemmas/OwnershipWitness.lean` (three histories of director requests, replayed on the implementation).
* `amend k ..`: `k` is not a static tree;
* `static c paths` / `declare_static c trees files patterns`: when `c` is a static tree, the files lie below it.
  (The director's `amend`, `static`, `declare_static` come from the process of a step: `c`, `k` are steps.)

(O3) `filesOwned_after_every_history` is unconditional.
-/
namespace StepupModel.K.Own
open StepupModel.K StepupModel.K.Sk

def att (n : Node) : Bool := !n.detached

def TreesDisjointOn (A : Node → Bool) (s : KState) : Prop :=
  ∀ a ∈ s.nodes, ∀ b ∈ s.nodes, a.key.kind = .st → A a = true → b.key.kind = .st → A b = true →
    a.key ≠ b.key → b.key.label.startsWith a.key.label = false

def TreeOwnsBeneathOn (A : Node → Bool) (s : KState) : Prop :=
  ∀ f ∈ s.nodes, f.key.kind = .file → A f = true → ∀ c, f.creator = some c →
    (∃ t ∈ s.nodes, t.key.kind = .st ∧ A t = true ∧ f.key.label.startsWith t.key.label = true) →
    ∃ t ∈ s.nodes, t.key.kind = .st ∧ A t = true ∧ f.key.label.startsWith t.key.label = true ∧ t.key = c

/-- (O1): no attached static tree's label is a prefix of the label of another attached static tree. -/
def TreesDisjoint (s : KState) : Prop := TreesDisjointOn att s

/-- (O4): an attached file under an attached static tree is created by one of the attached trees above it. -/
def TreeOwnsBeneath (s : KState) : Prop := TreeOwnsBeneathOn att s

/-- (O3): every attached file row has a role and an existing creator. -/
def FilesOwned (s : KState) : Prop :=
  ∀ f ∈ s.nodes, f.key.kind = .file → f.detached = false →
    f.fstate.role? ≠ none ∧ ∃ c, f.creator = some c ∧ s.has c = true

instance (A : Node → Bool) (s : KState) : Decidable (TreesDisjointOn A s) := by
  unfold TreesDisjointOn; exact inferInstance
instance (A : Node → Bool) (s : KState) : Decidable (TreeOwnsBeneathOn A s) := by
  unfold TreeOwnsBeneathOn; exact inferInstance
instance (s : KState) : Decidable (TreesDisjoint s) := by unfold TreesDisjoint; exact inferInstance
instance (s : KState) : Decidable (TreeOwnsBeneath s) := by unfold TreeOwnsBeneath; exact inferInstance
instance (s : KState) : Decidable (FilesOwned s) := by unfold FilesOwned; exact inferInstance

/-- (O3) needs no guard: an attached node has an existing creator (creator forest, `Lemmas/Reach.lean`) and a file
without a role is detached (I3, `Lemmas/EverOutput.lean`). -/
theorem filesOwned_after_every_history (h : List (KConfig × Req)) : FilesOwned (KState.init.run h) := by
  intro f hf hk hd
  have hfo := forest_reachable h
  refine ⟨?_, ?_⟩
  · intro hr
    have hu : f.fstate = .undeclared := (Ever.undeclared_iff_role _).2 hr
    have := Ever.undeclared_is_detached h f hf hk hu
    rw [hd] at this; cases this
  · obtain ⟨c, cn, hc, hcn, _⟩ := hfo.2.2.file_creator hf hk hd
    exact ⟨c, hc, congrArg Option.isSome hcn⟩

def DisjSkOn (A : Tri → Prop) (l : List Tri) : Prop :=
  ∀ a ∈ l, ∀ b ∈ l, a.1.kind = .st → A a → b.1.kind = .st → A b → a.1 ≠ b.1 →
    b.1.label.startsWith a.1.label = false

/-- (O4) on the triples: the creator of a selected file under a selected tree is a tree above the file (that it
is selected follows from the local invariant of the forest). -/
def TobSkOn (A : Tri → Prop) (l : List Tri) : Prop :=
  ∀ f ∈ l, f.1.kind = .file → A f → ∀ c, f.2.1 = some c →
    (∃ u ∈ l, u.1.kind = .st ∧ A u ∧ f.1.label.startsWith u.1.label = true) →
    c.kind = .st ∧ f.1.label.startsWith c.label = true

def OwnOn (A : Tri → Prop) (l : List Tri) : Prop := DisjSkOn A l ∧ TobSkOn A l

theorem ownOn_skel {s : KState} {A : Node → Bool} {T : Tri → Prop} (hAT : ∀ n, T n.tri → A n = true)
    (h : TreesDisjointOn A s ∧ TreeOwnsBeneathOn A s) : OwnOn T s.skel := by
  refine ⟨fun a ha b hb hka haa hkb hab hne => ?_, fun f hf hk hfa c hc ⟨u, hu, huk, hua, hup⟩ => ?_⟩
  · obtain ⟨na, hna, rfl⟩ := mem_skel.1 ha
    obtain ⟨nb, hnb, rfl⟩ := mem_skel.1 hb
    exact h.1 na hna nb hnb hka (hAT na haa) hkb (hAT nb hab) hne
  · obtain ⟨nf, hnf, rfl⟩ := mem_skel.1 hf
    obtain ⟨nu, hnu, rfl⟩ := mem_skel.1 hu
    obtain ⟨t, _, htk, _, htp, htc⟩ := h.2 nf hnf hk (hAT nf hfa) c hc ⟨nu, hnu, huk, hAT nu hua, hup⟩
    exact ⟨htc ▸ htk, htc ▸ htp⟩

theorem disjOn_nodes {s : KState} {A : Node → Bool} {T : Tri → Prop} (hAT : ∀ n, A n = true → T n.tri)
    (h : DisjSkOn T s.skel) : TreesDisjointOn A s := fun a ha b hb hka haa hkb hab hne =>
  h a.tri (mem_skel.2 ⟨a, ha, rfl⟩) b.tri (mem_skel.2 ⟨b, hb, rfl⟩) hka (hAT a haa) hkb (hAT b hab) hne

def attT (t : Tri) : Prop := t.2.2 = false

theorem attT_of_att (n : Node) (h : att n = true) : attT n.tri := by simpa [att, attT, Node.tri] using h

def OwnSk (l : List Tri) : Prop := Sk.OK l ∧ OwnOn attT l

def Own (s : KState) : Prop := OwnSk s.skel

theorem treesDisjoint_of_own {s : KState} (h : Own s) : TreesDisjoint s := disjOn_nodes attT_of_att h.2.1

theorem treeOwnsBeneath_of_own {s : KState} (h : Own s) : TreeOwnsBeneath s := by
  intro f hf hk hfa c hc hex
  obtain ⟨hok, _, htob⟩ := h
  have hfd : f.detached = false := by simpa [att] using hfa
  have hft : f.tri ∈ s.skel := mem_skel.2 ⟨f, hf, rfl⟩
  obtain ⟨hck, hpre⟩ := htob f.tri hft hk hfd c hc (by
    obtain ⟨t, ht, htk, hta, htp⟩ := hex
    exact ⟨t.tri, mem_skel.2 ⟨t, ht, rfl⟩, htk, attT_of_att t hta, htp⟩)
  -- the creator is an attached row
  have hroot : f.tri.1 ≠ rootKey := by
    intro he; have : f.key.kind = .root := by rw [show f.key = rootKey from he]; rfl
    rw [hk] at this; cases this
  obtain ⟨c', hc', u, hu, huk, hud⟩ := (hok.loc f.tri hft hroot).1 hfd
  have : c' = c := by
    have h1 : f.tri.2.1 = some c := hc
    rw [h1] at hc'; exact (Option.some.inj hc').symm
  subst this
  obtain ⟨n, hn, rfl⟩ := mem_skel.1 hu
  have hnk : n.key = c' := huk
  exact ⟨n, hn, by rw [hnk]; exact hck, by simpa [att, Node.tri] using hud, by rw [hnk]; exact hpre, hnk⟩

def AttSub (l' l : List Tri) : Prop :=
  ∀ t ∈ l', (t.1.kind = .st ∨ t.1.kind = .file) → t.2.2 = false → t ∈ l

theorem ownOn_mono {A A' : Tri → Prop} {l l' : List Tri}
    (hs : ∀ t ∈ l', (t.1.kind = .st ∨ t.1.kind = .file) → A' t → ∃ u ∈ l, u.1 = t.1 ∧ u.2.1 = t.2.1 ∧ A u)
    (h : OwnOn A l) : OwnOn A' l' := by
  refine ⟨fun a ha b hb hka haa hkb hab hne => ?_, fun f hf hk hfa c hc ⟨u, hu, huk, hua, hup⟩ => ?_⟩
  · obtain ⟨a', ha', e1, _, hA⟩ := hs a ha (.inl hka) haa
    obtain ⟨b', hb', e2, _, hB⟩ := hs b hb (.inl hkb) hab
    exact e1 ▸ e2 ▸ h.1 a' ha' b' hb' (e1 ▸ hka) hA (e2 ▸ hkb) hB (e1 ▸ e2 ▸ hne)
  · obtain ⟨f', hf', e1, e2, hF⟩ := hs f hf (.inr hk) hfa
    obtain ⟨u', hu', e3, _, hU⟩ := hs u hu (.inl huk) hua
    exact e1 ▸ h.2 f' hf' (e1 ▸ hk) hF c (e2.trans hc) ⟨u', hu', e3 ▸ huk, hU, e1 ▸ e3 ▸ hup⟩

theorem ownSk_mono {l l' : List Tri} (hok : Sk.OK l') (hs : AttSub l' l) (h : OwnSk l) : OwnSk l' :=
  ⟨hok, ownOn_mono (fun t ht hk ha => ⟨t, hs t ht hk ha, rfl, rfl, ha⟩) h.2⟩

theorem attSub_setRow_det (k : Key) (c : Option Key) (l : List Tri) : AttSub (setRow k c true l) l := by
  intro t ht _ hd
  rcases mem_setRow ht with ⟨rfl, _⟩ | ⟨hm, _⟩
  · cases hd
  · exact hm

theorem attSub_setD_det (D : Key → Bool) (l : List Tri) : AttSub (setD D true l) l := by
  intro t ht _ hd
  unfold setD at ht
  obtain ⟨u, hu, rfl⟩ := List.mem_map.1 ht
  by_cases hD : D u.1 = true
  · rw [if_pos hD] at hd; cases hd
  · rw [if_neg hD]; exact hu

theorem AttSub.trans {a b c : List Tri} (h1 : AttSub a b) (h2 : AttSub b c) : AttSub a c :=
  fun t ht hk hd => h2 t (h1 t ht hk hd) hk hd

theorem attSub_cut (k : Key) (l : List Tri) : AttSub (cut k l) l := by
  intro t ht _ hd
  unfold cut at ht
  obtain ⟨u, hu, rfl⟩ := List.mem_map.1 ht
  by_cases hc : u.2.1 = some k ∧ u.1 ≠ k
  · rw [if_pos hc] at hd; cases hd
  · rw [if_neg hc]; exact hu

/-- The rows that are attached after the step `sk` has been recycled below an attached creator. -/
def recycled (s : KState) (sk : Key) (n : Node) : Bool :=
  !n.detached || n.key == sk || (s.descendants sk).contains n.key

theorem recycled_iff {s : KState} {sk : Key} {n : Node} :
    recycled s sk n = true ↔ n.detached = false ∨ n.key = sk ∨ n.key ∈ s.descendants sk := by
  simp only [recycled, Bool.or_eq_true, Bool.not_eq_true', beq_iff_eq, List.contains_iff_mem, or_assoc]

/-- The side condition of a recycling `define`: (O1) and (O4) hold of the rows that will be attached. -/
def RecycleClean (s : KState) (sk : Key) : Prop :=
  TreesDisjointOn (recycled s sk) s ∧ TreeOwnsBeneathOn (recycled s sk) s

instance (s : KState) (sk : Key) : Decidable (RecycleClean s sk) := by unfold RecycleClean; exact inferInstance

def NoTreeAbove (s : KState) (p : String) : Prop :=
  ∀ t ∈ s.nodes, t.key.kind = .st → t.detached = false → p.startsWith t.key.label = false

/-- What is known when the file row of `p` is created for the creator `c`. -/
def FileFits (s : KState) (p : String) (c : Key) : Prop :=
  (c.kind = .st → p.startsWith c.label = true) ∧ (c.kind ≠ .st → NoTreeAbove s p)

structure OwnL (P : KState → Prop) : Prop where
  toFrame : FrameL P
  detach_preserves : ∀ (k : Key), Preserves P (fun s => s.detach k)
  deletePass_preserves : ∀ (s : KState) (r : KState × List Key × Bool), P s → s.deletePass = .ok r → P r.1
  createFree : ∀ (k : Key) (creator : Option Key) (init : Init), InitOK init → (k.kind = .step ∨ creator = none) →
    Preserves P (fun s => s.create k creator init)
  createFile : ∀ (p : String) (c : Key) (st : FileState), NoHashState st → ∀ (s s' : KState), P s → FileFits s p c →
    s.create (fileKey p) (some c) (.file st) = .ok s' → P s'
  treeCreateHandOver : ∀ {s s1 : KState} {creator : Key} {path : String} {hs : List Key}, P s →
    s.treeGuard creator path = .ok (some hs) → s.create (treeKey path) (some creator) .tree = .ok s1 →
    P (s1.handOver (treeKey path) hs)
  reattachStep : ∀ (k c : Key) (s s' : KState), P s → k.kind = .step → (s.isDetached c = false → RecycleClean s k) →
    s.reattach k c = .ok s' → P s'

namespace OwnL
variable {P : KState → Prop}

/-- `KState.detachCreatedSteps`, `detachProducts` and the two selective loops of `reset_for_rerun`
(`detachProductsWhere`). -/
theorem detachAll_preserves (L : OwnL P) (l : List Node) :
    Preserves P (fun s => l.foldlM (fun s p => s.detach p.key) s) :=
  foldlM_preserves P _ _ (fun (p : Node) => L.detach_preserves p.key)

theorem detachProducts_preserves (L : OwnL P) (k : Key) : Preserves P (fun s => s.detachProducts k) :=
  fun s => L.detachAll_preserves (s.products k) s

end OwnL

theorem createSpec_rows {l l' : List Tri} {k : Key} {creator : Option Key} {d : Bool}
    (h : CreateSpec l l' k creator d) :
    ∀ t ∈ l', (t.1.kind = .st ∨ t.1.kind = .file) → t.2.2 = false → t ∈ l ∨ t = (k, creator, d) := by
  obtain ⟨_, _, h3⟩ := h
  intro t ht hk hd
  rcases h3 with ⟨_, rfl⟩ | ⟨ck, _, _, rfl⟩
  · rcases List.mem_append.1 ht with h1 | h1
    · exact .inl h1
    · exact .inr (List.mem_singleton.1 h1)
  · rcases mem_setRow (attSub_cut k _ t ht hk hd) with ⟨rfl, _⟩ | ⟨hm, _⟩
    · exact .inr rfl
    · exact .inl hm

/-- The declaration `define_step` works with: path lists sorted, duplicates removed. -/
def normDecl (d : StepDecl) : StepDecl :=
  { d with inp := normPaths d.inp, env := normPaths d.env, out := normPaths d.out, vol := normPaths d.vol }

/-- The side condition of `define`, on the state the request is issued in.  It binds only when the step exists, is
detached, can be recycled as it is (`Step.can_recycle`) and the new creator is attached. -/
def DefineOK (s : KState) (c : Key) (d : StepDecl) : Prop :=
  ∀ label, stepLabel d.cmd d.workdir = some label → ∀ n, s.find? (stepKey label) = some n → n.detached = true →
    s.canRecycle (stepKey label) (normDecl d) = true → s.isDetached c = false → RecycleClean s (stepKey label)

def BelowIfTree (c : Key) (p : String) : Prop := c.kind = .st → p.startsWith c.label = true

/-- `recycled` on the triples (`recT_iff`). -/
def recT (l : List Tri) (k : Key) (t : Tri) : Prop := t.2.2 = false ∨ t.1 = k ∨ Desc l k t.1

/-- What `Node.reattach k c` is granted: `k` is a step (the only caller is `try_recycle`, and its only caller
`define_step`), and `RecycleClean` on the triples when `c` is attached. -/
def RecOK (l : List Tri) (k c : Key) : Prop := k.kind = .step ∧ (Att l c → OwnOn (recT l k) l)

theorem recT_iff (s : KState) (k : Key) (n : Node) : recT s.skel k n.tri ↔ recycled s k n = true :=
  (recycled_iff.trans (or_congr Iff.rfl (or_congr Iff.rfl (mem_descendants s k n.key)))).symm

/-- Why each rewrite keeps (O1) and (O4): a detach, one pass of `delete_detached`, a step
row, a row without creator and a re-attachment below a detached creator only take attached rows away; a declared file
lies where `_declare_file` has looked; the new tree has taken over every file below it; a re-attachment below an
attached creator brings back exactly the rows `RecycleClean` speaks of. -/
theorem ownV : SkStableV BelowIfTree RecOK OwnSk where
  ok _ h := h.1
  ofTree _ _ _ hp _ := hp
  detachAtt l k ck D' hq hk hrow hD :=
    ownSk_mono (skStable_ok.detachAtt l k ck D' hq.1 hk hrow hD) ((attSub_setD_det _ _).trans (attSub_setRow_det _ _ _)) hq
  detachDet l k ck hq hrow := ownSk_mono (skStable_ok.detachDet l k ck hq.1 hrow) (attSub_setRow_det _ _ _) hq
  filter l D' hq h1 h2 := ownSk_mono (skStable_ok.filter l D' hq.1 h1 h2) (fun t ht _ _ => (List.mem_filter.1 ht).1) hq
  createFree l l' k newc d hq hspec hk := by
    refine ownSk_mono (skStable_ok.toG.q_of_createSpec hq.1 hspec) (fun t ht hkind hd => ?_) hq
    rcases createSpec_rows hspec t ht hkind hd with h1 | rfl
    · exact h1
    · exfalso
      rcases hk with hk | hk
      · rcases hkind with h2 | h2 <;> · simp only at h2; rw [hk] at h2; cases h2
      · obtain ⟨c, hc, _⟩ := hspec.1.1 hd
        rw [hk] at hc; cases hc
  createFile l l' p c d hq hspec hfit habove := by
    have hrows := createSpec_rows hspec
    -- the attached tree rows were there
    have htree : ∀ u ∈ l', u.1.kind = .st → u.2.2 = false → u ∈ l := fun u hu huk hud => by
      rcases hrows u hu (.inl huk) hud with h1 | rfl
      · exact h1
      · cases huk
    refine ⟨skStable_ok.toG.q_of_createSpec hq.1 hspec,
      fun a ha b hb hka haa hkb hab => hq.2.1 a (htree a ha hka haa) b (htree b hb hkb hab) hka haa hkb hab, ?_⟩
    intro f hf hk hfa c' hc' ⟨u, hu, huk, hua, hup⟩
    have hu' := htree u hu huk hua
    rcases hrows f hf (.inr hk) hfa with h1 | rfl
    · exact hq.2.2 f h1 hk hfa c' hc' ⟨u, hu', huk, hua, hup⟩
    · obtain rfl : c = c' := Option.some.inj hc'
      by_cases hck : c.kind = .st
      · exact ⟨hck, hfit hck⟩
      · exact absurd hup (by rw [show (fileKey p).label = p from rfl, habove hck u hu' huk hua]; exact Bool.false_ne_true)
  reattach l k ck c d D' hq hrow hck hhas hkind hd hg hR hD := by
    have hok' := skStable_ok.toG.reattach l k ck c d D' hq.1 hrow hck hhas hkind hd hg hD
    cases d with
    | true => exact ownSk_mono hok' ((attSub_setD_det _ _).trans (attSub_setRow_det _ _ _)) hq
    | false =>
      -- every attached file or tree row afterwards is a row of `l` that the guard speaks about
      refine ⟨hok', ownOn_mono (A := recT l k) (A' := attT) (fun t' ht' hkind' hd' => ?_) (hR.2 (hd.1 rfl))⟩
      obtain ⟨t1, ht1, rfl⟩ := List.mem_map.1 (show t' ∈ (setRow k (some c) false l).map _ from ht')
      have hkey := setD_key D' false t1
      have hcre : (if D' t1.1 = true then (t1.1, t1.2.1, false) else t1).2.1 = t1.2.1 := by split <;> rfl
      rw [hkey] at hkind'
      rcases mem_setRow ht1 with ⟨rfl, _⟩ | ⟨hm, hne⟩
      · exfalso; rcases hkind' with h2 | h2 <;> · simp only at h2; rw [hR.1] at h2; cases h2
      · refine ⟨t1, hm, hkey.symm, hcre.symm, ?_⟩
        by_cases hDt : D' t1.1 = true
        · exact (desc_setRow_sub ((hD _).1 hDt)).elim (fun h3 => absurd h3 hne) (fun h3 => .inr (.inr h3))
        · rw [if_neg hDt] at hd'; exact .inl hd'
  treeHand l l1 creator path hs d hq hspec hg := by
    have hrows := createSpec_rows hspec
    -- an attached tree row afterwards: an old one, or the new tree
    have htree : ∀ u ∈ hand (treeKey path) hs l1, u.1.kind = .st → u.2.2 = false → u ∈ l ∨ u.1 = treeKey path := by
      intro u hu huk hud
      rcases mem_hand hu with ⟨hin, _⟩ | ⟨_, hul⟩
      · rw [(hg.rows u.1 hin).1] at huk; cases huk
      · exact (hrows u hul (.inl huk) hud).imp id fun e => by rw [e]
    -- an attached file row afterwards: handed over, or an old one that does not lie below the tree
    have hfile : ∀ f ∈ hand (treeKey path) hs l1, f.1.kind = .file → f.2.2 = false →
        (f.1 ∈ hs ∧ f.2.1 = some (treeKey path)) ∨ (f.1 ∉ hs ∧ f ∈ l) := by
      intro f hf hfk hfd
      refine (mem_hand hf).imp_right fun ⟨hnin, hfl⟩ => ⟨hnin, (hrows f hfl (.inr hfk) hfd).elim id fun e => ?_⟩
      rw [e] at hfk; cases hfk
    refine ⟨skStable_ok.toG.toV.treeHand l l1 creator path hs d hq.1 hspec hg, ?_, ?_⟩
    · intro a ha b hb hka haa hkb hab hne
      rcases htree a ha hka haa with h2 | h2 <;> rcases htree b hb hkb hab with h3 | h3
      · exact hq.2.1 a h2 b h3 hka haa hkb hab hne
      · rw [h3]; exact hg.above a h2 hka haa
      · rw [h2]; exact hg.below b h3 hkb hab
      · exact absurd (h2.trans h3.symm) hne
    · intro f hf hk hfa c hc ⟨u, hu, huk, hua, hup⟩
      rcases hfile f hf hk hfa with ⟨hin, hcr⟩ | ⟨hnin, hfs⟩
      · obtain rfl : treeKey path = c := Option.some.inj (hcr.symm.trans hc)
        exact ⟨rfl, (hg.rows f.1 hin).2.2⟩
      · rcases htree u hu huk hua with h2 | h2
        · exact hq.2.2 f hfs hk hfa c hc ⟨u, h2, huk, hua, hup⟩
        · rw [h2] at hup; exact absurd (hg.all f hfs hk hfa hup) hnin

theorem own_init : Own KState.init := by
  refine ⟨init_skOK, ?_, ?_⟩
  · intro a ha b hb hka
    rw [init_skel, List.mem_singleton] at ha
    subst ha; cases hka
  · intro f hf hk
    rw [init_skel, List.mem_singleton] at hf
    subst hf; cases hk

/-- The side conditions (see the header). -/
def ReqOKO (s : KState) : Req → Prop
  | .define c d => DefineOK s c d
  | .amend k .. => k.kind ≠ .st
  | .static c ps => c.kind = .st → ∀ p ∈ ps, p.startsWith c.label = true
  | .declStatic c _ fs _ => c.kind = .st → ∀ p ∈ fs, p.startsWith c.label = true
  | _ => True

theorem exec_own (cfg : KConfig) (r : Req) (s : KState) (res : KState × String) (hr : ReqOKO s r)
    (hp : Own s) (h : s.exec cfg r = .ok res) : Own res.1 := by
  refine ownV.exec cfg r s res ?_ hp h
  cases r with
  | define c d =>
    exact ⟨fun label n hl hf hd hc =>
        ⟨rfl, fun ha => ownOn_skel (fun n => (recT_iff s _ n).1) (hr label hl n hf hd hc ((isDetached_false_iff hp.1.nodup c).2 ha))⟩,
      trivial, fun _ _ => ⟨fun _ _ hk => (nomatch hk), fun _ _ hk => (nomatch hk)⟩⟩
  | amend k inp env out vol conc => exact ⟨fun _ _ hk => absurd hk hr, fun _ _ hk => absurd hk hr⟩
  | static c ps => exact fun p hp hk => hr hk p hp
  | declStatic c ts fs ps => exact fun p hp hk => hr hk p hp
  | _ => trivial

/-- `Guarded ReqOKO` (`Lemmas/Inv.lean`), written out as a recursion. -/
def HistOKO : KState → List (KConfig × Req) → Prop
  | _, [] => True
  | s, cr :: rest => ReqOKO s cr.2 ∧ HistOKO (s.step cr.1 cr.2) rest

theorem run_own (h : List (KConfig × Req)) (s : KState) (hp : Own s) (hh : HistOKO s h) : Own (s.run h) :=
  run_of_step (fun s cr _ hh hp => ⟨step_of_exec hp fun res => exec_own cr.1 cr.2 s res hh.1 hp, hh.2⟩) h s hp hh

theorem reachable_own (h : List (KConfig × Req)) (hh : HistOKO KState.init h) : Own (KState.init.run h) :=
  run_own h KState.init own_init hh

/-- (O1) after every guarded history (accepted and rejected requests, changing configurations). -/
theorem treesDisjoint_after_every_history (h : List (KConfig × Req)) (hg : HistOKO KState.init h) :
    TreesDisjoint (KState.init.run h) :=
  treesDisjoint_of_own (reachable_own h hg)

/-- (O4) after every guarded history. -/
theorem treeOwnsBeneath_after_every_history (h : List (KConfig × Req)) (hg : HistOKO KState.init h) :
    TreeOwnsBeneath (KState.init.run h) :=
  treeOwnsBeneath_of_own (reachable_own h hg)

theorem defineOK_of_no_detached (s : KState) (c : Key) (d : StepDecl)
    (h : ∀ label n, stepLabel d.cmd d.workdir = some label → s.find? (stepKey label) = some n → n.detached = false) :
    DefineOK s c d := by
  intro label hl n hf hd
  rw [h label n hl hf] at hd; cases hd

/-- "No request re-attaches a detached tree, or a detached file under an attached tree" suffices for
`RecycleClean`. -/
theorem recycleClean_of_simple {s : KState} {sk : Key} (hsk : sk.kind = .step) (hd : TreesDisjoint s) (ho : TreeOwnsBeneath s)
    (hnotree : ∀ n ∈ s.nodes, n.key ∈ s.descendants sk → n.key.kind ≠ .st)
    (hnofile : ∀ n ∈ s.nodes, n.key ∈ s.descendants sk → n.key.kind = .file → n.detached = true →
      ∀ t ∈ s.nodes, t.key.kind = .st → t.detached = false → n.key.label.startsWith t.key.label = false) :
    RecycleClean s sk := by
  -- a selected tree is an attached tree
  have htree : ∀ t ∈ s.nodes, t.key.kind = .st → recycled s sk t = true → att t = true := by
    intro t ht hk hr
    rcases recycled_iff.1 hr with h1 | h1 | h1
    · simp [att, h1]
    · rw [h1, hsk] at hk; cases hk
    · exact absurd hk (hnotree t ht h1)
  refine ⟨?_, ?_⟩
  · intro a ha b hb hka haa hkb hab hne
    exact hd a ha b hb hka (htree a ha hka haa) hkb (htree b hb hkb hab) hne
  · intro f hf hk hfa c hc hex
    obtain ⟨t, ht, htk, hta, htp⟩ := hex
    have hta' := htree t ht htk hta
    cases hfd : f.detached with
    | false =>
      obtain ⟨t', ht', h1, h2, h3, h4⟩ := ho f hf hk (by simp [att, hfd]) c hc ⟨t, ht, htk, hta', htp⟩
      refine ⟨t', ht', h1, ?_, h3, h4⟩
      exact recycled_iff.2 (.inl (by simpa [att] using h2))
    | true =>
      exfalso
      rcases recycled_iff.1 hfa with h1 | h1 | h1
      · rw [hfd] at h1; cases h1
      · rw [h1, hsk] at hk; cases hk
      · have := hnofile f hf h1 hk hfd t ht htk (by simpa [att] using hta')
        rw [this] at htp; cases htp

#print axioms exec_own
#print axioms treesDisjoint_after_every_history
#print axioms treeOwnsBeneath_after_every_history
#print axioms filesOwned_after_every_history
#print axioms recycleClean_of_simple

end StepupModel.K.Own
