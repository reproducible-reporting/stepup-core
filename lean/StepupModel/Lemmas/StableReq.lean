import StepupModel.Lemmas.WorkflowChain
/-!
# The requests, for a predicate that survives the writes of `Lemmas/StableW.lean`

The five declaring requests are built from the calls of `Lemmas/WorkflowChain.lean`, and a `StableW A G R P` survives
every one of them that does not end in `Step.set_resources` (`StableW.toCall`; the context parameters of `CallL` are
void): `amend`, `static`, `tree`, `declare_static` come from there.  `define_step` writes `step_resource` at two
places, which are hypotheses here as they are of the walk; the rest of it is the same calls.  Then every request
(`exec_stableW_of`; `StableW.execInv`, hence `step` and `run`).
-/
namespace StepupModel.K

namespace StableW
variable {A : WClass → Bool} {G R : KState → Key → Prop} {P : KState → Prop}

/-- The calls of the declaring requests, `create` of a step row and `try_recycle` apart. -/
def callW : List WClass := [.payload, .setDynamic, .handOver] ++ ([.depIn, .depOut] ++ (createRowW ++ createFileW))

theorem toCall (L : StableW A G R P) (hA : Sub callW A) :
    CallL (fun _ _ _ => True) (fun _ _ _ => False) (fun _ _ => False) P where
  payload := L.payload hA.left.head
  setDynamic := L.setDynamic hA.left.tail.head
  insertDep := fun a b ha s s' hc hp h => L.insertDep a b s s' ((depW_file ha).symm ▸ hA.right.left.head) hc hp h
  declareStatic := fun cfg c p _ => L.declareFile_preserves hA.right.right.right cfg c p .unconfirmed
  declareProduct := fun cfg step p st _ _ =>
    L.declareProduct_preserves hA.right.right.right cfg step p st (depW_of hA.right.left _)
  adopt := fun s s' p t _ hp h =>
    L.createFile_preserves hA.right.right.right p (some t) .unconfirmed (.inr (.inl rfl)) s s' hp h
  placeholder := fun p => L.createFile_preserves hA.right.right.right p none .undeclared (.inl rfl)
  createStep := fun _ _ _ hC => hC.elim
  stepExtras := fun _ _ hC => hC.elim
  recycleStep := fun _ _ _ _ _ _ hR => hR.elim
  treeCreateHandOver := fun {s s1 creator path hs} hp _ h1 => L.handOver hA.left.tail.tail.head s1 (treeKey path) hs
    (L.createRow_preserves hA.right.right.left (treeKey path) (some creator) .tree nofun nofun s s1 hp h1)
  ofTree := fun _ _ _ _ => trivial
  ofUnder := fun _ _ _ _ => trivial

def createStepW : List WClass := createRowW ++ callW

/-- The creation branch of `define_step`: the write of `set_resources` on the fresh (or reset) row is a
hypothesis. -/
theorem createStep_preserves (L : StableW A G R P) (hA : Sub createStepW A) (cfg : KConfig) (sk creator : Key)
    (d : StepDecl) (s : KState) (r : KState × List String)
    (hx : ∀ s1, s.create sk (some creator) (.step { need := d.need, shell := d.shell, safe := d.safe }) = .ok s1 →
      P s1 → P (s1.setStepExtras sk d))
    (hsk : sk.kind = .step) (hp : P s) (h : s.createStep cfg sk creator d = .ok r) : P r.1 :=
  (L.toCall hA.right).createStep_preserves cfg sk creator d s r
    (fun s1 h1 => hx s1 h1 (L.createRow_preserves hA.left sk _ (.step _) (hsk ▸ nofun) nofun s s1 hp h1))
    (fun _ _ => trivial) (fun _ _ => trivial) h

def defineStepW : List WClass := [.adopt] ++ (recycleStepW ++ createStepW)

/-- `define_step`: the two places where `set_resources` is called are hypotheses (`hr`: full recycle of
the detached step `n`; `hc`: creation, on a fresh row or on the row of a partial recycle). -/
theorem defineStep_preserves (L : StableW A G R P) (hA : Sub defineStepW A) (cfg : KConfig) (creator : Key) (d : StepDecl)
    (s : KState) (r : KState × List String)
    (hr : ∀ sk n s1 s3, s.defineGuard cfg creator (normDecl d) = .ok sk → s.find? sk = some n → n.detached = true →
      s.canRecycle sk (normDecl d) = true → s.reattach sk creator = .ok s1 → s1.afterRecycle sk (normDecl d) n = .ok s3 →
      P s3 → P (s3.setStepExtras sk (normDecl d)))
    (hc : ∀ sk s1, s.defineGuard cfg creator (normDecl d) = .ok sk →
      s.create sk (some creator) (.step { need := d.need, shell := d.shell, safe := d.safe }) = .ok s1 →
      P s1 → P (s1.setStepExtras sk (normDecl d)))
    (hp : P s) (h : s.defineStep cfg creator d = .ok r) : P r.1 := by
  obtain ⟨sk, hg, _⟩ := bind_ok_inv (x := s.defineGuard cfg creator (normDecl d)) h
  obtain ⟨label, hlabel, hrest⟩ := defineStep_ok h
  obtain rfl : sk = stepKey label := by
    obtain ⟨⟨l, hl, rfl⟩, _⟩ := defineGuard_ok hg
    rw [Option.some.inj (hl.symm.trans hlabel)]
  obtain ⟨n, hf, hd, hcr, h⟩ | ⟨_, h⟩ := hrest
  · exact L.recycleStep_preserves hA.right.left _ creator _ n s r.1
      ((creatorW_ne (kd := (stepKey label).kind) (c := creator) (show Kind.step ≠ Kind.file from nofun)).symm ▸ hA.left.head)
      (fun t1 t3 => hr _ n t1 t3 hg hf hd hcr) hp h
  · exact L.createStep_preserves hA.right.right cfg _ creator _ s r (fun t1 e1 => hc _ t1 hg e1) rfl hp h

end StableW

/-- A predicate that is stable in the sense of `StableW` is kept by every
accepted request, given what the leaves do not cover: `Step.set_resources` in `define_step` (`hr`: full
recycle, `hc`: creation), and the guards of the leaves: `R` for the step that `pop_next_job` hands out to run,
on the refreshed state (`hrun`), and for a `setState _ RUNNING` request (`hset`); `G` for a `hold` request (`hg`). -/
theorem exec_stableW_of {G R : KState → Key → Prop} {P : KState → Prop} (L : StableW (fun _ => true) G R P) (cfg : KConfig) (r : Req) (s : KState) (res : KState × String)
    (hr : ∀ c d sk n s1 s3, r = .define c d → s.defineGuard cfg c (normDecl d) = .ok sk → s.find? sk = some n →
      n.detached = true → s.canRecycle sk (normDecl d) = true → s.reattach sk c = .ok s1 →
      s1.afterRecycle sk (normDecl d) n = .ok s3 → P s3 → P (s3.setStepExtras sk (normDecl d)))
    (hc : ∀ c d sk s1, r = .define c d → s.defineGuard cfg c (normDecl d) = .ok sk →
      s.create sk (some c) (.step { need := d.need, shell := d.shell, safe := d.safe }) = .ok s1 →
      P s1 → P (s1.setStepExtras sk (normDecl d)))
    (hrun : ∀ k su n, r = .pop (some k) → s.updateMeta cfg = .ok su → P su → n ∈ su.nodes → n.key = k →
      su.eligible cfg n = true → n.hasHash = false → R su k)
    (hset : ∀ k, r = .setState k .running → R s k)
    (hg : ∀ k, r = .hold k → G s k) (hp : P s) (h : s.exec cfg r = .ok res) : P res.1 := by
  by_cases hd : ∃ c d, r = .define c d
  · obtain ⟨c, d, rfl⟩ := hd
    obtain ⟨a, ha, e⟩ := pairOut_ok h
    exact e ▸ L.defineStep_preserves Sub.top cfg c d s a
      (fun sk n s1 s3 e1 e2 e3 e4 e5 e6 => hr c d sk n s1 s3 rfl e1 e2 e3 e4 e5 e6)
      (fun sk s1 e1 e2 => hc c d sk s1 rfl e1 e2) hp ha
  · exact exec_of_frame_call L Sub.top (L.toCall Sub.top) (L.detach_preserves Sub.top)
      (L.deletePass_preserves Sub.top) cfg r s res (callOK_true s r fun c d e => absurd ⟨c, d, e⟩ hd) hrun hset hg hp h

theorem StableW.execInv {G : KState → Key → Prop} {P : KState → Prop} (L : StableW (fun _ => true) G (fun _ _ => True) P)
    (hx : ∀ s sk d, P s → P (s.setStepExtras sk d)) : ExecInv (fun s r => ∀ k, r = .hold k → G s k) P :=
  fun cfg r s res hg hp h =>
    exec_stableW_of L cfg r s res (fun _ _ _ _ _ s3 _ _ _ _ _ _ _ => hx s3 _ _) (fun _ _ _ s1 _ _ _ => hx s1 _ _)
      (fun _ _ _ _ _ _ _ _ _ _ => trivial) (fun _ _ => trivial) hg hp h

end StepupModel.K
