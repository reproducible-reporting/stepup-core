import StepupModel.Lemmas.MetaAfter
import StepupModel.Lemmas.SoftChain
/-!
# The flag discipline of `_update_meta_after`: soft changes of a state

`CacheInvAfterW` (the weak flag discipline, `Lemmas/MetaAfter.lean`) is the hypothesis of the
worklist theorems.  The files `Lemmas/Discipline*.lean` prove that the writers of the model maintain it.

A *soft* change of a state (`SoftRel`) keeps the dependency table and relates the rows one by one by `SoftRow`; it
owes nothing to the discipline (`cacheInvW_soft`, `Lemmas/DisciplineDebt.lean`).

`SP s0 s` (soft, as a predicate of `s`): keys of `s0` are unique and `s` is a soft change of `s0`.  `SP s0` has the
leaves of `Lemmas/SoftChain.lean` for the row relation `SoftRow`, for every `s0` (`SP.leaves`), so every operation of
the walk of `Lemmas/StableW.lean` whose writes are of the kinds `softA` preserves it (`SoftLeaves.toW`); the only
obligation that is not structural is on `UPDATE file SET state`: the row must keep its role (static, output or
volatile).  `hold`, `release` and `_update_meta_safe` are not of these kinds, but write columns that this discipline
does not read (`hold_soft`, `release_soft`, `updateMetaSafe_soft`).
-/
namespace StepupModel.K.Discipline
open StepupModel.K.MetaAfter StepupModel.Generated

theorem keysUnique_of_all₂ {R : Node → Node → Prop} (hR : ∀ a b, R a b → b.key = a.key) {s s' : KState}
    (h : All₂ R s.nodes s'.nodes) (hk : KeysUnique s) : KeysUnique s' :=
  (keys_of_all₂ hR h ▸ hk : (s'.nodes.map (·.key)).Nodup)

/-- What a row may do without disturbing the weak discipline (key, `detached`, `Warm`), `Struct` (the role) and the
creator skeleton (the creator).  Of a file state the discipline itself reads less than the role: the side of
VOLATILE (`SoftRow.regularOutput`). -/
def SoftRow (n n' : Node) : Prop :=
  n'.key = n.key ∧ n'.detached = n.detached ∧ (n'.creator = n.creator ∧ n'.fstate.role? = n.fstate.role?) ∧
  (n.checkAfter = true → n'.checkAfter = true) ∧
  (n'.checkAfter = true ∨ (n'.need = n.need ∧ n'.impliedNeed = n.impliedNeed ∧ n'.tail = n.tail))

theorem volatile_iff_role (a : FileState) : a = .volatile ↔ a.role? = some .volatile := by
  cases a <;> decide

theorem SoftRow.volatile {n n' : Node} (h : SoftRow n n') : n'.fstate = .volatile ↔ n.fstate = .volatile := by
  rw [volatile_iff_role, volatile_iff_role, h.2.2.1.2]

theorem SoftRow.refl (n : Node) : SoftRow n n := ⟨rfl, rfl, ⟨rfl, rfl⟩, id, .inr ⟨rfl, rfl, rfl⟩⟩

/-- The clause that `SoftRow` and `AfterRow` (`Lemmas/DisciplineDebt.lean`) share.  The discipline asks the local
equation of unflagged rows only: the flag is never lowered, and the need and the cached pair may change under a
raised flag. -/
def Warm (n n' : Node) : Prop :=
  (n.checkAfter = true → n'.checkAfter = true) ∧
  (n'.checkAfter = true ∨ (n'.need = n.need ∧ n'.impliedNeed = n.impliedNeed ∧ n'.tail = n.tail))

theorem Warm.trans {a b c : Node} (h1 : Warm a b) (h2 : Warm b c) : Warm a c := by
  refine ⟨fun h => h2.1 (h1.1 h), ?_⟩
  rcases h2.2 with h | ⟨x2, y2, z2⟩
  · exact .inl h
  · rcases h1.2 with h | ⟨x1, y1, z1⟩
    · exact .inl (h2.1 h)
    · exact .inr ⟨x2.trans x1, y2.trans y1, z2.trans z1⟩

theorem SoftRow.warm {n n' : Node} (h : SoftRow n n') : Warm n n' := h.2.2.2

theorem SoftRow.trans (a b c : Node) (h1 : SoftRow a b) (h2 : SoftRow b c) : SoftRow a c :=
  ⟨h2.1.trans h1.1, h2.2.1.trans h1.2.1, ⟨h2.2.2.1.1.trans h1.2.2.1.1, h2.2.2.1.2.trans h1.2.2.1.2⟩,
    h1.warm.trans h2.warm⟩

theorem SoftRow.of_quiet {n n' : Node} (h : SoftQuiet n n') : SoftRow n n' := by
  obtain ⟨hs, ha, _⟩ := h
  simp only [Node.soft, Prod.mk.injEq] at hs
  obtain ⟨h1, h2, h3, h4, _, _, h7, h8, h9, _⟩ := hs
  exact ⟨h1, h3, ⟨h2, by rw [h4]⟩, ha, .inr ⟨h7, h8, h9⟩⟩

def SoftFn (f : Node → Node) : Prop := ∀ n, SoftRow n (f n)

theorem softFn_of_neutral {f : Node → Node} (hf : AfterNeutral f) (hc : ∀ n, (f n).creator = n.creator) : SoftFn f := by
  intro n
  obtain ⟨hv, h1, h2, h3⟩ := hf n
  refine ⟨view_key hv, view_detached hv, ⟨hc n, by rw [view_fstate hv]⟩, fun h => by rw [h3]; exact h,
    .inr ⟨view_need hv, h1, h2⟩⟩

structure SoftRel (s s' : KState) : Prop where
  deps : s'.deps = s.deps
  rows : All₂ SoftRow s.nodes s'.nodes

theorem SoftRel.refl (s : KState) : SoftRel s s := ⟨rfl, all₂_refl SoftRow.refl _⟩

theorem SoftRel.trans {a b c : KState} (h1 : SoftRel a b) (h2 : SoftRel b c) : SoftRel a c :=
  ⟨h2.deps.trans h1.deps, all₂_trans SoftRow.trans h1.rows h2.rows⟩

theorem softRel_mapNodes (s : KState) (g : Node → Node) (hg : ∀ n ∈ s.nodes, SoftRow n (g n)) :
    SoftRel s { s with nodes := s.nodes.map g } := ⟨rfl, all₂_map g _ hg⟩

theorem softRel_modifyWhere (s : KState) (p : Node → Bool) {f : Node → Node} (hf : SoftFn f) :
    SoftRel s (s.modifyWhere p f) := by
  unfold KState.modifyWhere
  exact softRel_mapNodes s _ fun n _ => ite_both (SoftRow n) (hf n) (SoftRow.refl n)

theorem softRel_modify (s : KState) (k : Key) {f : Node → Node} (hf : SoftFn f) : SoftRel s (s.modify k f) :=
  ⟨rfl, all₂_modify SoftRow.refl s k f fun n _ => hf n⟩

theorem softRel_of_eq {s s' : KState} (hn : s'.nodes = s.nodes) (hd : s'.deps = s.deps) : SoftRel s s' :=
  ⟨hd, by rw [hn]; exact all₂_refl SoftRow.refl _⟩

theorem keysUnique_modify {s : KState} (k : Key) (f : Node → Node) (hf : ∀ n, n.key = k → (f n).key = k)
    (hk : KeysUnique s) : KeysUnique (s.modify k f) := by
  unfold KeysUnique
  rw [keys_modify s k f fun n _ => hf n]
  exact hk

theorem SoftRel.keysUnique {s s' : KState} (h : SoftRel s s') (hk : KeysUnique s) : KeysUnique s' :=
  keysUnique_of_all₂ (fun _ _ hr => hr.1) h.rows hk

theorem SoftRel.find? {s s' : KState} (h : SoftRel s s') (k : Key) : OptRel SoftRow (s.find? k) (s'.find? k) :=
  find?_all₂ (fun _ _ hr => hr.1) k h.rows

theorem lookupRegularOutput_eq (st : FileState) (d : Bool) :
    lookupRegularOutput st d = (!d && decide (st ≠ .volatile)) := by
  cases st <;> cases d <;> decide

theorem SoftRow.regularOutput {n n' : Node} (h : SoftRow n n') :
    lookupRegularOutput n'.fstate n'.detached = lookupRegularOutput n.fstate n.detached := by
  rw [lookupRegularOutput_eq, lookupRegularOutput_eq, h.2.1]
  congr 2
  exact propext (not_congr h.volatile)

theorem regularOutputs_congr {s s' : KState} {k : Key} (hs : s'.sinksOf k = s.sinksOf k)
    (hf : ∀ c ∈ s.sinksOf k, OptRel SoftRow (s.find? c) (s'.find? c)) : s'.regularOutputs k = s.regularOutputs k := by
  unfold KState.regularOutputs
  rw [hs]
  apply filterMap_congr'
  intro c hc
  have := hf c hc
  revert this
  cases s.find? c <;> cases s'.find? c <;> intro this
  · rfl
  · exact this.elim
  · exact this.elim
  · simp only [this.1, this.regularOutput]

theorem SoftRel.regularOutputs {s s' : KState} (h : SoftRel s s') (k : Key) :
    s'.regularOutputs k = s.regularOutputs k :=
  regularOutputs_congr (by unfold KState.sinksOf; rw [h.deps]) fun c _ => h.find? c

def SP (s0 s : KState) : Prop := KeysUnique s0 ∧ SoftRel s0 s

theorem SP.refl {s : KState} (hk : KeysUnique s) : SP s s := ⟨hk, SoftRel.refl s⟩

theorem SP.keys {s0 s : KState} (h : SP s0 s) : KeysUnique s := h.2.keysUnique h.1

theorem SP.step {s0 s s' : KState} (h : SP s0 s) (h' : SoftRel s s') : SP s0 s' := ⟨h.1, h.2.trans h'⟩

theorem softRel_of_sp {f : KState → M KState} (hf : ∀ t, Preserves (SP t) f) {s s' : KState} (hk : KeysUnique s)
    (h : f s = .ok s') : SoftRel s s' := (hf s s s' (SP.refl hk) h).2

theorem fileRowWrite_soft {n n' : Node} {st : FileState} {nh : Option (Option Nat)}
    (h : fileRowWrite n st nh = .ok n') (hv : st.role? = n.fstate.role?) : SoftRow n n' := by
  cases fileRowWrite_eq h
  exact ⟨rfl, rfl, ⟨rfl, hv⟩, id, .inr ⟨rfl, rfl, rfl⟩⟩

theorem stepRowWrite_soft {n n' : Node} {st : StepState} {d : Option Bool}
    (h : stepRowWrite n st d = .ok n') : SoftRow n n' := by
  cases stepRowWrite_eq h
  exact ⟨rfl, rfl, ⟨rfl, rfl⟩, id, .inr ⟨rfl, rfl, rfl⟩⟩

theorem SP.leaves (s0 : KState) : SoftLeaves SoftRow (SP s0) where
  map s g hg h := h.step (softRel_mapNodes s g hg)
  queue _ _ h := h.step (softRel_of_eq rfl rfl)
  found _ _ h hn := find?_of_mem h.keys hn
  refl := SoftRow.refl
  quiet _ _ := SoftRow.of_quiet
  fileWrite _ _ _ _ hv h := fileRowWrite_soft h hv
  stepWrite _ _ _ _ h := stepRowWrite_soft h

theorem softFn_quiet {f : Node → Node} (h : ∀ n, SoftQuiet n (f n)) : SoftFn f := fun n => .of_quiet (h n)

theorem flagReadySinks_rel (s : KState) (k : Key) : SoftRel s (s.flagReadySinks k) :=
  softRel_modifyWhere s _ (softFn_quiet fun _ => ⟨rfl, id, id⟩)

theorem softRel_flagWhere (s : KState) (p : Node → Bool) : SoftRel s (s.modifyWhere p fun n => { n with checkAfter := true }) :=
  softRel_modifyWhere s _ (softFn_quiet fun _ => ⟨rfl, fun _ => rfl, id⟩)

theorem flagDepEndpoints_rel (s : KState) (a b : Key) : SoftRel s (s.flagDepEndpoints a b) :=
  softRel_modifyWhere s _ (softFn_quiet fun _ => ⟨rfl, fun _ => rfl, id⟩)

theorem flagDynamicSuppliers_rel (s : KState) (k : Key) : SoftRel s (s.flagDynamicSuppliers k) := softRel_flagWhere s _

theorem flagChecksWithProducts_rel {s s' : KState} {k : Key} (h : s.flagChecksWithProducts k = .ok s') : SoftRel s s' := by
  obtain ⟨ks, _, rfl⟩ := flagChecksWithProducts_ok h
  exact softRel_modifyWhere s _ (softFn_quiet fun _ => ⟨rfl, fun _ => rfl, fun _ => rfl⟩)

theorem flagCheckAfterSources_rel {s s' : KState} {k : Key} (h : s.flagCheckAfterSources k = .ok s') : SoftRel s s' := by
  obtain ⟨ks, _, rfl⟩ := flagCheckAfterSources_ok h
  exact softRel_flagWhere s _

theorem deleteHash_rel (s : KState) (k : Key) : SoftRel s (s.deleteHash k) := by
  refine softRel_modify s k (softFn_quiet fun n => ?_)
  split <;> exact ⟨rfl, id, id⟩

theorem lostProduct_rel {s s' : KState} {old : Option Key} (h : s.lostProduct old = .ok s') : SoftRel s s' := by
  rcases lostProduct_ok h with ⟨_, rfl⟩ | ⟨oc, _, _, h⟩
  · exact SoftRel.refl _
  · rcases afterLostProduct_ok h with ⟨_, rfl⟩ | ⟨_, rfl⟩
    · exact deleteHash_rel s oc
    · exact SoftRel.refl _

theorem detachFlags_rel {s s' : KState} {k : Key} (h : s.detachFlags k = .ok s') : SoftRel s s' := by
  rcases detachFlags_ok h with ⟨_, rfl⟩ | ⟨_, s2, h3, h4⟩
  · exact SoftRel.refl _
  · exact (flagChecksWithProducts_rel h3).trans (flagCheckAfterSources_rel h4)

theorem flagWhere_cold {s : KState} {p : Node → Bool} {n' : Node}
    (h : n' ∈ (s.modifyWhere p fun n => { n with checkAfter := true }).nodes) (hf : n'.checkAfter = false) :
    n' ∈ s.nodes ∧ p n' = false := by
  obtain ⟨n, hn, rfl⟩ := mem_modifyWhere h
  by_cases hp : p n = true
  · rw [if_pos hp] at hf; cases hf
  · rw [if_neg hp]; exact ⟨hn, Bool.eq_false_iff.2 hp⟩

theorem flagPass_rows {s : KState} {p : Node → Bool} {f : Node → Node} {n' : Node}
    (h : n' ∈ (s.modifyWhere p f).nodes) (hk : ∀ n, (f n).key = n.key)
    (hd : ∀ n, (f n).detached = n.detached) (hfl : ∀ n, (f n).checkAfter = true) :
    ∃ n ∈ s.nodes, n'.key = n.key ∧ n'.detached = n.detached ∧ (n.checkAfter = true → n'.checkAfter = true) ∧
      (p n = true → n'.checkAfter = true) := by
  obtain ⟨n, hn, rfl⟩ := mem_modifyWhere h
  refine ⟨n, hn, ?_, ?_, ?_, ?_⟩
  · split <;> simp [hk]
  · split <;> simp [hd]
  · intro hx; split
    · exact hfl n
    · exact hx
  · intro hp; rw [if_pos hp]; exact hfl n

theorem flagDepEndpoints_flags {s : KState} {a b : Key} {n' : Node} (hn : n' ∈ (s.flagDepEndpoints a b).nodes)
    (hs : n'.key.kind = .step) (hk : n'.key = a ∨ n'.key = b) : n'.checkAfter = true := by
  obtain ⟨n0, _, hk0, _, _, hsel⟩ := flagPass_rows hn (fun _ => rfl) (fun _ => rfl) (fun _ => rfl)
  apply hsel
  rw [← hk0]
  simpa [hs] using hk

theorem flagFold_spec (gone : List Dep) : ∀ t : KState,
    SoftRel t (gone.foldl (fun s d => s.flagDepEndpoints d.src d.snk) t) ∧
    ∀ n' ∈ (gone.foldl (fun s d => s.flagDepEndpoints d.src d.snk) t).nodes, n'.key.kind = .step →
      (∃ d ∈ gone, n'.key = d.src ∨ n'.key = d.snk) → n'.checkAfter = true := by
  induction gone with
  | nil =>
    intro t
    exact ⟨SoftRel.refl t, fun n' _ _ ⟨d, hd, _⟩ => by cases hd⟩
  | cons d ds ih =>
    intro t
    simp only [List.foldl_cons]
    have h1 := flagDepEndpoints_rel t d.src d.snk
    obtain ⟨h2, h3⟩ := ih (t.flagDepEndpoints d.src d.snk)
    refine ⟨h1.trans h2, ?_⟩
    intro n' hn' hs ⟨d', hd', hk⟩
    rcases List.mem_cons.1 hd' with rfl | hd'
    · obtain ⟨n1, hn1, hr⟩ := all₂_mem_right h2.rows n' hn'
      exact hr.2.2.2.1 (flagDepEndpoints_flags hn1 (hr.1 ▸ hs) (hr.1 ▸ hk))
    · exact h3 n' hn' hs ⟨d', hd', hk⟩

theorem deleteDeps_flags (s : KState) (p : Dep → Bool) :
    SoftRel ({ s with deps := s.deps.filter fun d => !p d } : KState) (s.deleteDeps p) ∧
    ∀ n' ∈ (s.deleteDeps p).nodes, n'.key.kind = .step →
      (∃ d ∈ s.deps, p d = true ∧ (n'.key = d.src ∨ n'.key = d.snk)) → n'.checkAfter = true :=
  have ⟨h1, h2⟩ := flagFold_spec (s.deps.filter p) ({ s with deps := s.deps.filter fun d => !p d } : KState)
  ⟨h1, fun n' hn' hs ⟨d, hd, hp, hk⟩ => h2 n' hn' hs ⟨d, List.mem_filter.2 ⟨hd, hp⟩, hk⟩⟩

section

variable {s0 : KState}

theorem setStepState_soft (k : Key) (st : StepState) (d : Bool) :
    Preserves (SP s0) (fun s => s.setStepState k st d) := (SP.leaves s0).writeStepState_preserves k st (some d)

theorem flagDepEndpoints_soft (s : KState) (a b : Key) (h : SP s0 s) : SP s0 (s.flagDepEndpoints a b) :=
  h.step (flagDepEndpoints_rel s a b)

theorem flagCheckAfterSources_soft (k : Key) : Preserves (SP s0) (fun s => s.flagCheckAfterSources k) :=
  (SP.leaves s0).toW.flagCheckAfterSources_preserves rfl k

theorem markFileOutdated_soft (f : Key) : Preserves (SP s0) (fun s => s.markFileOutdated f) :=
  (SP.leaves s0).toW.markFileOutdated_preserves (by decide) f

theorem hold_soft (k : Key) : Preserves (SP s0) (fun s => s.hold k) := by
  intro s s' hp h
  have hp1 : SP s0 (s.modify k fun n => { n with holding := n.holding + 1 }) :=
    hp.step (softRel_modify s k (softFn_of_neutral (fun _ => ⟨rfl, rfl, rfl, rfl⟩) fun _ => rfl))
  rcases hold_ok h with h | ⟨_, rfl⟩
  · exact (SP.leaves s0).toW.flagChecksWithProducts_preserves rfl k _ s' hp1 h
  · exact hp1

theorem release_soft (k : Key) : Preserves (SP s0) (fun s => s.release k) := by
  intro s s' hp h
  have hp1 : SP s0 (s.modify k fun n => { n with holding := n.holding - 1 }) :=
    hp.step (softRel_modify s k (softFn_of_neutral (fun _ => ⟨rfl, rfl, rfl, rfl⟩) fun _ => rfl))
  obtain ⟨_, _, _, h | ⟨_, rfl⟩⟩ := release_ok h
  · exact (SP.leaves s0).toW.flagChecksWithProducts_preserves rfl k _ s' hp1 h
  · exact hp1

theorem updateMetaSafe_soft : Preserves (SP s0) (fun s => s.updateMetaSafe) := by
  intro s s' hp h
  obtain ⟨g, hg, rfl⟩ := updateMetaSafe_rowMap h
  exact hp.step (softRel_mapNodes s g fun n _ =>
    softFn_of_neutral (afterNeutral_of_erase MetaSafe.eraseSafe (fun _ => ⟨rfl, rfl, rfl, rfl⟩) hg)
      (fun n => (congrArg Node.creator (hg n) :)) n)

end

theorem exec_plainSoft_rel (cfg : KConfig) (r : Req) (hr : plainSoftReq r = true ∨ r = .reconcile) (s : KState)
    (res : KState × String) (hk : KeysUnique s) (h : s.exec cfg r = .ok res) : SoftRel s res.1 :=
  ((SP.leaves s).exec_plainSoft cfg r hr hold_soft release_soft s res (SP.refl hk) h).2

namespace Outside
variable {X : Key → Prop} {s s' s'' : KState}

theorem soft (h : SoftRel s s') : Outside X SoftRow s s' := .of_rows (fun _ _ h => h.1) h.rows

theorem strans (h1 : Outside X SoftRow s s') (h2 : Outside X SoftRow s' s'') : Outside X SoftRow s s'' :=
  h1.trans (fun _ _ h => h.1) SoftRow.trans h2

end Outside

theorem SoftRel.creator_eq {s s' : KState} (h : SoftRel s s') {k : Key} {n n' : Node} (hn : s.find? k = some n)
    (hn' : s'.find? k = some n') : n'.creator = n.creator := by
  have hrel := h.find? k
  rw [hn, hn'] at hrel
  exact hrel.2.2.1.1

theorem SoftRel.role_eq {s s' : KState} (h : SoftRel s s') {k : Key} {n n' : Node} (hn : s.find? k = some n)
    (hn' : s'.find? k = some n') : n'.fstate.role? = n.fstate.role? := by
  have hrel := h.find? k
  rw [hn, hn'] at hrel
  exact hrel.2.2.1.2

end StepupModel.K.Discipline
