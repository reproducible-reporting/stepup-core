import StepupModel.Lemmas.BuildDispatch
import StepupModel.Lemmas.BuildFlight
/-!
# One build phase (`B/Build.lean`): concrete runs, checked by the kernel

Non-vacuity of the theorems of `Lemmas/Build*.lean`: small runs in which a job is started, finishes and is
retired (`decide +kernel`; the database states are written out because `define_step` goes through string
functions that do not reduce).

`s10`, `s11`, `lastEv` (for `Props.C10.composed_no_lost_wakeup_negation`): "a parked loop with a free slot has no
eligible step" is FALSE without the proviso of `no_lost_wakeup`.  A *promoted* hash job (`amend` of a running
step, `Builder.run_promoted_hash_jobs`) confirms a static file while the loop is parked; the step waiting
for that file becomes eligible and nothing sets `wake_job_loop`.  Replayed on the real
`Builder`/`HashQueue`/`Scheduler`/`Workflow`/`DirectorHandler`: `harness/witness/build_promoted_hash_wakeup.py`.

The second part (`Recreate`) is a RUNNING step that is created again (C12, known finding).
-/
namespace StepupModel.B.Build.Witness
open StepupModel.K StepupModel.K.Resources StepupModel.B StepupModel.B.Build StepupModel.B.JobLoop

def kA : Key := stepKey "A"
def kB : Key := stepKey "B"
def kC : Key := stepKey "C"
def fF : Key := fileKey "f"

/-- One step `A`, ready to run. -/
def k1 : KState :=
  { nodes := [ { key := rootKey, creator := some rootKey },
               { key := kA, creator := some rootKey, safe := true, safeNH := true, ready := true, checkReady := false } ] }

/-- `A` and `C` ready to run; `B`, created by `A`, waits for the static file `f`, which is UNCONFIRMED. -/
def k0 : KState :=
  { nodes := [ { key := rootKey, creator := some rootKey },
               { key := kA, creator := some rootKey, safe := true, safeNH := true, ready := true, checkReady := false },
               { key := kC, creator := some rootKey, safe := true, safeNH := true, ready := true, checkReady := false },
               { key := fF, creator := some kA, fstate := .unconfirmed },
               { key := kB, creator := some kA, checkSafe := true } ],
    deps := [ { src := fF, snk := kB } ] }

set_option maxRecDepth 100000

/-- A whole phase with one job. -/
def phase1 : List Build.Ev :=
  [.start, .pass (some kA), .pass none, .finish 1 [.completed kA (some 5) false], .pass none]

theorem phase1_legal : ∀ e ∈ phase1, e.legal := by decide

/-- Non-vacuity of `run_jobLimit`, `run_ids`, `Props.C12.scheduler_jobs_are_tasks_in_flight`, `run_kernelLink`:
a job in flight. -/
example :
    (run k1 {} 1 (phase1.take 2)).jl.running = [.step 1] ∧
    (run k1 {} 1 (phase1.take 2)).jobs = [(1, kA, false)] ∧
    ((run k1 {} 1 (phase1.take 2)).k.nodes.filter fun n => runs n).map (·.key) = [kA] ∧
    (∀ n ∈ k1.nodes, runs n = false) := by decide +kernel

example :
    (run k1 {} 1 phase1).jl.status = .returned ∧ (run k1 {} 1 phase1).jl.retired = [1] ∧
    (run k1 {} 1 phase1).jobs = [] ∧ (run k1 {} 1 phase1).assigned = [(1, kA, false)] ∧
    ((run k1 {} 1 phase1).k.nodes.filter fun n => n.sstate = .succeeded).map (·.key) = [kA] := by decide +kernel

/-- Non-vacuity of `start_is_dispatch`. -/
example : (run k1 {} 1 ([.start] ++ [.pass (some kA)])).jl.started = (run k1 {} 1 [.start]).jl.started ++ [.step 1] := by
  decide +kernel

/-- Non-vacuity of `return_is_quiescent`. -/
example : (run k1 {} 1 (phase1.take 4)).jl.status ≠ .returned ∧
    (run k1 {} 1 (phase1.take 4 ++ [.pass none])).jl.status = .returned ∧
    (run k1 {} 1 (phase1.take 4)).draining = false := by decide +kernel

/-- The phase cannot end one pass earlier: with `A` eligible `pass none` is not enabled (the kernel does not
answer "nothing") and leaves the state unchanged. -/
example : (run k1 {} 1 [.start, .pass none]).jl.status = .waiting ∧ (run k1 {} 1 [.start, .pass none]).jl.polls = 0 := by
  decide +kernel

/-- Two slots, one job: the loop parks with a free slot; the last two events neither wake it nor touch the
database. -/
def parked1 : List Build.Ev := [.start, .pass (some kA), .pass none, .start, .hashFin 9 none]

theorem parked1_proviso : ProvisoAlong (init k1 {} 2) parked1 := by
  refine provisoAlong_of_nonBenignOK parked1 _ (fun h => nomatch h) ?_
  simp only [parked1, NonBenignOK]
  exact ⟨fun _ => .inl trivial, fun _ => .inl trivial, fun _ => .inl trivial, fun _ => .inl trivial,
    fun _ => .inl (.inr rfl), trivial⟩

/-- Non-vacuity of `no_lost_wakeup` and `run_parkedBusy`. -/
example : (run k1 {} 2 parked1).parked = true ∧ (run k1 {} 2 parked1).jl.running.length < 2 ∧
    (run k1 {} 2 parked1).draining = false ∧ (run k1 {} 2 parked1).jl.running = [.step 1] := by decide +kernel

example : NoEligible (run k1 {} 2 parked1).k {} :=
  have h : (run k1 {} 2 parked1).parked = true ∧ (run k1 {} 2 parked1).jl.running.length < 2 ∧
      (run k1 {} 2 parked1).draining = false := by decide +kernel
  (no_lost_wakeup k1 {} 2 parked1 parked1_proviso h.1).2 h.2.1 h.2.2

/-! ## The proviso is needed: a promoted hash job -/

/-- Two slots.  The hash job of `f` is queued while `A` and `C` hold both slots; the promoted runner of the
`amend` of `A` claims it and confirms `f` only after `C` has ended and the loop has parked with a free slot. -/
def delayed : List Build.Ev :=
  [.start, .pass (some kA), .pass (some kC), .pass none, .submit 0, .pass none, .promote 0,
   .finish 2 [.completed kC (some 9) false], .pass none, .pass none,
   .hashFin 1 (some (.hashes [("f", some 7)] .confirmed))]

/-- The last event of `delayed`. -/
def lastEv : Build.Ev := .hashFin 1 (some (.hashes [("f", some 7)] .confirmed))

def s10 : Sys := run k0 {} 2 (delayed.take 10)
def s11 : Sys := run k0 {} 2 delayed

theorem s10_eq : s10 = run k0 {} 2 (delayed.take 10) := rfl
theorem s11_reachable : s11 = run k0 {} 2 delayed := rfl

theorem s11_eq : s11 = step s10 lastEv := by
  rw [s11_reachable, s10_eq, ← run_snoc]; rfl

attribute [irreducible] s10 s11

theorem delayed_legal : ∀ e ∈ delayed, e.legal := by decide

/-- What does hold in `s11` (instances of `run_parkedBusy`, `end_of_running_job_unparks`): a task is
running, and its end takes the loop out of `wait()`; the next pass dispatches `B`. -/
example : (step s11 (.finish 1 [.completed kA (some 3) false])).parked = false ∧
    (step (step s11 (.finish 1 [.completed kA (some 3) false])) (.pass (some kB))).jl.running =
      [.step 3] := by decide +kernel

def p3 : Sys := step (step (step (init k1 {} 1) .start) (.pass (some kA))) (.pass none)

attribute [irreducible] p3

/-- Non-vacuity of `run_inFlightLink`: the final transaction of `phase1` is `mark_completed` of the step of
the job, and it is accepted. -/
theorem phase1_finishOK : FinishOKAlong (init k1 {} 1) phase1 := by
  simp only [phase1, FinishOKAlong, FinishOK, and_true, true_and]
  rw [← p3]
  have ⟨hs, ha⟩ : (txn p3.k p3.cfg ([] ++ [.completed kA (some 5) false])).isSome = true ∧
      p3.assigned = [(1, kA, false)] := by decide +kernel
  obtain ⟨k', hk'⟩ := Option.isSome_iff_exists.1 hs
  exact finishOK_of_settling p3 1 [] _ k' hk' (fun a hmem _ => by
    rw [ha] at hmem
    simp only [List.mem_cons, List.mem_nil_iff, or_false] at hmem
    subst hmem; rfl)

example : InFlightLink (run k1 {} 1 phase1) :=
  run_inFlightLink k1 {} 1 phase1 (by decide +kernel) phase1_legal phase1_finishOK

end StepupModel.B.Build.Witness

/-!
## A RUNNING step that is created again (C12, known finding)

`run_inFlightLink` says: every step whose row is RUNNING is the step of a RUN job whose task is in
`running_tasks`.  The converse ("the row of a RUN job in flight is RUNNING") and "at most one job in flight
per step" are FALSE, in the model as in the implementation (known finding C12
`resource-limit-exceeded:running-step-recreated`, replayed on the real CLI by
`harness/repro/c12_running_step_recreated.py` and on the simulated director by `harness/props/c12.py`
`recreated_running_case`).

The scenario.  Step `X` (the one unit of `token`) is RUNNING, job 2 is in flight.  Its creator, the planning
script `S`, is executed again (job 3): `reset_for_rerun` on `S` detaches `X`, which stays RUNNING (state `r0`).
`S` then declares `X` with a DIFFERENT input list (`e1`): `Step.can_recycle` is false, `define_step` falls
through to `Trellis.create`, which reuses the detached node, and `Step.initialize_row` inserts a fresh PENDING
row although the command of job 2 is still running.  The next pass of the job loop (`e2`) hands out `X` again
(job 4); while `X` was PENDING the unit of `token` held by the command of job 2 was not counted (the resource
accounting sums over RUNNING rows).

The database states are written out (`define_step` goes through string functions that the kernel cannot
evaluate); `kr0` is the state the compiled model reaches from `KState.init` with the requests
`define root ./sub.py (plan)`, `pop S`, `static S [a, late]`, `hashes a late CONFIRMED`, `define S X(inp a)`,
`completed S`, `pop X`, `deleteHash S`, `markPending S`, `pop S`, `resetRerun S`, `static S [a, late]`,
`hashes a late CONFIRMED` (evaluated with `#eval`).  Everything from `r0` on is checked by the kernel, with one
hypothesis for the one string computation of `define_step` that does not reduce:
`Step.adjust_label("X", ".") = "X"`.
-/
namespace StepupModel.B.Build.Recreate
open StepupModel.K StepupModel.K.Resources StepupModel.B StepupModel.B.Build StepupModel.B.JobLoop

def S : Key := stepKey "./sub.py"
def X : Key := stepKey "X"
def fA : Key := fileKey "a"
def fLate : Key := fileKey "late"

def cfgT : KConfig := { available := [("token", 1)] }

/-- The definition of `X` in the second execution of `S`: the extra input `late`. -/
def declX' : StepDecl := { cmd := "X", inp := ["a", "late"], resources := [("token", 1)] }

/-- The database after `reset_for_rerun(S)` in job 3 and the static declarations of `S`. -/
def kr0 : KState :=
  { nodes := [
      { key := rootKey, creator := some rootKey },
      { key := S, creator := some rootKey, sstate := .running, need := .plan, safe := true, checkSafe := true,
        safeNH := true, impliedNeed := .plan, ready := true, checkReady := false },
      { key := fA, creator := some S, fstate := .confirmed, fhash := some 1 },
      { key := fLate, creator := some S, fstate := .confirmed, fhash := some 2 },
      { key := X, creator := none, detached := true, sstate := .running, checkSafe := true, checkAfter := true,
        ready := true, checkReady := true, resources := [("token", 1)] } ],
    deps := [ { src := fA, snk := X } ] }

/-- The database after `define S X(inp a, late)` (`create`). -/
def kr1 : KState :=
  { nodes := [
      { key := rootKey, creator := some rootKey },
      { key := S, creator := some rootKey, sstate := .running, need := .plan, safe := true, checkSafe := true,
        safeNH := true, impliedNeed := .plan, ready := true, checkReady := false },
      { key := fA, creator := some S, fstate := .confirmed, fhash := some 1 },
      { key := fLate, creator := some S, fstate := .confirmed, fhash := some 2 },
      { key := X, creator := some S, detached := false, sstate := .pending, checkSafe := true, checkAfter := true,
        ready := false, checkReady := true, resources := [("token", 1)] } ],
    deps := [ { src := fA, snk := X }, { src := fLate, snk := X } ] }

def r0 : Sys :=
  { k := kr0, cfg := cfgT,
    jl := { njob := 4, status := .waiting, running := [.step 2, .step 3], started := [.step 1, .step 2, .step 3],
            handled := [.step 1], retired := [1], polls := 4 },
    assigned := [(1, S, false), (2, X, false), (3, S, false)],
    parked := true }

def e1 : Build.Ev := .rpc 3 (.define S declX')
def e2 : Build.Ev := .pass (some X)

def r1 : Sys := { r0 with k := kr1, parked := false }

set_option maxRecDepth 100000

theorem normPaths_a_late : normPaths ["a", "late"] = ["a", "late"] := by
  simp [normPaths, sortStrs, List.mergeSort, dedupSorted]

theorem guard (hl : stepLabel "X" "." = some "X") : kr0.defineGuard cfgT S declX' = .ok X :=
  defineGuard_plain (by decide) (by decide +kernel) rfl rfl rfl rfl hl

theorem cannot_recycle : kr0.canRecycle X declX' = false := by
  -- the input lists have different lengths
  cases h : kr0.canRecycle X declX' with
  | false => rfl
  | true =>
    have h1 : (kr0.initialPaths X).1.length = 1 := by decide +kernel
    obtain ⟨_, -, hinp, -⟩ := (canRecycle_iff _ _ _).1 h
    have h2 := congrArg List.length hinp
    rw [h1, sortStrs, List.length_mergeSort] at h2
    cases h2

theorem new_guard : kr0.newStepGuard X declX' = .ok () := rfl

theorem create : ∃ chk, kr0.createStep cfgT X S declX' = .ok (kr1, chk) := ⟨_, rfl⟩

theorem normDecl_declX' : normDecl declX' = declX' := by simp [normDecl, declX', normPaths_a_late, normPaths_nil]

def xRow : Node :=
  { key := X, creator := none, detached := true, sstate := .running, checkSafe := true, checkAfter := true,
    ready := true, checkReady := true, resources := [("token", 1)] }

theorem find_X : kr0.find? X = some xRow := rfl

theorem define_recreates (hl : stepLabel "X" "." = some "X") :
    ∃ o, kr0.exec cfgT (.define S declX') = .ok (kr1, o) := by
  obtain ⟨chk, hc⟩ := create
  have hf := find_X
  have hnd := normDecl_declX'
  unfold normDecl at hnd
  refine ⟨StepupModel.Proto.hexList chk, ?_⟩
  simp only [KState.exec]
  unfold KState.defineStep
  simp only [hnd, bind, Except.bind, guard hl, hf, cannot_recycle, new_guard, hc, Bool.false_eq_true, and_false,
    if_false, pure, Except.pure]

theorem step_e1 (hl : stepLabel "X" "." = some "X") : step r0 e1 = r1 := by
  obtain ⟨o, ho⟩ := define_recreates hl
  show unpark (applyEv r0 (.rpc 3 (.define S declX'))) = r1
  rw [applyEv_rpc_ok (by decide) (ho : r0.k.exec r0.cfg (.define S declX') = .ok (kr1, o))]
  rfl

theorem r0_kernelLink : KernelLink r0 := by unfold KernelLink RunsIn Sys.runKeys; decide +kernel

theorem r0_inFlightLink : InFlightLink r0 := by unfold InFlightLink RunsIn Sys.flightKeys; decide +kernel

theorem r0_flightRows : FlightRows r0 := by unfold FlightRows; decide +kernel

theorem r0_oneJobPerStep : OneJobPerStep r0 := by unfold OneJobPerStep; decide +kernel

theorem e1_legal : e1.legal := trivial
theorem e2_legal : e2.legal := trivial

theorem r1_facts :
    r1.jl.running = [.step 2, .step 3] ∧ r1.jobs = [(2, X, false), (3, S, false)] ∧
    (r1.k.find? X).map (·.sstate) = some .pending ∧ (r1.k.nodes.filter fun n => runs n).map (·.key) = [S] ∧
    used r1.k "token" = 0 ∧
    (step r1 e2).jl.running = [.step 2, .step 3, .step 4] ∧
    (step r1 e2).jobs = [(2, X, false), (3, S, false), (4, X, false)] ∧
    (step r1 e2).jl.running.length ≤ (step r1 e2).jl.njob ∧
    ((step r1 e2).k.nodes.filter fun n => runs n).map (·.key) = [S, X] ∧
    used (step r1 e2).k "token" = 1 := by decide +kernel

/-- **C12, known finding `running-step-recreated`, on the composed model** (kernel-checked; `hl`: the one string
computation of `define_step` that the kernel cannot evaluate, `Step.adjust_label("X", ".") = "X"`).
`r0` satisfies the link invariants in both directions; two legal, accepted events later `FlightRows` and then
`OneJobPerStep` are false, and the RUNNING rows account for 0, then 1 unit of `token` while 1, then 2 commands
that require it run.  `InFlightLink` (RUNNING row => job in flight) and the job limit are not contradicted:
they hold in all three states. -/
theorem two_jobs_of_one_step (hl : stepLabel "X" "." = some "X") :
    (KernelLink r0 ∧ InFlightLink r0 ∧ FlightRows r0 ∧ OneJobPerStep r0) ∧
    (r0.k.find? X = some xRow ∧ xRow.sstate = .running ∧ xRow.detached = true ∧
      r0.jobs = [(2, X, false), (3, S, false)] ∧ r0.jl.running = [.step 2, .step 3]) ∧
    (e1.legal ∧ e2.legal ∧ FinishOK r0 e1 ∧ FinishOK (step r0 e1) e2) ∧
    -- after `define`: a RUN job in flight whose row is not RUNNING
    ((step r0 e1).jobs = [(2, X, false), (3, S, false)] ∧ (step r0 e1).jl.running = [.step 2, .step 3] ∧
      ((step r0 e1).k.find? X).map (·.sstate) = some .pending ∧ used (step r0 e1).k "token" = 0 ∧
      InFlightLink (step r0 e1) ∧ ¬ FlightRows (step r0 e1)) ∧
    -- after the next pass: two jobs of one step in flight
    ((step (step r0 e1) e2).jobs = [(2, X, false), (3, S, false), (4, X, false)] ∧
      (step (step r0 e1) e2).jl.running = [.step 2, .step 3, .step 4] ∧
      (step (step r0 e1) e2).jl.running.length ≤ (step (step r0 e1) e2).jl.njob ∧
      used (step (step r0 e1) e2).k "token" = 1 ∧
      InFlightLink (step (step r0 e1) e2) ∧ ¬ OneJobPerStep (step (step r0 e1) e2)) := by
  have h1 := step_e1 hl
  obtain ⟨f1, f2, f3, f4, f5, f6, f7, f8, -, f10⟩ := r1_facts
  have l1 : InFlightLink (step r0 e1) := step_inFlight r0 e1 e1_legal trivial r0_inFlightLink
  have l2 : InFlightLink (step (step r0 e1) e2) := step_inFlight _ e2 e2_legal trivial l1
  rw [h1] at l1 l2 ⊢
  refine ⟨⟨r0_kernelLink, r0_inFlightLink, r0_flightRows, r0_oneJobPerStep⟩,
    ⟨find_X, rfl, rfl, by decide +kernel, rfl⟩, ⟨e1_legal, e2_legal, trivial, trivial⟩,
    ⟨f2, f1, f3, f5, l1, ?_⟩, ⟨f7, f6, f8, f10, l2, ?_⟩⟩
  · intro h
    obtain ⟨n, hn, hk, hr⟩ := h (2, X, false) (by rw [f2]; exact List.mem_cons_self) rfl (by rw [f1]; exact List.mem_cons_self)
    have hmem : n.key ∈ (r1.k.nodes.filter fun n => runs n).map (·.key) :=
      List.mem_map.2 ⟨n, List.mem_filter.2 ⟨hn, hr⟩, rfl⟩
    rw [f4, hk] at hmem
    revert hmem; decide
  · intro h
    have := h (2, X, false) (by rw [f7]; decide) (4, X, false) (by rw [f7]; decide) (by rw [f6]; decide)
      (by rw [f6]; decide) rfl
    revert this; decide

/-! ## The contrast: the same request with the same input list recycles, and `X` stays RUNNING -/

/-- The definition of `X` in the first execution of `S`. -/
def declX : StepDecl := { cmd := "X", inp := ["a"], resources := [("token", 1)] }

def e1same : Build.Ev := .rpc 3 (.define S declX)

/-- The database after `define S X(inp a)` on `kr0` (`recycle_same`). -/
def kr1s : KState :=
  { nodes := [
      { key := rootKey, creator := some rootKey },
      { key := S, creator := some rootKey, sstate := .running, need := .plan, safe := true, checkSafe := true,
        safeNH := true, impliedNeed := .plan, ready := true, checkReady := false },
      { key := fA, creator := some S, fstate := .confirmed, fhash := some 1 },
      { key := fLate, creator := some S, fstate := .confirmed, fhash := some 2 },
      { key := X, creator := some S, detached := false, sstate := .running, checkSafe := true, checkAfter := true,
        ready := true, checkReady := true, resources := [("token", 1)] } ],
    deps := [ { src := fA, snk := X } ] }

def r1s : Sys := { r0 with k := kr1s, parked := false }

theorem normDecl_declX : normDecl declX = declX := by simp [normDecl, declX, normPaths_singleton, normPaths_nil]

theorem guard_same (hl : stepLabel "X" "." = some "X") : kr0.defineGuard cfgT S declX = .ok X :=
  defineGuard_plain (by decide) (by decide +kernel) rfl rfl rfl rfl hl

theorem can_recycle_same : kr0.canRecycle X declX = true := by decide +kernel

theorem recycle_same : kr0.recycleStep X S declX xRow = .ok kr1s := rfl

theorem step_e1same (hl : stepLabel "X" "." = some "X") : step r0 e1same = r1s := by
  have ho : r0.k.exec r0.cfg (.define S declX) =
      .ok (kr1s, StepupModel.Proto.hexList (kr1s.unconfirmedTreeInputs X)) := by
    show kr0.exec cfgT (.define S declX) = _
    rw [exec_define_recycle normDecl_declX (guard_same hl) find_X rfl can_recycle_same, recycle_same]
    rfl
  show unpark (applyEv r0 (.rpc 3 (.define S declX))) = r1s
  rw [applyEv_rpc_ok (by decide) ho]
  rfl

def RecreatesInFlight (s : Sys) (c : Key) (d : StepDecl) : Prop :=
  ∃ sk, s.k.defineGuard s.cfg c (normDecl d) = .ok sk ∧ (∃ a ∈ s.jobs, a.2.1 = sk ∧ Job.step a.1 ∈ s.jl.running) ∧
    ¬ ((s.k.find? sk).any (·.detached) = true ∧ s.k.canRecycle sk (normDecl d) = true)

/-- **The discriminating condition in this scenario is `Step.can_recycle`.**  On the same state the request with
the unchanged input list recycles the row (`try_recycle`): `X` stays RUNNING and the link holds in both
directions after it. -/
theorem recycle_keeps_running (hl : stepLabel "X" "." = some "X") :
    RecreatesInFlight r0 S declX' ∧ ¬ RecreatesInFlight r0 S declX ∧
    (step r0 e1same).jobs = [(2, X, false), (3, S, false)] ∧ (step r0 e1same).jl.running = [.step 2, .step 3] ∧
    ((step r0 e1same).k.find? X).map (·.sstate) = some .running ∧
    InFlightLink (step r0 e1same) ∧ FlightRows (step r0 e1same) ∧ OneJobPerStep (step r0 e1same) := by
  have hg' : r0.k.defineGuard r0.cfg S (normDecl declX') = .ok X := by rw [normDecl_declX']; exact guard hl
  have hg : r0.k.defineGuard r0.cfg S (normDecl declX) = .ok X := by rw [normDecl_declX]; exact guard_same hl
  refine ⟨⟨X, hg', ⟨(2, X, false), by decide +kernel, rfl, by decide⟩, ?_⟩, ?_, ?_⟩
  · rintro ⟨-, h⟩
    rw [normDecl_declX'] at h
    exact absurd (show kr0.canRecycle X declX' = true from h) (by rw [cannot_recycle]; decide)
  · rintro ⟨sk, hsk, -, hn⟩
    rw [hg] at hsk
    cases hsk
    refine hn ⟨by decide +kernel, ?_⟩
    rw [normDecl_declX]; exact can_recycle_same
  · rw [step_e1same hl]
    have h1 : r1s.jobs = [(2, X, false), (3, S, false)] ∧ (r1s.k.find? X).map (·.sstate) = some .running := by
      decide +kernel
    have h3 : InFlightLink r1s := by unfold InFlightLink RunsIn Sys.flightKeys; decide +kernel
    have h4 : FlightRows r1s := by unfold FlightRows; decide +kernel
    have h5 : OneJobPerStep r1s := by unfold OneJobPerStep; decide +kernel
    exact ⟨h1.1, rfl, h1.2, h3, h4, h5⟩

end StepupModel.B.Build.Recreate
