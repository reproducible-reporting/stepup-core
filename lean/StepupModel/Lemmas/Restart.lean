import StepupModel.Lemmas.KProp
import StepupModel.Lemmas.Do
import StepupModel.Lemmas.KInv
import StepupModel.Lemmas.KView
import StepupModel.Lemmas.OpCases
/-!
# Lemmas for `Props/C05.lean` (restart after a kill)

`reset_interrupted_steps`, read off the observations (`ResetSpec`): two raw updates of the step state, after which no
step is RUNNING or CHECKING, then the marking of the FAILED steps, which creates no BUILT file behind a PENDING step
(`PendingBuilt`).  `ResetSpec` covers the step states, the file states and the edges only; that every written row has
`_holding = 0` is `writeStepState_self_holding` / `foldlM_writeStepState_holding`, proved beside it.  The failure branch
of `mark_completed` writes no file state after its first stage, so a kill right after that transaction finds no product
of the step BUILT; `completeFailure_sstate` also serves `Props/C03.lean`.
-/
namespace StepupModel.K

def KState.detachedOf (s : KState) (q : Key) : Option Bool := (s.find? q).map (·.detached)

def KState.holdingOf (s : KState) (q : Key) : Option Nat := (s.find? q).map (·.holding)

/-- `creator` of the row with key `q` (`none`: no row; `some none`: NULL creator). -/
def KState.creatorOf (s : KState) (q : Key) : Option (Option Key) := (s.find? q).map (·.creator)

theorem writeStepState_holding_zero (s s' : KState) (k : Key) (st : StepState) (d : Option Bool)
    (h : s.writeStepState k st d = .ok s') (q : Key)
    (h0 : ∀ n, s.find? q = some n → n.holding = 0) : ∀ n, s'.find? q = some n → n.holding = 0 := by
  intro n' hn'
  rw [writeStepState_find? h q] at hn'
  split at hn'
  · obtain ⟨n, hn, rfl⟩ := Option.map_eq_some_iff.1 hn'
    exact ite_ind (· = 0) (fun _ => rfl) fun _ => h0 n (‹q = k› ▸ hn)
  · exact h0 n' hn'

/-- The trigger `step_reset_holding` of `step.py`. -/
theorem writeStepState_self_holding (s s' : KState) (k : Key) (st : StepState) (d : Option Bool)
    (hst : st ≠ .running) (h : s.writeStepState k st d = .ok s') :
    ∀ n, s'.find? k = some n → n.holding = 0 := by
  intro n' hn'
  rw [writeStepState_find? h k, if_pos rfl] at hn'
  obtain ⟨n, _, rfl⟩ := Option.map_eq_some_iff.1 hn'
  exact if_pos hst

theorem propInv_creatorOf (q : Key) (v : Option (Option Key)) : PropInv (fun s => s.creatorOf q = v) :=
  PropInv.of_look (·.creator) (fun _ _ _ _ => rfl) (fun _ _ _ _ _ _ => rfl) q (· = v)

theorem propInv_holdingZero (q : Key) : PropInv (fun s => ∀ n, s.find? q = some n → n.holding = 0) where
  file := fun s s' f hs _ _ h n' hn' => by
    have e : (s'.find? q).map _ = (s.find? q).map _ := look_writeFile (·.holding) (fun _ _ _ _ => rfl) h q
    rw [hn'] at e
    obtain ⟨n, hn, e⟩ := Option.map_eq_some_iff.mp e.symm
    exact e.symm.trans (hs n hn)
  step := fun s s' t _ hs _ _ _ h => writeStepState_holding_zero s s' t _ _ h q hs

theorem foldlM_writeStepState (x : StepState) (l : List Node) :
    ∀ (s s' : KState), l.foldlM (fun st n => st.writeStepState n.key x none) s = .ok s' →
      (∀ q, s'.sstateOf q = if q ∈ l.map (·.key) then (s.sstateOf q).map (fun _ => x) else s.sstateOf q) ∧
      (∀ q, s'.fstateOf q = s.fstateOf q) ∧ s'.deps = s.deps := by
  induction l with
  | nil => intro s s' h; cases h; exact ⟨fun _ => rfl, fun _ => rfl, rfl⟩
  | cons a as ih =>
    intro s s' h
    rw [List.foldlM_cons] at h
    obtain ⟨s1, hw, h⟩ := bind_ok_inv h
    obtain ⟨hs1, hf1, hd1⟩ := writeStepState_effect s s1 a.key x none hw
    obtain ⟨hs2, hf2, hd2⟩ := ih s1 s' h
    refine ⟨fun q => ?_, fun q => (hf2 q).trans (hf1 q), hd2.trans hd1⟩
    rw [hs2 q, hs1 q]
    by_cases hqa : q = a.key
    · rw [hqa, if_pos rfl, if_pos (show a.key ∈ (a :: as).map (·.key) from List.mem_cons_self ..)]
      split
      · cases s.sstateOf a.key <;> rfl
      · rfl
    · simp only [List.map_cons, List.mem_cons, hqa, if_false, false_or]

theorem foldlM_writeStepState_holding (x : StepState) (hx : x ≠ .running) (l : List Node) (q : Key) (s s' : KState)
    (h : l.foldlM (fun st n => st.writeStepState n.key x none) s = .ok s')
    (hq : q ∈ l.map (·.key) ∨ ∀ n, s.find? q = some n → n.holding = 0) : ∀ n, s'.find? q = some n → n.holding = 0 :=
  foldlM_est_or_keep (·.key) (fun q b => ∀ n, b.find? q = some n → n.holding = 0) _ l
    (fun b a b' _ hw => writeStepState_self_holding b b' a.key x none hx hw)
    (fun q b a b' _ hp hw => writeStepState_holding_zero b b' a.key x none hw q hp) s s' h q hq

def PendingBuilt (s : KState) (d : Dep) : Prop :=
  d ∈ s.deps ∧ d.snk.kind = .file ∧ s.fstateOf d.snk = some .built ∧ s.sstateOf d.src = some .pending

theorem Marked.pendingBuilt {s s' : KState} (h : Marked s s') (d : Dep) (hd : PendingBuilt s' d) : PendingBuilt s d :=
  have ⟨hm, hb, hs⟩ := h.builtBehind hd.1 hd.2.1 hd.2.2.1
  ⟨hm, hd.2.1, hb, hs ▸ hd.2.2.2⟩

theorem mem_or_notBuilt {s : KState} {q : Key} {n : Node} {l : List Node} (hf : s.find? q = some n)
    (hmem : n.fstate = .built → n ∈ l) : q ∈ l.map (·.key) ∨ s.fstateOf q ≠ some .built := by
  by_cases hb : n.fstate = .built
  · exact .inl (find_key hf ▸ List.mem_map_of_mem (hmem hb))
  · exact .inr fun e => hb (Option.some.inj ((fstateOf_of_find hf).symm.trans e))

theorem setFileState_outdated_notBuilt {s s' : KState} {f : Key} (h : s.setFileState f .outdated = .ok s') (q : Key)
    (hq : q = f ∨ s.fstateOf q ≠ some .built) : s'.fstateOf q ≠ some .built := by
  rw [(writeFile_effect s s' f _ _ h).1 q]
  split
  · cases s.fstateOf f <;> exact nofun
  · exact hq.resolve_left ‹_›

theorem markFileOutdated_inv {Q : KState → Prop} (hQ : PropInv Q) (s s' : KState) (f : Key) (hk : f.kind = .file)
    (hs : Q s) (h : s.markFileOutdated f = .ok s') : Q s' :=
  markFileOutdated_of hQ (fun s1 hb hw => hQ.file s s1 f hs hb hk hw) hs h

theorem proj_foldlM_detach {γ : Type} (π : Node → γ) (hπ : Keeps (fun n => (n.key, π n)) Node.noLink) (l : List Node)
    (s s' : KState) (q : Key) (h : l.foldlM (fun st p => st.detach p.key) s = .ok s') :
    (s'.find? q).map π = (s.find? q).map π :=
  foldlM_keeps (fun b => (b.find? q).map π = (s.find? q).map π) _ l
    (fun _ _ _ _ hb hr => ((sameView_detach hπ hr).look (.of_factor (·.1) fun _ => rfl) (.of_factor (·.2) fun _ => rfl) q).trans hb) s s' rfl h

theorem completeFailure_sstate {s s' : KState} {cfg : KConfig} {k : Key} {wd : Bool}
    (h : s.completeFailure cfg k wd = .ok s') :
    ∀ st, s'.sstateOf k = some st → st = .pending ∨ st = .failed := by
  obtain ⟨s1, s2, s3, st, d, _, hst, h2, h3, rfl⟩ := completeFailure_ok h
  have e3 : s3.sstateOf k = s2.sstateOf k := by
    rcases h3 with rfl | h3
    · rfl
    · exact proj_foldlM_detach (·.sstate) (fun _ => rfl) _ s2 s3 k h3
  intro x hx
  rw [sstateOf_deleteHash, e3, (writeStepState_effect _ s2 k _ _ h2).1 k, if_pos rfl] at hx
  obtain ⟨_, _, rfl⟩ := Option.map_eq_some_iff.mp hx
  exact hst

theorem completeFailure_fstate {s s' : KState} {cfg : KConfig} {k : Key} {wd : Bool}
    (h : s.completeFailure cfg k wd = .ok s') :
    ∃ s1, s.outdateBuiltProducts k = .ok s1 ∧ ∀ q, s'.fstateOf q = s1.fstateOf q := by
  obtain ⟨s1, s2, s3, st, d, h1, _, h2, h3, rfl⟩ := completeFailure_ok h
  refine ⟨s1, h1, fun q => ?_⟩
  have hb : (s1.bumpDeferCount k wd).fstateOf q = s1.fstateOf q :=
    bumpDeferCount_ind (C := fun t => t.fstateOf q = s1.fstateOf q) s1 k wd rfl
      (fstateOf_modify s1 k q _ (fun _ => rfl) (fun _ => rfl))
  have e3 : s3.fstateOf q = s2.fstateOf q := by
    rcases h3 with rfl | h3
    · rfl
    · exact proj_foldlM_detach (·.fstate) (fun _ => rfl) _ s2 s3 q h3
  rw [fstateOf_deleteHash, e3, (writeStepState_effect _ s2 k _ _ h2).2.1 q, hb]

/-- What `reset_interrupted_steps` does, read off the observations: the two raw updates lead to `s2`, the marking of
the FAILED steps of `s2` to `s'`. -/
structure ResetSpec (s s2 s' : KState) : Prop where
  sstate : ∀ q, s2.sstateOf q =
    if q ∈ (s.stepRows .checking).map (·.key) then (s.sstateOf q).map fun _ => .pending
    else if q ∈ (s.stepRows .running).map (·.key) then (s.sstateOf q).map fun _ => .failed
    else s.sstateOf q
  fstate : ∀ q, s2.fstateOf q = s.fstateOf q
  deps : s2.deps = s.deps
  marked : Marked s2 s'
  failed : ∀ q, q.kind = .step → s2.sstateOf q = some .failed → NotDone s' q

theorem resetInterrupted_spec {s s' : KState} (h : s.resetInterrupted = .ok s') : ∃ s2, ResetSpec s s2 s' := by
  obtain ⟨s1, s2, h1, h2, h3⟩ := resetInterrupted_ok h
  obtain ⟨g1, f1, d1⟩ := foldlM_writeStepState .failed (s.stepRows .running) s s1 h1
  obtain ⟨g2, f2, d2⟩ := foldlM_writeStepState .pending (s.stepRows .checking) s1 s2 h2
  obtain ⟨hm, hnd⟩ := markedList Node.key _ s2 s' h3
  refine ⟨s2, fun q => ?_, fun q => (f2 q).trans (f1 q), d2.trans d1, hm, fun q hq hf => ?_⟩
  · rw [g2 q, g1 q]
    split
    · split <;> cases s.sstateOf q <;> rfl
    · rfl
  · obtain ⟨n, hf, hx⟩ := Option.map_eq_some_iff.mp hf
    exact find_key hf ▸ hnd n (mem_stepRows hf hq hx)

theorem ResetSpec.idle {s s2 s' : KState} (r : ResetSpec s s2 s') {q : Key} (hq : q.kind = .step) :
    s2.sstateOf q ≠ some .running ∧ s2.sstateOf q ≠ some .checking := by
  have written : ∀ (o : Option StepState) (x : StepState), x ≠ .running → x ≠ .checking →
      o.map (fun _ => x) ≠ some .running ∧ o.map (fun _ => x) ≠ some .checking := fun o x hr hc => by
    cases o with
    | none => exact ⟨nofun, nofun⟩
    | some _ => exact ⟨fun e => hr (Option.some.inj e), fun e => hc (Option.some.inj e)⟩
  rw [r.sstate q]
  refine ite_ind (fun o : Option StepState => o ≠ some .running ∧ o ≠ some .checking)
    (fun _ => written _ .pending nofun nofun) fun hc => ?_
  exact ite_ind (fun o : Option StepState => o ≠ some .running ∧ o ≠ some .checking)
    (fun _ => written _ .failed nofun nofun) fun hr =>
      ⟨fun e => hr (key_mem_stepRows hq e), fun e => hc (key_mem_stepRows hq e)⟩

end StepupModel.K
