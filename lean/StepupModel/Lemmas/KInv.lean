import StepupModel.K.Trellis
import StepupModel.Lemmas.Cond
import StepupModel.Lemmas.Do
import StepupModel.Lemmas.K
/-!
# What a successful primitive write or `Node.detach` did

One statement per operation of `K/Prim.lean` and for `Node.detach` of `K/Trellis.lean` that can
fail: from `op s = .ok s'` to the guards that passed and the state that was built, so that proofs
about these operations start from the result instead of unfolding the definition.  For the primitives that
cannot fail but branch (`setDetachedRow`, `setDetachedRec`, `deleteDeps`, `markDirToBeDeleted`): a rule with an
arbitrary motive, "what the pieces keep, the primitive keeps".

After them: what a lookup finds after the two state writes (`look_writeFile`, `writeFile_effect`, `look_writeStepState`,
`writeStepState_effect`), and `RoleKept`, a file write within the role (static, output, volatile) of the file.
-/
namespace StepupModel.K

/-- `UPDATE file SET state = ?[, hash = ?]` on one row, with its two CHECKs and the trigger `file_clear_hash`. -/
theorem fileRowWrite_ok_iff {n n' : Node} {st : FileState} {nh : Option (Option Nat)} :
    fileRowWrite n st nh = .ok n' ↔
      ¬ ((st = .confirmed ∨ st = .built ∨ st = .outdated) ∧ (pickHash nh n.fhash).isNone = true) ∧
      ¬ (st = .undeclared ∧ (!n.detached) = true) ∧
      n' = { n with fstate := st, fhash := if clearsHash n.fstate st then none else pickHash nh n.fhash } := by
  unfold fileRowWrite
  dsimp only
  split
  · rename_i h1
    exact ⟨(fun h => nomatch h), fun h => absurd h1 h.1⟩
  · rename_i h1
    split
    · rename_i h2
      exact ⟨(fun h => nomatch h), fun h => absurd h2 h.2.1⟩
    · rename_i h2
      simp only [pure, Except.pure, Except.ok.injEq]
      exact ⟨fun h => ⟨h1, h2, h.symm⟩, fun h => h.2.2.symm⟩

theorem fileRowWrite_eq {n n' : Node} {st : FileState} {nh : Option (Option Nat)} (h : fileRowWrite n st nh = .ok n') :
    n' = { n with fstate := st, fhash := if clearsHash n.fstate st then none else pickHash nh n.fhash } :=
  (fileRowWrite_ok_iff.1 h).2.2

theorem fileRowWrite_key (n n' : Node) (st : FileState) (nh : Option (Option Nat))
    (h : fileRowWrite n st nh = .ok n') : n'.key = n.key := by
  rw [fileRowWrite_eq h]

/-- The row that `UPDATE step SET state = ?[, deferred = ?]` leaves: the old one after `step_flag_check_safe`,
`step_reset_holding`, `step_clear_deferred` and `step_reset_defer_count`. -/
abbrev Node.stepSet (n : Node) (st : StepState) (d : Option Bool) : Node :=
  { n with
    sstate := st
    deferred := if st = .succeeded ∨ st = .failed then false else pickDeferred d n.deferred
    checkSafe := true
    holding := if st ≠ .running then 0 else n.holding
    deferCount := if st = .succeeded then 0 else n.deferCount }

/-- `UPDATE step SET state = ?[, deferred = ?]` on one row: the CHECK on `deferred` passed. -/
theorem stepRowWrite_ok_iff {n n' : Node} {st : StepState} {d : Option Bool} :
    stepRowWrite n st d = .ok n' ↔
      ¬ (pickDeferred d n.deferred = true ∧ st ≠ .pending) ∧
      n' = n.stepSet st d := by
  unfold stepRowWrite
  dsimp only
  split
  · rename_i h1
    exact ⟨(fun h => nomatch h), fun h => absurd h1 h.1⟩
  · rename_i h1
    simp only [pure, Except.pure, Except.ok.injEq]
    exact ⟨fun h => ⟨h1, h.symm⟩, fun h => h.2.symm⟩

theorem stepRowWrite_eq {n n' : Node} {st : StepState} {d : Option Bool} (h : stepRowWrite n st d = .ok n') :
    n' = n.stepSet st d :=
  (stepRowWrite_ok_iff.1 h).2

theorem stepRowWrite_key (n n' : Node) (st : StepState) (d : Option Bool)
    (h : stepRowWrite n st d = .ok n') : n'.key = n.key := by
  rw [stepRowWrite_eq h]

theorem writeFile_ok {s s' : KState} {k : Key} {st : FileState} {nh : Option (Option Nat)}
    (h : s.writeFile k st nh = .ok s') :
    (s.find? k = none ∧ s' = s) ∨
      ∃ n n', s.find? k = some n ∧ fileRowWrite n st nh = .ok n' ∧
        s' = if n.fstate ≠ st then (s.modify k fun _ => n').flagReadySinks k else s.modify k fun _ => n' := by
  unfold KState.writeFile at h
  cases hf : s.find? k with
  | none => rw [hf] at h; exact .inl ⟨rfl, (pure_ok_iff.1 h).symm⟩
  | some n =>
    rw [hf] at h
    exact bind_ok_elim h fun n' hw h => .inr ⟨n, n', rfl, hw, (pure_ok_iff.1 h).symm⟩

theorem writeStepState_ok {s s' : KState} {k : Key} {st : StepState} {d : Option Bool}
    (h : s.writeStepState k st d = .ok s') :
    (s.find? k = none ∧ s' = s) ∨
      ∃ n n', s.find? k = some n ∧ stepRowWrite n st d = .ok n' ∧ s' = s.modify k fun _ => n' := by
  unfold KState.writeStepState at h
  cases hf : s.find? k with
  | none => rw [hf] at h; exact .inl ⟨rfl, (pure_ok_iff.1 h).symm⟩
  | some n =>
    rw [hf] at h
    exact bind_ok_elim h fun n' hw h => .inr ⟨n, n', rfl, hw, (pure_ok_iff.1 h).symm⟩

/-- `UPDATE node SET creator = ?, detached = ?`: the creator triggers and CHECKs accepted the row. -/
theorem setCreator_ok {s s' : KState} {k : Key} {c : Option Key} {d : Bool} (h : s.setCreator k c d = .ok s') :
    s.creatorAllowed k c d = true ∧ s' = (s.modify k fun n => { n with creator := c }).setDetachedRow k d := by
  unfold KState.setCreator at h
  obtain ⟨ha, h⟩ | ⟨_, h⟩ := ite_ok h
  · exact ⟨ha, (pure_ok_iff.1 h).symm⟩
  · cases h

theorem creatorAllowed_none {s : KState} {k : Key} {d : Bool} (h : s.creatorAllowed k none d = true) :
    d = true ∧ k.kind ≠ .root := by
  unfold KState.creatorAllowed at h
  by_cases hk : k.kind = .root
  · rw [if_pos hk] at h
    simp at h
  · rw [if_neg hk] at h
    exact ⟨h, hk⟩

theorem creatorAllowed_some {s : KState} {k ck : Key} {d : Bool} (h : s.creatorAllowed k (some ck) d = true) :
    (k.kind = .root ∧ ck = k ∧ d = false) ∨
    (k.kind ≠ .root ∧ ck ≠ k ∧ (∃ cn, s.find? ck = some cn) ∧ creatorKindOk k.kind ck.kind = true) := by
  unfold KState.creatorAllowed at h
  by_cases hk : k.kind = .root
  · rw [if_pos hk] at h
    simp only [Bool.and_eq_true, decide_eq_true_eq, Option.some.injEq, Bool.not_eq_true'] at h
    exact Or.inl ⟨hk, h.1, h.2⟩
  · rw [if_neg hk] at h
    simp only [Bool.and_eq_true, decide_eq_true_eq] at h
    obtain ⟨h1, h2⟩ := h
    cases hf : s.find? ck with
    | none => simp [hf] at h1
    | some cn =>
      simp only [hf] at h1
      rw [find_key hf] at h1
      exact Or.inr ⟨hk, h2, ⟨cn, rfl⟩, h1⟩

/-- `Step._flag_checks_with_products`: the walk over the step subtree ended. -/
theorem flagChecksWithProducts_ok {s s' : KState} {k : Key} (h : s.flagChecksWithProducts k = .ok s') :
    ∃ ks, s.stepSubtree k = some ks ∧
      s' = s.modifyWhere (fun n => ks.contains n.key) fun n => { n with checkSafe := true, checkAfter := true } := by
  unfold KState.flagChecksWithProducts at h
  cases hks : s.stepSubtree k with
  | none => rw [hks] at h; cases h
  | some ks => rw [hks] at h; exact ⟨ks, rfl, (pure_ok_iff.1 h).symm⟩

/-- `RECURSIVE_CHECK_AFTER_SOURCES` -/
theorem flagCheckAfterSources_ok {s s' : KState} {k : Key} (h : s.flagCheckAfterSources k = .ok s') :
    ∃ ks, s.stepSubtree k = some ks ∧
      s' = s.modifyWhere (fun n => n.key.kind = .step ∧ !n.detached ∧
          ((ks.flatMap s.sourcesOf).flatMap s.sourcesOf).contains n.key) fun n => { n with checkAfter := true } := by
  unfold KState.flagCheckAfterSources at h
  cases hks : s.stepSubtree k with
  | none => rw [hks] at h; cases h
  | some ks => rw [hks] at h; exact ⟨ks, rfl, (pure_ok_iff.1 h).symm⟩

/-- `Node.detach` before the flags of `Step.detach`. -/
theorem detachCore_ok {s s1 : KState} {k : Key} {n : Node} (h : s.detachCore k n = .ok s1) :
    (n.creator = none ∧ s1 = s) ∨
      (n.creator.isSome = true ∧ ∃ sc, s.setCreator k none true = .ok sc ∧
        s1 = if (!n.detached) = true then sc.setDetachedRec k true else sc) := by
  unfold KState.detachCore at h
  obtain ⟨hc, h⟩ | ⟨hc, h⟩ := ite_ok h
  · exact bind_ok_elim h fun sc hsc h => .inr ⟨hc, sc, hsc, (pure_ok_iff.1 h).symm⟩
  · refine .inl ⟨?_, (pure_ok_iff.1 h).symm⟩
    cases hcr : n.creator with
    | none => rfl
    | some c => rw [hcr] at hc; exact absurd rfl hc

/-- The flags of `Step.detach`; nothing for a file or a tree. -/
theorem detachFlags_ok {s s' : KState} {k : Key} (h : s.detachFlags k = .ok s') :
    (k.kind ≠ .step ∧ s' = s) ∨
      (k.kind = .step ∧ ∃ s2, s.flagChecksWithProducts k = .ok s2 ∧ s2.flagCheckAfterSources k = .ok s') := by
  unfold KState.detachFlags at h
  obtain ⟨hk, h⟩ | ⟨hk, h⟩ := ite_ok h
  · exact bind_ok_elim h fun s2 h2 h => .inr ⟨hk, s2, h2, h⟩
  · exact .inl ⟨hk, (pure_ok_iff.1 h).symm⟩

/-- `Node.detach` (+ `Step.detach`). -/
theorem detach_ok {s s' : KState} {k : Key} (h : s.detach k = .ok s') :
    ∃ n s1, s.find? k = some n ∧ s.detachCore k n = .ok s1 ∧ s1.detachFlags k = .ok s' := by
  unfold KState.detach at h
  cases hf : s.find? k with
  | none => rw [hf] at h; cases h
  | some n =>
    rw [hf] at h
    exact bind_ok_elim h fun s1 h1 h => ⟨n, s1, rfl, h1, h⟩

theorem detach_of {P : KState → Prop} {k : Key} (hcut : ∀ s s', P s → s.setCreator k none true = .ok s' → P s')
    (hrec : ∀ s, P s → P (s.setDetachedRec k true)) (hfl : ∀ s s', P s → s.detachFlags k = .ok s' → P s')
    (s s' : KState) (hp : P s) (h : s.detach k = .ok s') : P s' := by
  obtain ⟨n, s1, _, h1, h2⟩ := detach_ok h
  refine hfl s1 s' ?_ h2
  obtain ⟨_, rfl⟩ | ⟨_, sc, hc, rfl⟩ := detachCore_ok h1
  · exact hp
  · exact ite_both P (hrec sc (hcut s sc hp hc)) (hcut s sc hp hc)

theorem setDetachedRow_cases (s : KState) (k : Key) (d : Bool) :
    (s.find? k = none ∧ s.setDetachedRow k d = s) ∨
    ∃ n, s.find? k = some n ∧
      ((n.detached = d ∧ s.setDetachedRow k d = s.modify k fun n => { n with detached := d }) ∨
        (n.detached ≠ d ∧
          s.setDetachedRow k d = (s.modify k fun n => { n with detached := d }).flagReadySinks k)) := by
  unfold KState.setDetachedRow
  cases hf : s.find? k with
  | none => exact .inl ⟨rfl, rfl⟩
  | some n =>
    refine .inr ⟨n, rfl, ?_⟩
    by_cases hd : n.detached = d
    · exact .inl ⟨hd, if_neg (not_not_intro hd)⟩
    · exact .inr ⟨hd, if_pos hd⟩

theorem setDetachedRow_ind {C : KState → Prop} (s : KState) (k : Key) (d : Bool) (h : C s)
    (row : C (s.modify k fun n => { n with detached := d }))
    (flag : ∀ t, C t → C (t.flagReadySinks k)) : C (s.setDetachedRow k d) := by
  rcases setDetachedRow_cases s k d with ⟨_, e⟩ | ⟨n, _, ⟨_, e⟩ | ⟨_, e⟩⟩ <;> rw [e]
  · exact h
  · exact row
  · exact flag _ row

theorem setDetachedRec_ind {C : KState → Prop} (s : KState) (k : Key) (d : Bool) (h : C s)
    (row : ∀ t x, x ∈ s.descendants k → C t → C (t.setDetachedRow x d)) : C (s.setDetachedRec k d) :=
  foldl_ind C _ (s.descendants k) row h

theorem deleteDeps_ind {C : KState → Prop} (s : KState) (p : Dep → Bool)
    (filt : C { s with deps := s.deps.filter fun d => !p d })
    (flag : ∀ t a b, C t → C (t.flagDepEndpoints a b)) : C (s.deleteDeps p) :=
  foldl_ind C _ (s.deps.filter p) (fun t d _ ht => flag t d.src d.snk ht) filt

theorem markDir_ind {C : KState → Prop} (s : KState) (dir : String) (h : C s)
    (q : C (s.queueDelete (dir ++ "/") none)) : C (s.markDirToBeDeleted dir) :=
  ite_ind C (fun _ => h) fun _ => q

theorem find?_markDir (s : KState) (d : String) (k : Key) : (s.markDirToBeDeleted d).find? k = s.find? k := by
  unfold KState.markDirToBeDeleted
  split <;> rfl

def KState.shashOf (s : KState) (k : Key) : Option Nat := (s.find? k).bind (·.shash)

theorem look_flagReadySinks {β : Type} (π : Node → β) (hπ : ∀ m, π { m with checkReady := true } = π m)
    (s : KState) (k q : Key) : (s.flagReadySinks k).look π q = s.look π q :=
  look_modifyWhere s _ _ π q (fun _ => rfl) hπ

theorem fstateOf_flagReadySinks (s : KState) (k q : Key) : (s.flagReadySinks k).fstateOf q = s.fstateOf q :=
  look_flagReadySinks (·.fstate) (fun _ => rfl) s k q

theorem deps_flagReadySinks (s : KState) (k : Key) : (s.flagReadySinks k).deps = s.deps := rfl

theorem deps_modify (s : KState) (k : Key) (f : Node → Node) : (s.modify k f).deps = s.deps := rfl

/-- `UPDATE file SET state[, hash]` changes the columns `state`, `hash` and (by trigger) `_check_ready` only. -/
theorem look_writeFile {β : Type} (π : Node → β)
    (hπ : ∀ m fs fh cr, π { m with fstate := fs, fhash := fh, checkReady := cr } = π m)
    {s s' : KState} {k : Key} {st : FileState} {nh : Option (Option Nat)} (h : s.writeFile k st nh = .ok s') (q : Key) :
    s'.look π q = s.look π q := by
  rcases writeFile_ok h with ⟨_, rfl⟩ | ⟨n, n', hf, hw, rfl⟩
  · rfl
  · have hn' := fileRowWrite_eq hw
    have hm := look_modify_const π n' hf (by rw [hn']) (by rw [hn']; exact hπ n _ _ n.checkReady) q
    split
    · exact (look_flagReadySinks π (fun m => hπ m m.fstate m.fhash true) _ k q).trans hm
    · exact hm

theorem writeFile_effect (s s' : KState) (k : Key) (st : FileState) (nh : Option (Option Nat))
    (h : s.writeFile k st nh = .ok s') :
    (∀ q, s'.fstateOf q = if q = k then (s.fstateOf k).map (fun _ => st) else s.fstateOf q) ∧
    (∀ q, s'.sstateOf q = s.sstateOf q) ∧ s'.deps = s.deps := by
  refine ⟨fun q => ?_, look_writeFile (·.sstate) (fun _ _ _ _ => rfl) h, ?_⟩
  all_goals rcases writeFile_ok h with ⟨hf, rfl⟩ | ⟨n, n', hf, hw, rfl⟩
  · split
    · rename_i hq; rw [hq, KState.fstateOf, hf]; rfl
    · rfl
  · have hfl : ∀ s1 : KState, (if n.fstate ≠ st then s1.flagReadySinks k else s1).fstateOf q = s1.fstateOf q :=
      fun s1 => ite_both (fun t : KState => t.fstateOf q = s1.fstateOf q) (fstateOf_flagReadySinks s1 k q) rfl
    rw [hfl, KState.fstateOf, KState.fstateOf, KState.fstateOf, find?_modify_const n' hf (by rw [fileRowWrite_eq hw]) q, hf]
    split
    · exact congrArg some (by rw [fileRowWrite_eq hw])
    · rfl
  · rfl
  · split <;> rfl

theorem writeStepState_find? {s s' : KState} {k : Key} {st : StepState} {d : Option Bool}
    (h : s.writeStepState k st d = .ok s') (q : Key) :
    s'.find? q = if q = k then (s.find? k).map (·.stepSet st d) else s.find? q := by
  rcases writeStepState_ok h with ⟨hf, rfl⟩ | ⟨n, n', hf, hw, rfl⟩
  · split
    · rename_i hq; rw [hq, hf]; rfl
    · rfl
  · rw [find?_modify_const n' hf (by rw [stepRowWrite_eq hw]) q, hf, stepRowWrite_eq hw]; rfl

/-- `UPDATE step SET state[, deferred]` changes `state` and the columns its triggers write only. -/
theorem look_writeStepState {β : Type} (π : Node → β)
    (hπ : ∀ m st df cs ho dc, π { m with sstate := st, deferred := df, checkSafe := cs, holding := ho, deferCount := dc } = π m)
    {s s' : KState} {k : Key} {st : StepState} {d : Option Bool} (h : s.writeStepState k st d = .ok s') (q : Key) :
    s'.look π q = s.look π q := by
  rw [KState.look, writeStepState_find? h q]
  split
  · rename_i hq; rw [hq, Option.map_map]; exact congrArg (Option.map · _) (funext fun m => hπ m _ _ _ _ _)
  · rfl

theorem writeStepState_effect (s s' : KState) (k : Key) (st : StepState) (d : Option Bool)
    (h : s.writeStepState k st d = .ok s') :
    (∀ q, s'.sstateOf q = if q = k then (s.sstateOf k).map (fun _ => st) else s.sstateOf q) ∧
    (∀ q, s'.fstateOf q = s.fstateOf q) ∧ s'.deps = s.deps := by
  refine ⟨fun q => ?_, look_writeStepState (·.fstate) (fun _ _ _ _ _ _ => rfl) h, ?_⟩
  · rw [KState.sstateOf, writeStepState_find? h q]
    split
    · rw [KState.sstateOf, Option.map_map, Option.map_map]; rfl
    · rfl
  · rcases writeStepState_ok h with ⟨_, rfl⟩ | ⟨_, _, _, _, rfl⟩ <;> rfl

theorem fstateOf_modify (s : KState) (k q : Key) (f : Node → Node) (hkey : ∀ n, (f n).key = n.key)
    (hf : ∀ n, (f n).fstate = n.fstate) : (s.modify k f).fstateOf q = s.fstateOf q :=
  look_modify s k f (·.fstate) q hkey hf

theorem sstateOf_modify (s : KState) (k q : Key) (f : Node → Node) (hkey : ∀ n, (f n).key = n.key)
    (hf : ∀ n, (f n).sstate = n.sstate) : (s.modify k f).sstateOf q = s.sstateOf q :=
  look_modify s k f (·.sstate) q hkey hf

theorem fstateOf_deleteHash (s : KState) (k q : Key) : (s.deleteHash k).fstateOf q = s.fstateOf q :=
  fstateOf_modify s k q _ (fun _ => by split <;> rfl) fun _ => by split <;> rfl

theorem sstateOf_deleteHash (s : KState) (k q : Key) : (s.deleteHash k).sstateOf q = s.sstateOf q :=
  sstateOf_modify s k q _ (fun _ => by split <;> rfl) fun _ => by split <;> rfl

/-- `DELETE FROM step_hash`. -/
theorem shashOf_deleteHash (s : KState) (k : Key) : (s.deleteHash k).shashOf k = none := by
  rw [KState.shashOf, KState.deleteHash, find?_modify_self _ _ _ fun n hn => by split <;> exact hn]
  cases s.find? k with
  | none => rfl
  | some n =>
    show (if n.shash.isSome then _ else n).shash = none
    split
    · rfl
    · exact Option.not_isSome_iff_eq_none.mp ‹_›

theorem setStepState_eq (s : KState) (k : Key) (st : StepState) (d : Bool) :
    s.setStepState k st d = s.writeStepState k st (some d) := rfl

theorem setFileState_eq (s : KState) (k : Key) (st : FileState) :
    s.setFileState k st = s.writeFile k st none := rfl

/-- The new state of the file `k` has the role (static, output, volatile) of the old one. -/
def RoleKept (s : KState) (k : Key) (st : FileState) : Prop := ∀ n, s.find? k = some n → st.role? = n.fstate.role?

theorem roleKept_of_fstate {s : KState} {k : Key} {st old : FileState} (h : s.fstateOf k = some old)
    (hr : st.role? = old.role?) : RoleKept s k st := by
  intro n hn
  rw [fstateOf_of_find hn] at h
  exact hr.trans (congrArg FileState.role? (Option.some.inj h).symm)

theorem roles_writeFile {s s' : KState} {k : Key} {st : FileState} {nh : Option (Option Nat)}
    (hv : RoleKept s k st) (h : s.writeFile k st nh = .ok s') (q : Key) :
    (s'.fstateOf q).map (·.role?) = (s.fstateOf q).map (·.role?) := by
  rw [(writeFile_effect s s' k st nh h).1 q]
  split
  · rename_i hq
    subst hq
    unfold KState.fstateOf
    cases hf : s.find? q with
    | none => rfl
    | some n => simp only [Option.map_some, hv n hf]
  · rfl

theorem RoleKept.writeFile {s s' : KState} {k q : Key} {st new : FileState} {nh : Option (Option Nat)}
    (hv : RoleKept s k st) (h : s.writeFile k st nh = .ok s') (hq : RoleKept s q new) : RoleKept s' q new := by
  intro n hn
  have := roles_writeFile hv h q
  rw [fstateOf_of_find hn] at this
  obtain ⟨_, hf, e⟩ := Option.map_eq_some_iff.1 this.symm
  obtain ⟨m, hm, rfl⟩ := fstateOf_eq_some.1 hf
  exact (hq m hm).trans e

theorem kindOk_not_file {a b : Kind} (h : creatorKindOk a b = true) : b ≠ .file := by
  intro hb; subst hb
  cases a <;> simp [creatorKindOk] at h

theorem kindOk_not_root {a b : Kind} (h : creatorKindOk a b = true) : a ≠ .root := by
  cases a <;> cases b <;> simp [creatorKindOk] at h ⊢

end StepupModel.K
