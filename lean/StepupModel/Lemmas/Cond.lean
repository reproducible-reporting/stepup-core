/-! Induction over `if` and over `foldl` (`foldl_along`) for predicates on the models' record expressions; facts about
lists that more than one module uses (a column without repeated values as a key, sums, filters). -/
namespace StepupModel

/-- What holds of both branches holds of the conditional.  On the large record expressions of the
models this is much cheaper to check than `split`, which abstracts the condition out of the goal. -/
theorem ite_ind {α : Sort _} (P : α → Prop) {p : Prop} [Decidable p] {a b : α} (ha : p → P a) (hb : ¬ p → P b) :
    P (if p then a else b) := by
  split
  · exact ha ‹_›
  · exact hb ‹_›

theorem ite_both {α : Sort _} (P : α → Prop) {p : Prop} [Decidable p] {a b : α} (ha : P a) (hb : P b) :
    P (if p then a else b) :=
  ite_ind P (fun _ => ha) (fun _ => hb)

/-- Induction along a fold whose step needs a hypothesis `A` on the state and the rest of the list. -/
theorem foldl_along {σ ε : Type _} {step : σ → ε → σ} {P : σ → Prop} {A : σ → List ε → Prop}
    (next : ∀ s e rest, A s (e :: rest) → A (step s e) rest)
    (keep : ∀ s e rest, A s (e :: rest) → P s → P (step s e)) :
    ∀ (evs : List ε) (s : σ), A s evs → P s → P (evs.foldl step s)
  | [], _, _, h => h
  | e :: rest, s, ha, h => foldl_along next keep rest _ (next s e rest ha) (keep s e rest ha h)

theorem foldl_ind {α β : Type _} (P : β → Prop) (f : β → α → β) (l : List α)
    (step : ∀ b a, a ∈ l → P b → P (f b a)) {b : β} (h : P b) : P (l.foldl f b) :=
  List.foldlRecOn l f h fun b hb a ha => step b a ha hb

/-- A column without repeated values is a key. -/
theorem eq_of_nodup_map {α β : Type} {f : α → β} {l : List α} (h : (l.map f).Nodup) {a b : α} (ha : a ∈ l) (hb : b ∈ l)
    (hab : f a = f b) : a = b :=
  have hp : l.Pairwise fun a b => f a ≠ f b := List.pairwise_map.mp h
  List.Pairwise.forall_of_forall_of_flip (R := fun a b : α => f a = f b → a = b) (fun _ _ _ => rfl)
    (hp.imp fun h e => absurd e h) (hp.imp fun h e => absurd e.symm h) ha hb hab

theorem find?_of_nodup_map {α β : Type} [DecidableEq β] {f : α → β} {l : List α} (h : (l.map f).Nodup) {b : α}
    (hb : b ∈ l) : l.find? (fun x => decide (f x = f b)) = some b := by
  cases hf : l.find? (fun x => decide (f x = f b)) with
  | none => exact absurd (decide_eq_true rfl) (List.find?_eq_none.mp hf b hb)
  | some c =>
    exact congrArg some (eq_of_nodup_map h (List.mem_of_find?_eq_some hf) hb
      (of_decide_eq_true (List.find?_some (p := fun x => decide (f x = f b)) hf)))

theorem mem_of_lookup_eq_some {α β : Type} [BEq α] [LawfulBEq α] {l : List (α × β)} {k : α} {v : β}
    (h : l.lookup k = some v) : (k, v) ∈ l := by
  obtain ⟨l₁, l₂, rfl, _⟩ := List.lookup_eq_some_iff.1 h
  exact List.mem_append_right _ List.mem_cons_self

theorem wf_irrefl {α : Type} {r : α → α → Prop} (h : WellFounded r) (a : α) : ¬ r a a :=
  h.induction (C := fun x => ¬ r x x) a fun x ih hxx => ih x hxx hxx

theorem count_erase_add {α : Type} [BEq α] [LawfulBEq α] {a : α} {l : List α} (h : a ∈ l) (x : α) :
    (l.erase a).count x + [a].count x = l.count x := by
  have := List.count_pos_iff.2 h
  rw [List.count_erase, List.count_singleton]
  split
  next hx => cases eq_of_beq hx; omega
  next => omega

theorem sum_map_le {α : Type _} {f g : α → Nat} : ∀ {l : List α}, (∀ n ∈ l, g n ≤ f n) → (l.map g).sum ≤ (l.map f).sum
  | [], _ => by simp
  | x :: l, h => by
    simp only [List.map_cons, List.sum_cons]
    have := h x List.mem_cons_self
    have := sum_map_le (l := l) fun n hn => h n (List.mem_cons_of_mem _ hn)
    omega

theorem sum_sublist_le {α : Type _} (f : α → Nat) {l' l : List α} (h : l'.Sublist l) : (l'.map f).sum ≤ (l.map f).sum := by
  induction h with
  | slnil => simp
  | cons a _ ih => simp only [List.map_cons, List.sum_cons]; omega
  | cons_cons a _ ih => simp only [List.map_cons, List.sum_cons]; omega

theorem sum_map_add_indicator (ks : List Nat) (x : Nat) (h : Nat → Nat) :
    (ks.map fun k => (if x = k then 1 else 0) + h k).sum = ks.count x + (ks.map h).sum := by
  induction ks with
  | nil => rfl
  | cons k ks ih =>
    simp only [List.map_cons, List.sum_cons, ih, List.count_cons, beq_iff_eq, eq_comm (a := k)]
    split <;> omega

/-- Rows whose keys are pairwise different and all occur among the (pairwise different) keys of `l`
match exactly `rows.length` elements of `l`; the others are the unmatched remainder. -/
theorem length_add_unmatched {α β} {f : α → Nat} {g : β → Nat} {l : List α} {rows : List β}
    (hl : (l.map f).Nodup) (hr : (rows.map g).Nodup) (hsub : ∀ w ∈ rows, g w ∈ l.map f) :
    rows.length + (l.filter fun a => !(rows.any fun w => g w = f a)).length = l.length := by
  have hm : (l.filter fun a => rows.any fun w => g w = f a).length = rows.length := by
    rw [← List.length_map (f := f), ← List.length_map (f := g) (as := rows)]
    apply Nat.le_antisymm
    · apply List.Nodup.length_le_of_subset (hl.sublist (List.Sublist.map f List.filter_sublist))
      intro x hx
      obtain ⟨a, ha, rfl⟩ := List.mem_map.mp hx
      obtain ⟨w, hw, he⟩ := List.any_eq_true.mp (List.mem_filter.mp ha).2
      exact List.mem_map.mpr ⟨w, hw, of_decide_eq_true he⟩
    · apply List.Nodup.length_le_of_subset hr
      intro x hx
      obtain ⟨w, hw, rfl⟩ := List.mem_map.mp hx
      obtain ⟨a, ha, he⟩ := List.mem_map.mp (hsub w hw)
      exact List.mem_map.mpr ⟨a, List.mem_filter.mpr ⟨ha, List.any_eq_true.mpr ⟨w, hw, decide_eq_true he.symm⟩⟩, he⟩
  rw [← hm, List.length_eq_countP_add_countP (fun a => rows.any fun w => g w = f a) (l := l),
    List.countP_eq_length_filter, List.countP_eq_length_filter]
  simp only [Bool.not_eq_true, Bool.decide_eq_false]

theorem map_filterMap_eq_self {α β : Type _} {l : List α} {f : α → Option β} {g : β → α}
    (h : ∀ d ∈ l, ∃ b, f d = some b ∧ g b = d) : (l.filterMap f).map g = l := by
  induction l with
  | nil => rfl
  | cons d ds ih =>
    obtain ⟨b, hb, hd⟩ := h d (List.mem_cons_self ..)
    rw [List.filterMap_cons_some hb, List.map_cons, hd, ih fun d' hd' => h d' (List.mem_cons_of_mem _ hd')]

/-- Rewriting the rows of the keys `xs` one key after the other, with a rewrite that keeps the key and does nothing
the second time, is rewriting the rows whose key is in `xs`. -/
theorem foldl_map_keys {α κ : Type} [DecidableEq κ] (key : α → κ) (G : α → α) (hk : ∀ t, key (G t) = key t)
    (hi : ∀ t, G (G t) = G t) (xs : List κ) (l : List α) :
    xs.foldl (fun l x => l.map fun t => if key t = x then G t else t) l = l.map fun t => if key t ∈ xs then G t else t := by
  induction xs generalizing l with
  | nil => simp only [List.foldl_nil, List.not_mem_nil, if_false, List.map_id']
  | cons x xs ih =>
    rw [List.foldl_cons, ih, List.map_map]
    refine List.map_congr_left fun t _ => ?_
    show (if key (if key t = x then G t else t) ∈ xs then G (if key t = x then G t else t)
      else if key t = x then G t else t) = _
    by_cases hx : key t = x
    · rw [if_pos hx, hk, hi, ite_self, if_pos (hx ▸ List.mem_cons_self)]
    · rw [if_neg hx]; simp only [List.mem_cons, hx, false_or]

/-- Set union on lists: `l`, then what `m` adds to it. -/
theorem mem_append_filter_notMem {α : Type} [DecidableEq α] {l m : List α} {a : α} :
    a ∈ l ++ m.filter (· ∉ l) ↔ a ∈ l ∨ a ∈ m := by
  rw [List.mem_append, List.mem_filter, decide_eq_true_eq]
  by_cases h : a ∈ l
  · exact ⟨fun _ => .inl h, fun _ => .inl h⟩
  · exact ⟨fun h' => h'.imp id (·.1), fun h' => h'.imp id (⟨·, h⟩)⟩

theorem exists_mem_snoc {α : Type} {P : α → Prop} {l : List α} {a : α} :
    (∃ x ∈ l ++ [a], P x) ↔ (∃ x ∈ l, P x) ∨ P a := by
  simp only [List.mem_append, List.mem_singleton, or_and_right, exists_or, exists_eq_left]

theorem filter_all_snoc {α β : Type} (q : α → β → Bool) (l : List α) (pre : List β) (a : β) :
    (l.filter fun c => pre.all (q c)).filter (fun c => q c a) = l.filter fun c => (pre ++ [a]).all (q c) := by
  rw [List.filter_filter]
  refine List.filter_congr fun c _ => ?_
  rw [List.all_append, List.all_cons, List.all_nil, Bool.and_true, Bool.and_comm]

theorem all_ne_contains {α β : Type} [DecidableEq β] {f : α → β} (l : List α) (k : β) :
    l.all (fun a => decide (k ≠ f a)) = !(l.map f).contains k := by
  induction l with
  | nil => rfl
  | cons a as ih =>
    simp only [List.all_cons, List.map_cons, List.contains_cons, Bool.not_or, ih]
    congr 1
    by_cases h : k = f a <;> simp [h]

theorem mem_filter_not_contains {α β : Type} [DecidableEq β] (f : α → β) (D : List β) (l : List α) (c : α) :
    c ∈ l.filter (fun c => !D.contains (f c)) ↔ c ∈ l ∧ f c ∉ D := by
  simp only [List.mem_filter, Bool.not_eq_true', List.contains_eq_mem, decide_eq_false_iff_not]

theorem filter_not_contains_append {α β : Type} [DecidableEq β] (f : α → β) (D D' : List β) (l : List α) :
    (l.filter fun c => !D.contains (f c)).filter (fun c => !D'.contains (f c)) =
      l.filter fun c => !(D ++ D').contains (f c) := by
  rw [List.filter_filter]
  refine List.filter_congr fun c _ => ?_
  rw [List.contains_append, Bool.not_or, Bool.and_comm]

theorem foldl_add_filter {α : Type} (p : α → Bool) (f : α → Nat) : ∀ (l : List α) (a : Nat),
    (l.filter p).foldl (fun acc m => acc + f m) a = a + (l.map fun m => if p m = true then f m else 0).sum
  | [], a => by simp
  | x :: l, a => by
    by_cases hx : p x = true
    · simp only [List.filter_cons, hx, if_true, List.foldl_cons, List.map_cons, List.sum_cons]
      rw [foldl_add_filter p f l]; omega
    · have hx' : p x = false := by simpa using hx
      simp only [List.filter_cons, hx', List.map_cons, List.sum_cons]
      simp only [Bool.false_eq_true, if_false, Nat.zero_add]
      exact foldl_add_filter p f l a

theorem sum_map_replace {α κ : Type} [DecidableEq κ] {key : α → κ} (F : α → Nat) (k : κ) (n n' : α) (l : List α)
    (hn : (l.map key).Nodup) (hm : n ∈ l) (hk : key n = k) :
    (l.map fun m => F (if key m = k then n' else m)).sum + F n = (l.map F).sum + F n' := by
  induction l with
  | nil => cases hm
  | cons a l ih =>
    rw [List.map_cons, List.nodup_cons] at hn
    rw [List.map_cons, List.map_cons, List.sum_cons, List.sum_cons]
    by_cases ha : key a = k
    · have hnot : ∀ m ∈ l, key m ≠ k := fun m hm hmk => hn.1 (List.mem_map.2 ⟨m, hm, hmk.trans ha.symm⟩)
      have : n = a := (List.mem_cons.1 hm).resolve_right fun h => hnot n h hk
      subst this
      rw [if_pos ha, List.map_congr_left fun m hm => by rw [if_neg (hnot m hm)]]
      omega
    · rw [if_neg ha, Nat.add_assoc, ih hn.2 ((List.mem_cons.1 hm).resolve_left fun h => ha (h ▸ hk)), Nat.add_assoc]

end StepupModel
