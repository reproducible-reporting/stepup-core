import StepupModel.K.Types
import StepupModel.Lemmas.Cond
/-!
Taking a `do` block of the kernel monad `M = Except Err` apart, one statement at a time: what is
known when a bind, a guard, a `mapM` or a `foldlM` has succeeded.
-/
namespace StepupModel.K

theorem bind_ok_iff {α β : Type} {x : M α} {g : α → M β} {r : β} :
    (x >>= g) = .ok r ↔ ∃ a, x = .ok a ∧ g a = .ok r := by
  cases x with
  | error e => exact ⟨fun h => (nomatch h), fun ⟨_, h, _⟩ => (nomatch h)⟩
  | ok a => exact ⟨fun h => ⟨a, rfl, h⟩, fun ⟨_, h1, h2⟩ => Except.ok.inj h1 ▸ h2⟩

theorem pure_ok_iff {α : Type} {a r : α} : (pure a : M α) = .ok r ↔ a = r :=
  ⟨fun h => by cases h; rfl, fun h => by rw [h]; rfl⟩

theorem bind_ok_inv {α β : Type} {x : M α} {g : α → M β} {b : β} (h : (x >>= g) = .ok b) :
    ∃ a, x = .ok a ∧ g a = .ok b := bind_ok_iff.1 h

/-- `bind_ok_inv` as an elimination rule: `refine bind_ok_elim h fun a ha h => ?_` names the value of the first
statement of a successful `do` block and goes on with the rest (cheaper to check than `obtain` with its pattern). -/
theorem bind_ok_elim {α β : Type} {x : M α} {g : α → M β} {b : β} {C : Prop} (h : (x >>= g) = .ok b)
    (k : ∀ a, x = .ok a → g a = .ok b → C) : C :=
  (bind_ok_inv h).elim fun a ha => k a ha.1 ha.2

theorem ite_ok {β : Type} {c : Prop} [Decidable c] {x y : M β} {b : β} (h : (if c then x else y) = .ok b) :
    (c ∧ x = .ok b) ∨ (¬c ∧ y = .ok b) := by
  by_cases hc : c
  · rw [if_pos hc] at h; exact .inl ⟨hc, h⟩
  · rw [if_neg hc] at h; exact .inr ⟨hc, h⟩

/-- `if c then throw e` in front of `x`; a `throw e >>= k` reduces to this form. -/
theorem throwIf_ok {β : Type} {c : Prop} [Decidable c] {e : Err} {x : M β} {b : β}
    (h : (if c then Except.error e else x) = .ok b) : ¬c ∧ x = .ok b :=
  (ite_ok h).elim (fun h => nomatch h.2) id

theorem checkIf_ok {β : Type} {c P : Prop} [Decidable c] {x y : M β} {b : β} (h : (if c then x else y) = .ok b)
    (hx : c → x = .ok b → P ∧ y = .ok b) : (c → P) ∧ y = .ok b := by
  by_cases hc : c
  · rw [if_pos hc] at h; exact ⟨fun _ => (hx hc h).1, (hx hc h).2⟩
  · rw [if_neg hc] at h; exact ⟨fun hc' => absurd hc' hc, h⟩

theorem mapM_ok_mem {α β : Type} {f : α → M β} {l : List α} {r : List β} (h : l.mapM f = .ok r) :
    ∀ y ∈ r, ∃ x ∈ l, f x = .ok y := by
  induction l generalizing r with
  | nil => cases h; exact nofun
  | cons a as ih =>
    rw [List.mapM_cons] at h
    refine bind_ok_elim h fun b hb h => bind_ok_elim h fun bs hbs h => ?_
    cases h
    intro y hy
    rcases List.mem_cons.mp hy with rfl | hy
    · exact ⟨a, List.mem_cons_self, hb⟩
    · obtain ⟨x, hx, hxy⟩ := ih hbs y hy
      exact ⟨x, List.mem_cons_of_mem _ hx, hxy⟩

theorem mapM_guard_ok {α β : Type} {f : α → M β} {G : α → Prop} {g : α → β}
    (hf : ∀ x y, f x = .ok y → G x ∧ y = g x) {l : List α} {r : List β} (h : l.mapM f = .ok r) :
    (∀ x ∈ l, G x) ∧ r = l.map g := by
  induction l generalizing r with
  | nil => cases h; exact ⟨nofun, rfl⟩
  | cons a as ih =>
    rw [List.mapM_cons] at h
    refine bind_ok_elim h fun b hb h => bind_ok_elim h fun bs hbs h => ?_
    obtain ⟨ih1, rfl⟩ := ih hbs
    obtain ⟨ha, rfl⟩ := hf a b hb
    cases h
    exact ⟨List.forall_mem_cons.2 ⟨ha, ih1⟩, rfl⟩

/-- The one induction through a fold in `M` (an invariant indexed by the elements still to come); the fold rules
below are instances. -/
theorem foldlM_suffix {α β : Type} (P : List α → β → Prop) (f : β → α → M β)
    (hstep : ∀ a rest b b', P (a :: rest) b → f b a = .ok b' → P rest b') :
    ∀ (l : List α) (b b' : β), P l b → l.foldlM f b = .ok b' → P [] b'
  | [], b, _, hb, h => by cases h; exact hb
  | a :: as, b, b', hb, h => by
    rw [List.foldlM_cons] at h
    exact bind_ok_elim h fun b1 hfa h => foldlM_suffix P f hstep as b1 b' (hstep a as b b1 hb hfa) h

theorem foldlM_keeps {α β : Type} (P : β → Prop) (f : β → α → M β) (l : List α)
    (hstep : ∀ b a b', a ∈ l → P b → f b a = .ok b' → P b') (b b' : β) (hb : P b)
    (h : l.foldlM f b = .ok b') : P b' :=
  (foldlM_suffix (fun rest b => (∀ a ∈ rest, a ∈ l) ∧ P b) f
    (fun a _ b b' hp hf => ⟨fun x hx => hp.1 x (List.mem_cons_of_mem _ hx), hstep b a b' (hp.1 a List.mem_cons_self) hp.2 hf⟩)
    l b b' ⟨fun _ h => h, hb⟩ h).2

theorem foldlM_est_or_keep {α β ι : Type} (κ : α → ι) (P : ι → β → Prop) (f : β → α → M β) (l : List α)
    (hest : ∀ b a b', a ∈ l → f b a = .ok b' → P (κ a) b')
    (hkeep : ∀ q b a b', a ∈ l → P q b → f b a = .ok b' → P q b')
    (s s' : β) (h : l.foldlM f s = .ok s') (q : ι) (hq : q ∈ l.map κ ∨ P q s) : P q s' :=
  ((foldlM_suffix (fun rest b => (∀ a ∈ rest, a ∈ l) ∧ (q ∈ rest.map κ ∨ P q b)) f
    (fun a rest b b' hp hf => ⟨fun x hx => hp.1 x (List.mem_cons_of_mem _ hx), by
      have ha := hp.1 a List.mem_cons_self
      by_cases hqa : q = κ a
      · exact .inr (hqa ▸ hest b a b' ha hf)
      · exact hp.2.imp (fun h => (List.mem_cons.mp h).resolve_left hqa) fun hq => hkeep q b a b' ha hq hf⟩)
    l s s' ⟨fun _ h => h, hq⟩ h).2).elim (fun h => nomatch h) id

theorem foldlM_each {α β : Type} (R : α → β → Prop) (f : β → α → M β) (l : List α)
    (hest : ∀ b a b', f b a = .ok b' → R a b')
    (hstab : ∀ b a a' b', R a b → f b a' = .ok b' → R a b') (b b' : β)
    (h : l.foldlM f b = .ok b') : ∀ a ∈ l, R a b' :=
  fun a ha => foldlM_est_or_keep id R f l (fun b a b' _ => hest b a b') (fun a b a' b' _ => hstab b a a' b') b b' h a
    (.inl (by rwa [List.map_id]))

theorem bind_ok_of_ok {α β : Type} {x : M α} {g : α → M β} (hx : ∃ r, x = .ok r) (hg : ∀ r, ∃ b, g r = .ok b) :
    ∃ b, (x >>= g) = .ok b := by
  obtain ⟨r, hr⟩ := hx
  obtain ⟨b, hb⟩ := hg r
  exact ⟨b, bind_ok_iff.mpr ⟨r, hr, hb⟩⟩

def Preserves (P : KState → Prop) (f : KState → M KState) : Prop :=
  ∀ s s', P s → f s = .ok s' → P s'

theorem preserves_bind {P : KState → Prop} {f g : KState → M KState} (hf : Preserves P f) (hg : Preserves P g)
    (s s' : KState) (hp : P s) (h : (f s >>= g) = .ok s') : P s' :=
  bind_ok_elim h fun s1 h1 h2 => hg s1 s' (hf s s1 hp h1) h2

theorem foldlM_preserves {α : Type} (P : KState → Prop) (f : KState → α → M KState) (l : List α)
    (hf : ∀ x, Preserves P (fun s => f s x)) : Preserves P (fun s => l.foldlM f s) :=
  foldlM_keeps P f l fun a x b _ hp h => hf x a b hp h

theorem foldlM_reach {α : Type} (Pre Post : KState → Prop) (f : KState → α → M KState) (a0 : α)
    (hpre : ∀ b a b', Pre b → f b a = .ok b' → Pre b')
    (hest : ∀ b b', Pre b → f b a0 = .ok b' → Post b')
    (hpost : ∀ b a b', Post b → f b a = .ok b' → Post b')
    (l : List α) (hm : a0 ∈ l) (b b' : KState) (hb : Pre b) (h : l.foldlM f b = .ok b') : Post b' :=
  (foldlM_suffix (fun rest b => a0 ∈ rest ∧ Pre b ∨ Post b) f
    (fun a _ b b' hp hf => hp.elim
      (fun hp => (List.mem_cons.1 hp.1).elim (fun e => .inr (hest b b' hp.2 (e ▸ hf))) fun hm => .inl ⟨hm, hpre b a b' hp.2 hf⟩)
      fun hp => .inr (hpost b a b' hp hf))
    l b b' (.inl ⟨hm, hb⟩) h).elim (fun h => nomatch h.1) id

end StepupModel.K
