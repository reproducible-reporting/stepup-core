import StepupModel.B.JobLoop
import StepupModel.Lemmas.Cond
/-! The `Builder.job_loop` model (`B/JobLoop.lean`): what each part of the loop body and each event leaves
alone, one pass of the loop case by case with the case as a label (`Pass`) and as one update of the record
(`Pass.staged`), and that a property which the loop and its events keep (`Blind`) holds after every event
sequence (`run_blind`). -/
namespace StepupModel.B.JobLoop

theorem retire_eq (s : JL) (j : Job) :
    ∃ r, retire s j = { s with handled := s.handled ++ [j], wake := true, retired := r } := by
  cases j <;> exact ⟨_, rfl⟩

theorem handleDone_eq {l : List (Job × Bool)} {s s1 : JL} {b : Bool} (h : handleDone s l = (s1, b)) :
    ∃ hd d w dr r, s1 = { s with handled := hd, done := d, wake := w, draining := dr, retired := r } := by
  fun_induction handleDone s l with
  | case1 s => cases h; exact ⟨_, _, _, _, _, rfl⟩
  | case2 s j ok rest _ => cases h; exact ⟨_, _, _, _, _, rfl⟩
  | case3 s j ok rest _ ih =>
    obtain ⟨r, e⟩ := retire_eq s j
    obtain ⟨hd, d, w, dr, r', e'⟩ := ih h
    rw [e] at e'
    exact ⟨_, _, _, _, _, e'⟩

theorem handleDone_frame {l : List (Job × Bool)} {s s1 : JL} {b : Bool} (h : handleDone s l = (s1, b)) :
    s1.running = s.running ∧ s1.njob = s.njob ∧ s1.queue = s.queue ∧ s1.claimed = s.claimed ∧
    s1.offers = s.offers ∧ s1.status = s.status ∧ s1.started = s.started ∧ s1.polls = s.polls ∧
    s1.promoted = s.promoted ∧ s1.inflight = s.inflight := by
  obtain ⟨_, _, _, _, _, rfl⟩ := handleDone_eq h
  simp only [and_self]

theorem handleDone_ok {l : List (Job × Bool)} {s s1 : JL} (h : handleDone s l = (s1, false)) :
    s1.done = [] ∧ s1.draining = s.draining ∧ (l = [] → s1.wake = s.wake) := by
  fun_induction handleDone s l with
  | case1 s => cases h; exact ⟨rfl, rfl, fun _ => rfl⟩
  | case2 s j ok rest _ => cases h
  | case3 s j ok rest _ ih =>
    obtain ⟨h1, h2, -⟩ := ih h
    obtain ⟨r, e⟩ := retire_eq s j
    rw [e] at h2
    exact ⟨h1, h2, fun hl => nomatch hl⟩

theorem handleDone_wake (l : List (Job × Bool)) (s : JL) (h : (handleDone s l).2 = false) :
    (handleDone s l).1.done = [] ∧ (l = [] → (handleDone s l).1.wake = s.wake) :=
  have h' := handleDone_ok (Prod.ext rfl h : handleDone s l = ((handleDone s l).1, false))
  ⟨h'.1, h'.2.2⟩

theorem handleDone_frame2 (l : List (Job × Bool)) (s : JL) : (handleDone s l).1.njob = s.njob :=
  (handleDone_frame rfl).2.1

theorem handleDone_draining (l : List (Job × Bool)) : ∀ (s : JL),
    s.draining = true → (handleDone s l).1.draining = true := by
  intro s h
  fun_induction handleDone s l with
  | case1 s => exact h
  | case2 s j ok rest _ => rfl
  | case3 s j ok rest _ ih => obtain ⟨r, e⟩ := retire_eq s j; exact ih (by rw [e]; exact h)

theorem handleDone_raise_draining (l : List (Job × Bool)) : ∀ (s : JL),
    (handleDone s l).2 = true → (handleDone s l).1.draining = true := by
  intro s h
  fun_induction handleDone s l with
  | case1 s => cases h
  | case2 s j ok rest _ => rfl
  | case3 s j ok rest _ ih => exact ih h

theorem popHash_eq {l : List Nat} {s s2 : JL} {o : Option Nat} (h : popHash s l = (s2, o)) :
    ∃ q c, s2 = { s with queue := q, claimed := c } := by
  fun_induction popHash s l with
  | case1 => cases h; exact ⟨_, _, rfl⟩
  | case2 i rest _ ih => exact ih h
  | case3 i rest _ => cases h; exact ⟨_, _, rfl⟩

theorem popHash_none {l : List Nat} {s s2 : JL} (h : popHash s l = (s2, none)) :
    s2.queue = [] ∧ s2.claimed = s.claimed ∧ ∀ i ∈ l, i ∈ s.claimed := by
  fun_induction popHash s l with
  | case1 => cases h; exact ⟨rfl, rfl, fun _ hi => nomatch hi⟩
  | case2 i rest hc ih =>
    obtain ⟨h1, h2, h3⟩ := ih h
    refine ⟨h1, h2, fun x hx => ?_⟩
    rcases List.mem_cons.1 hx with rfl | hx
    · exact List.contains_iff_mem.1 hc
    · exact h3 x hx
  | case3 i rest _ => cases h

theorem popHash_none_claimed (l : List Nat) : ∀ (s : JL), (popHash s l).2 = none →
    (popHash s l).1.queue = [] :=
  fun s h => (popHash_none (Prod.ext rfl h : popHash s l = ((popHash s l).1, none))).1

theorem tail_cases (s : JL) :
    (s.running = [] ∧ s.done = [] ∧ tail s = (s, .ret)) ∨
    (s.wake = true ∧ tail s = ({ s with wake := false }, .again)) ∨
    (s.wake = false ∧ ¬ (s.running = [] ∧ s.done = []) ∧ tail s = (s, .wait)) := by
  unfold tail
  by_cases hc : (s.running.isEmpty && s.done.isEmpty) = true
  · rw [if_pos hc]
    simp only [Bool.and_eq_true, List.isEmpty_iff] at hc
    exact .inl ⟨hc.1, hc.2, rfl⟩
  · rw [if_neg hc]
    simp only [Bool.and_eq_true, List.isEmpty_iff] at hc
    cases hw : s.wake
    · exact .inr (.inr ⟨rfl, hc, rfl⟩)
    · exact .inr (.inl ⟨rfl, rfl⟩)

theorem tail_eq (s : JL) : ∃ w, (tail s).1 = { s with wake := w } := by
  rcases tail_cases s with ⟨-, -, h⟩ | ⟨-, h⟩ | ⟨-, -, h⟩ <;> rw [h] <;> exact ⟨_, rfl⟩

theorem tail_ret (s : JL) (h : (tail s).2 = .ret) : (tail s).1.running = [] ∧ (tail s).1.done = [] := by
  rcases tail_cases s with ⟨h1, h2, e⟩ | ⟨-, e⟩ | ⟨-, -, e⟩
  · rw [e]; exact ⟨h1, h2⟩
  · rw [e] at h; cases h
  · rw [e] at h; cases h

theorem tail_again (s : JL) (h : (tail s).2 = .again) :
    s.wake = true ∧ (tail s).1 = { s with wake := false } := by
  rcases tail_cases s with ⟨-, -, e⟩ | ⟨hw, e⟩ | ⟨-, -, e⟩
  · rw [e] at h; cases h
  · rw [e]; exact ⟨hw, rfl⟩
  · rw [e] at h; cases h

theorem tail_wait (s : JL) (h : (tail s).2 = .wait) :
    s.wake = false ∧ (tail s).1 = s ∧ ¬ (s.running = [] ∧ s.done = []) := by
  rcases tail_cases s with ⟨-, -, e⟩ | ⟨-, e⟩ | ⟨hw, hb, e⟩
  · rw [e] at h; cases h
  · rw [e] at h; cases h
  · rw [e]; exact ⟨hw, rfl, hb⟩

/-- What a pass through the loop body did: `handle_done_tasks` raised; a hash job was started; a step job was
started; the scheduler had no job (`idle`); no slot was free (`full`). -/
inductive Act where
  | raise | hash (i : Nat) | step (j : Nat) | idle | full

namespace Act

def starts : Act → List Job
  | .hash i => [.hash i]
  | .step j => [.step j]
  | _ => []

/-- The calls of `scheduler.pop_next_job` in the pass. -/
def polls : Act → Nat
  | .step _ => 1
  | .idle => 1
  | _ => 0

end Act

/-- One pass through the loop body (`iter`), case by case, with the case as a label; after `idle` and `full` the
tail of the body follows. -/
inductive Pass (s : JL) : Act → JL × Ctl → Prop
  | raise {s1} : handleDone s s.done.reverse = (s1, true) → Pass s .raise (s1, .raise)
  | hash {s1 s2 i} : handleDone s s.done.reverse = (s1, false) → s1.running.length < s1.njob →
      popHash s1 s1.queue = (s2, some i) → Pass s (.hash i) (startJob s2 (.hash i), .again)
  | step {s1 s2 j} : handleDone s s.done.reverse = (s1, false) → s1.running.length < s1.njob →
      popHash s1 s1.queue = (s2, none) → s2.offers.head? = some j →
      Pass s (.step j) (startJob { s2 with polls := s2.polls + 1, offers := s2.offers.tail } (.step j), .again)
  | idle {s1 s2} : handleDone s s.done.reverse = (s1, false) → s1.running.length < s1.njob →
      popHash s1 s1.queue = (s2, none) → s2.offers.head? = none →
      Pass s .idle (tail { s2 with polls := s2.polls + 1 })
  | full {s1} : handleDone s s.done.reverse = (s1, false) → ¬ s1.running.length < s1.njob → Pass s .full (tail s1)

theorem pass_iter (s : JL) : ∃ a, Pass s a (iter s) := by
  unfold iter
  cases h1 : handleDone s s.done.reverse with | mk s1 b =>
  cases b with
  | true => exact ⟨_, .raise h1⟩
  | false =>
    by_cases hlt : s1.running.length < s1.njob
    · simp only [if_pos hlt]
      cases h2 : popHash s1 s1.queue with | mk s2 o =>
      cases o with
      | some i => exact ⟨_, .hash h1 hlt h2⟩
      | none =>
        cases h3 : s2.offers.head? with
        | some j => simp only [h3]; exact ⟨_, .step h1 hlt h2 h3⟩
        | none => simp only [h3]; exact ⟨_, .idle h1 hlt h2 h3⟩
    · simp only [if_neg hlt]; exact ⟨_, .full h1 hlt⟩

theorem pass_eq {s : JL} {a : Act} {r : JL × Ctl} (p : Pass s a r) : iter s = r := by
  cases p with
  | raise h1 => simp only [iter, h1]
  | hash h1 hlt h2 => simp only [iter, h1, if_pos hlt, h2]
  | step h1 hlt h2 h3 => simp only [iter, h1, if_pos hlt, h2, h3]
  | idle h1 hlt h2 h3 => simp only [iter, h1, if_pos hlt, h2, h3]
  | full h1 hlt => simp only [iter, h1, if_neg hlt]

namespace Pass

theorem staged {s : JL} {a : Act} {r : JL × Ctl} (p : Pass s a r) :
    ∃ s1 b q c w o, handleDone s s.done.reverse = (s1, b) ∧ (b = true ↔ a = .raise) ∧ r.1 =
      { s1 with running := s1.running ++ a.starts, started := s1.started ++ a.starts, polls := s1.polls + a.polls,
                queue := q, claimed := c, wake := w, offers := o } := by
  cases p with
  | @raise s1 h1 =>
    exact ⟨s1, true, s1.queue, s1.claimed, s1.wake, s1.offers, h1, ⟨fun _ => rfl, fun _ => rfl⟩,
      by simp only [Act.starts, Act.polls, List.append_nil, Nat.add_zero]⟩
  | @hash s1 s2 i h1 _ h2 =>
    obtain ⟨q, c, rfl⟩ := popHash_eq h2
    exact ⟨s1, false, q, c, s1.wake, s1.offers, h1, ⟨nofun, nofun⟩,
      by simp only [startJob, Act.starts, Act.polls, Nat.add_zero]⟩
  | @step s1 s2 j h1 _ h2 _ =>
    obtain ⟨q, c, rfl⟩ := popHash_eq h2
    exact ⟨s1, false, q, c, s1.wake, s1.offers.tail, h1, ⟨nofun, nofun⟩, by simp only [startJob, Act.starts, Act.polls]⟩
  | @idle s1 s2 h1 _ h2 _ =>
    obtain ⟨q, c, rfl⟩ := popHash_eq h2
    obtain ⟨w', e⟩ := tail_eq { s1 with queue := q, claimed := c, polls := s1.polls + 1 }
    exact ⟨s1, false, q, c, w', s1.offers, h1, ⟨nofun, nofun⟩,
      by rw [e]; simp only [Act.starts, Act.polls, List.append_nil]⟩
  | @full s1 h1 _ =>
    obtain ⟨w', e⟩ := tail_eq s1
    exact ⟨s1, false, s1.queue, s1.claimed, w', s1.offers, h1, ⟨nofun, nofun⟩,
      by rw [e]; simp only [Act.starts, Act.polls, List.append_nil, Nat.add_zero]⟩

/-- Not touched: `status`, `njob`, `inflight`, `counter`, `promoted`. -/
theorem eq {s : JL} {a : Act} {r : JL × Ctl} (p : Pass s a r) :
    ∃ hd d w dr rt q c o, r.1 =
      { s with running := s.running ++ a.starts, started := s.started ++ a.starts, polls := s.polls + a.polls,
               handled := hd, done := d, wake := w, draining := dr, retired := rt, queue := q, claimed := c,
               offers := o } := by
  obtain ⟨s1, b, q, c, w, o, h1, -, e⟩ := p.staged
  obtain ⟨hd, d, _, dr, rt, rfl⟩ := handleDone_eq h1
  exact ⟨hd, d, w, dr, rt, q, c, o, e⟩

theorem free {s : JL} {a : Act} {r : JL × Ctl} (p : Pass s a r) (h : a.starts ≠ []) :
    s.running.length < s.njob := by
  cases p with
  | raise | idle | full => exact absurd rfl h
  | hash h1 hlt _ | step h1 hlt _ _ => obtain ⟨_, _, _, _, _, rfl⟩ := handleDone_eq h1; exact hlt

theorem offer {s : JL} {a : Act} {r : JL × Ctl} (p : Pass s a r) :
    (∀ j, a = .step j → s.offers.head? = some j) ∧ (a = .idle → s.offers = []) := by
  cases p with
  | raise | hash | full => exact ⟨nofun, nofun⟩
  | step h1 _ h2 h3 =>
    obtain ⟨_, _, _, _, _, rfl⟩ := handleDone_eq h1
    obtain ⟨_, _, rfl⟩ := popHash_eq h2
    exact ⟨fun _ e => by cases e; exact h3, nofun⟩
  | idle h1 _ h2 h3 =>
    obtain ⟨_, _, _, _, _, rfl⟩ := handleDone_eq h1
    obtain ⟨_, _, rfl⟩ := popHash_eq h2
    exact ⟨nofun, fun _ => List.head?_eq_none_iff.1 h3⟩

theorem queue {s : JL} {a : Act} {r : JL × Ctl} (p : Pass s a r) (h : a.polls = 1) :
    ∀ i ∈ s.queue, i ∈ s.claimed := by
  cases p with
  | raise | hash | full => cases h
  | step h1 _ h2 _ | idle h1 _ h2 _ =>
    obtain ⟨_, _, _, _, _, rfl⟩ := handleDone_eq h1
    exact (popHash_none h2).2.2

end Pass

theorem submit_eq (s : JL) (p : Nat) :
    ∃ c f q w, (submit s p).1 = { s with counter := c, inflight := f, queue := q, wake := w } := by
  unfold submit
  cases s.inflight.lookup p <;> exact ⟨_, _, _, _, rfl⟩

theorem resolveFor_eq (s : JL) (j : Job) : ∃ p f, resolveFor s j = { s with promoted := p, inflight := f } := by
  cases j with
  | step i => exact ⟨_, _, rfl⟩
  | hash i =>
    by_cases h1 : s.promoted.contains i = true
    · exact ⟨_, _, if_pos h1⟩
    · by_cases h2 : s.running.contains (.hash i) = true
      · exact ⟨_, _, (if_neg h1).trans (if_pos h2)⟩
      · exact ⟨_, _, (if_neg h1).trans (if_neg h2)⟩

theorem moveDone_cases (s : JL) (j : Job) (ok : Bool) :
    (j ∉ s.running ∧ moveDone s j ok = s) ∨
    (j ∈ s.running ∧
      moveDone s j ok = { s with running := s.running.erase j, done := s.done ++ [(j, ok)], wake := true }) := by
  unfold moveDone
  by_cases h : j ∈ s.running
  · exact .inr ⟨h, if_pos (List.contains_iff_mem.2 h)⟩
  · exact .inl ⟨h, if_neg (fun hc => h (List.contains_iff_mem.1 hc))⟩

theorem moveDone_wake (s : JL) (j : Job) (ok : Bool) (h : s.running.contains j = true) :
    (moveDone s j ok).wake = true := by
  unfold moveDone; rw [if_pos h]

theorem moveDone_quiet {s : JL} {j : Job} {ok : Bool} (h : (moveDone s j ok).wake = false) : moveDone s j ok = s := by
  rcases moveDone_cases s j ok with ⟨-, e⟩ | ⟨-, e⟩
  · exact e
  · rw [e] at h; cases h

theorem submit_quiet {s : JL} {p : Nat} (h : (submit s p).1.wake = false) : (submit s p).1 = s := by
  unfold submit at h ⊢
  split
  · rfl
  · rename_i hn; rw [hn] at h; cases h

theorem apply_start (s : JL) :
    apply s .start = if s.status = .idle ∨ s.status = .returned then { s with status := .waiting } else s := rfl

theorem apply_promote (s : JL) (p : Nat) :
    ∃ c q, apply s (.promote p) = { (submit s p).1 with claimed := c, promoted := q } ∧
      ∀ x ∈ (submit s p).1.claimed, x ∈ c := by
  by_cases h : (submit s p).1.claimed.contains (submit s p).2 = true
  · exact ⟨_, _, if_pos h, fun _ hx => hx⟩
  · exact ⟨_, _, if_neg h, fun _ hx => List.mem_cons_of_mem _ hx⟩

theorem fin_wake (s : JL) (j : Job) (h : s.running.contains j = true) : (apply s (.fin j)).wake = true := by
  obtain ⟨p, f, e⟩ := resolveFor_eq s j
  exact moveDone_wake _ j true (by rw [e]; exact h)

theorem apply_eq (s : JL) (e : Ev) :
    ∃ st o c f q cl pr w,
      (st = s.status ∨ (e = .start ∧ (s.status = .idle ∨ s.status = .returned) ∧ st = .waiting)) ∧
      (apply s e = { s with status := st, offers := o, counter := c, inflight := f, queue := q, claimed := cl,
                            promoted := pr, wake := w } ∨
       ∃ j ok, (e = .fin j ∨ e = .fail j) ∧ j ∈ s.running ∧ st = s.status ∧ w = true ∧
         apply s e = { s with status := st, offers := o, counter := c, inflight := f, queue := q, claimed := cl,
                              promoted := pr, wake := w, running := s.running.erase j,
                              done := s.done ++ [(j, ok)] }) := by
  cases e with
  | start =>
    rw [apply_start]
    by_cases h : s.status = .idle ∨ s.status = .returned
    · exact ⟨.waiting, _, _, _, _, _, _, _, .inr ⟨rfl, h, rfl⟩, .inl (if_pos h)⟩
    · exact ⟨s.status, _, _, _, _, _, _, _, .inl rfl, .inl (if_neg h)⟩
  | offer j => exact ⟨s.status, _, s.counter, s.inflight, s.queue, s.claimed, s.promoted, _, .inl rfl, .inl rfl⟩
  | submit p =>
    obtain ⟨c, f, q, w, e⟩ := submit_eq s p
    exact ⟨s.status, s.offers, c, f, q, s.claimed, s.promoted, w, .inl rfl, .inl e⟩
  | promote p =>
    obtain ⟨cl, pr, h, -⟩ := apply_promote s p
    obtain ⟨c, f, q, w, e⟩ := submit_eq s p
    exact ⟨s.status, s.offers, c, f, q, cl, pr, w, .inl rfl, .inl (by rw [h, e])⟩
  | fin j =>
    obtain ⟨pr, f, e⟩ := resolveFor_eq s j
    rcases moveDone_cases (resolveFor s j) j true with ⟨-, h⟩ | ⟨hj, h⟩
    · exact ⟨s.status, s.offers, s.counter, f, s.queue, s.claimed, pr, s.wake, .inl rfl, .inl (h.trans e)⟩
    · exact ⟨s.status, s.offers, s.counter, f, s.queue, s.claimed, pr, true, .inl rfl,
        .inr ⟨j, true, .inl rfl, by rw [e] at hj; exact hj, rfl, rfl, h.trans (by rw [e])⟩⟩
  | fail j =>
    cases j with
    | hash i => exact ⟨s.status, s.offers, s.counter, s.inflight, s.queue, s.claimed, s.promoted, s.wake, .inl rfl, .inl rfl⟩
    | step i =>
      rcases moveDone_cases s (.step i) false with ⟨-, h⟩ | ⟨hj, h⟩
      · exact ⟨s.status, s.offers, s.counter, s.inflight, s.queue, s.claimed, s.promoted, s.wake, .inl rfl, .inl h⟩
      · exact ⟨s.status, s.offers, s.counter, s.inflight, s.queue, s.claimed, s.promoted, true, .inl rfl,
          .inr ⟨_, false, .inr rfl, hj, rfl, rfl, h⟩⟩

theorem apply_frame (s : JL) (e : Ev) :
    (apply s e).njob = s.njob ∧ (apply s e).started = s.started ∧ (apply s e).handled = s.handled ∧
    (apply s e).retired = s.retired ∧ (apply s e).polls = s.polls ∧ (apply s e).draining = s.draining := by
  obtain ⟨_, _, _, _, _, _, _, _, -, h | ⟨_, _, -, -, -, -, h⟩⟩ := apply_eq s e <;> simp only [h, and_self]

theorem apply_status (s : JL) (e : Ev) :
    (apply s e).status = s.status ∨
    (e = .start ∧ (s.status = .idle ∨ s.status = .returned) ∧ (apply s e).status = .waiting) := by
  obtain ⟨st, _, _, _, _, _, _, _, hst, h | ⟨_, _, -, -, -, -, h⟩⟩ := apply_eq s e <;> rw [h] <;> exact hst

theorem apply_tasks (s : JL) (e : Ev) :
    ((apply s e).running = s.running ∧ (apply s e).done = s.done) ∨
    ∃ j ok, (e = .fin j ∨ e = .fail j) ∧ j ∈ s.running ∧ (apply s e).running = s.running.erase j ∧
      (apply s e).done = s.done ++ [(j, ok)] ∧ (apply s e).wake = true := by
  obtain ⟨_, _, _, _, _, _, _, _, -, h | ⟨j, ok, he, hj, -, rfl, h⟩⟩ := apply_eq s e <;> rw [h]
  · exact .inl ⟨rfl, rfl⟩
  · exact .inr ⟨j, ok, he, hj, rfl, rfl, rfl⟩

theorem apply_keeps (jl : JL) (e : Ev) (j : Job) (h1 : e ≠ .fin j) (h2 : e ≠ .fail j)
    (hj : j ∈ jl.running) : j ∈ (apply jl e).running := by
  rcases apply_tasks jl e with ⟨hr, -⟩ | ⟨j', ok, he, -, hr, -⟩
  · rw [hr]; exact hj
  · rw [hr]
    refine (List.mem_erase_of_ne fun hjj => ?_).2 hj
    rcases he with he | he
    · exact h1 (hjj ▸ he)
    · exact h2 (hjj ▸ he)

theorem settle_cases (s : JL) (fresh : Bool) :
    (settle s fresh = s ∧ (s.status = .waiting → fresh = false ∧ s.wake = false)) ∨
    (s.status = .waiting ∧ fresh = true ∧ settle s fresh = settleN (s.njob + 4) s) ∨
    (s.status = .waiting ∧ fresh = false ∧ s.wake = true ∧
      settle s fresh = settleN (s.njob + 4) { s with wake := false }) := by
  unfold settle
  by_cases hs : s.status = .waiting
  · rw [if_pos hs]
    cases fresh
    · cases hw : s.wake
      · exact .inl ⟨rfl, fun _ => ⟨rfl, rfl⟩⟩
      · exact .inr (.inr ⟨hs, rfl, rfl, rfl⟩)
    · exact .inr (.inl ⟨hs, rfl, rfl⟩)
  · rw [if_neg hs]; exact .inl ⟨rfl, fun h => absurd h hs⟩

theorem run_inv {P : JL → Prop} (njob : Nat) (evs : List Ev) (h0 : P { njob := njob })
    (hs : ∀ s e, P s → P (step s e)) : P (run njob evs) :=
  foldl_ind P step evs (fun s e _ => hs s e) h0

end StepupModel.B.JobLoop

namespace StepupModel.B.Build
open StepupModel.B.JobLoop

/-- A predicate of the job-loop state that the loop and its events keep and that does not look at
`offers`, `wake`, `status`. -/
structure Blind (P : JL → Prop) : Prop where
  offers : ∀ (jl : JL) (o : List Nat), P jl → P { jl with offers := o }
  wake : ∀ (jl : JL) (b : Bool), P jl → P { jl with wake := b }
  status : ∀ (jl : JL) (st : Status), P jl → P { jl with status := st }
  iter : ∀ (jl : JL), P jl → P (iter jl).1
  apply : ∀ (jl : JL) (e : JobLoop.Ev), P jl → P (JobLoop.apply jl e)

end StepupModel.B.Build

namespace StepupModel.B.JobLoop
open StepupModel.B.Build (Blind)

variable {P : JL → Prop} (B : Blind P)
include B

theorem settleN_blind (fuel : Nat) (s : JL) (h : P s) : P (settleN fuel s) := by
  have hi := B.iter s h
  fun_induction settleN fuel s with
  | case1 s => exact h
  | case2 fuel s s' e ih => rw [e] at hi; exact ih hi (B.iter s' hi)
  | case3 fuel s s' e => rw [e] at hi; exact B.status _ _ hi
  | case4 fuel s s' e => rw [e] at hi; exact B.status _ _ hi
  | case5 fuel s s' e => rw [e] at hi; exact B.status _ _ hi

theorem step_blind (s : JL) (e : Ev) (h : P s) : P (step s e) := by
  have ha := B.apply s e h
  unfold step
  rcases settle_cases (apply s e) (e = .start ∧ (s.status = .idle ∨ s.status = .returned)) with
    ⟨hs, -⟩ | ⟨-, -, hs⟩ | ⟨-, -, -, hs⟩
  · rw [hs]; exact ha
  · rw [hs]; exact settleN_blind B _ _ ha
  · rw [hs]; exact settleN_blind B _ _ (B.wake _ _ ha)

theorem run_blind (njob : Nat) (evs : List Ev) (h0 : P { njob := njob }) : P (run njob evs) :=
  run_inv njob evs h0 (step_blind B)

end StepupModel.B.JobLoop
