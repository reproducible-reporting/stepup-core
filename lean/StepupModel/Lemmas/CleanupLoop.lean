import StepupModel.Lemmas.ForIn
import StepupModel.Lemmas.OpCases
/-!
# The loops of `delete_detached`, taken apart

`Trellis.delete_detached` and `Workflow.delete_detached` are `for` loops with mutable variables.  Each loop body is
stated as a function, with an equation by `rfl` that the loop is `forIn` of it: a loop is then reasoned about with the
rules of `Lemmas/ForIn.lean`, one iteration by inversion of its body.  What a stage does to `to_be_deleted` is
a `Grows`.  What the loops compute is in `Lemmas/Cleanup.lean`.

Four notions declared here for the loops serve other modules as well (`Lemmas/StableInst.lean`, `Lemmas/ReachFrame.lean`,
`Lemmas/ReachDesc.lean`, `Lemmas/DisciplineStruct.lean`, `Props/C07.lean`): `Core` with `KState.cores`, the columns of the
rows that the loops read; `KState.hasKey`; and `KeysNodup`, one row per key.
-/
namespace StepupModel.K

/-- An entry of `to_be_deleted` as `Workflow.mark_dir_to_be_deleted` writes it. -/
def IsDirEntry (e : String × Option Nat) : Prop := ∃ d : String, e = (d ++ "/", none)

/-- The columns of a row that the cleanup loops read.  What the loops write between two deletions (the flags of
`deleteDeps`, `deleteHash`) changes none of them. -/
abbrev Core := Key × Option Key × Bool × FileState × Option Nat

def Node.core (n : Node) : Core := (n.key, n.creator, n.detached, n.fstate, n.fhash)

def KState.cores (s : KState) : List Core := s.nodes.map Node.core

theorem mem_cores {s : KState} {n : Node} (h : n ∈ s.nodes) : n.core ∈ s.cores := List.mem_map.2 ⟨n, h, rfl⟩

@[simp] theorem Node.core_key (n : Node) : n.core.1 = n.key := rfl
@[simp] theorem Node.core_creator (n : Node) : n.core.2.1 = n.creator := rfl
@[simp] theorem Node.core_detached (n : Node) : n.core.2.2.1 = n.detached := rfl
@[simp] theorem Node.core_fstate (n : Node) : n.core.2.2.2.1 = n.fstate := rfl
@[simp] theorem Node.core_fhash (n : Node) : n.core.2.2.2.2 = n.fhash := rfl

/-- The entry that `File.before_delete` queues for the file row with cleanup columns `c`.  A BUILT / OUTDATED row
without recorded hash has none. -/
def FileEntryOf (c : Core) (e : String × Option Nat) : Prop :=
  c.1.kind = .file ∧ e.1 = c.1.label ∧
    (c.2.2.2.1 = .volatile ∨ c.2.2.2.1 = .built ∨ c.2.2.2.1 = .outdated) ∧
    (e.2 = none ↔ c.2.2.2.1 = .volatile) ∧ (∀ h, e.2 = some h → c.2.2.2.2 = some h)

theorem FileEntryOf.congr {c c' : Core} {e : String × Option Nat} (h : FileEntryOf c e) (hk : c'.1 = c.1)
    (hs : c'.2.2.2 = c.2.2.2) : FileEntryOf c' e := by
  unfold FileEntryOf at *
  rw [hk, hs]
  exact h

/-- Paths that are in `to_be_deleted` once `before_delete` has run for the row with cleanup columns `c`. -/
def MustQueue (c : Core) (p : String) : Prop :=
  (∃ e, FileEntryOf c e ∧ e.1 = p) ∨
  (c.1.kind = .file ∧ ¬ (parentDir c.1.label = "" ∨ parentDir c.1.label = ".") ∧ p = parentDir c.1.label ++ "/")

theorem path_kept {q q' : List (String × Option Nat)} (hk : ∀ e ∈ q, ∃ e' ∈ q', e'.1 = e.1) {p : String}
    (h : ∃ e ∈ q, e.1 = p) : ∃ e' ∈ q', e'.1 = p :=
  let ⟨e, he, hp⟩ := h
  let ⟨e', he', h'⟩ := hk e he
  ⟨e', he', h'.trans hp⟩

/-- How a stage of cleanup changes `to_be_deleted`.  `keep` and `complete` speak of paths, not of entries: queueing
a path again replaces its entry (`to_be_deleted` is a `dict`). -/
structure Grows (E : String × Option Nat → Prop) (M : String → Prop) (q q' : List (String × Option Nat)) : Prop where
  sound : ∀ e ∈ q', e ∈ q ∨ IsDirEntry e ∨ E e
  keep : ∀ e ∈ q, ∃ e' ∈ q', e'.1 = e.1
  complete : ∀ p, M p → ∃ e' ∈ q', e'.1 = p

section
variable {E E' E'' : String × Option Nat → Prop} {M M' M'' : String → Prop} {q q' q'' : List (String × Option Nat)}

theorem Grows.refl (q : List (String × Option Nat)) (hM : ∀ p, ¬ M p) : Grows E M q q :=
  ⟨fun _ he => .inl he, fun e he => ⟨e, he, rfl⟩, fun p hp => absurd hp (hM p)⟩

theorem Grows.trans (h1 : Grows E M q q') (h2 : Grows E' M' q' q'') (hE : ∀ e, E e ∨ E' e → E'' e)
    (hM : ∀ p, M'' p → M p ∨ M' p) : Grows E'' M'' q q'' where
  sound e he := (h2.sound e he).elim (fun h => (h1.sound e h).imp id (Or.imp id fun g => hE e (.inl g)))
    (fun h => .inr (h.imp id fun g => hE e (.inr g)))
  keep e he := path_kept h2.keep (h1.keep e he)
  complete p hp := (hM p hp).elim (fun h => path_kept h2.keep (h1.complete p h)) (h2.complete p)

end

theorem queueDelete_grows (s : KState) (p : String) (h : Option Nat) :
    Grows (· = (p, h)) (· = p) s.toBeDeleted (s.queueDelete p h).toBeDeleted where
  sound e he := (List.mem_append.1 he).imp (fun h1 => (List.mem_filter.1 h1).1) fun h => .inr (List.mem_singleton.1 h)
  keep e he := by
    by_cases hp : e.1 = p
    · exact ⟨(p, h), List.mem_append_right _ (List.mem_singleton.2 rfl), hp.symm⟩
    · exact ⟨e, List.mem_append_left _ (List.mem_filter.2 ⟨he, decide_eq_true hp⟩), rfl⟩
  complete _ hp := ⟨(p, h), List.mem_append_right _ (List.mem_singleton.2 rfl), hp.symm⟩

@[simp] theorem queueDelete_nodes (s : KState) (p : String) (h : Option Nat) :
    (s.queueDelete p h).nodes = s.nodes := rfl
@[simp] theorem queueDelete_deps (s : KState) (p : String) (h : Option Nat) :
    (s.queueDelete p h).deps = s.deps := rfl

theorem markDir_grows (s : KState) (d : String) :
    Grows (fun _ => False) (fun p => ¬ (d = "" ∨ d = ".") ∧ p = d ++ "/") s.toBeDeleted
      (s.markDirToBeDeleted d).toBeDeleted := by
  unfold KState.markDirToBeDeleted
  by_cases hd : d = "" ∨ d = "."
  · rw [if_pos hd]; exact .refl _ fun _ h => h.1 hd
  · rw [if_neg hd]
    have g := queueDelete_grows s (d ++ "/") none
    exact ⟨fun e he => (g.sound e he).imp id fun h => .inl (h.elim id fun h => ⟨d, h⟩), g.keep, fun p hp => g.complete p hp.2⟩

@[simp] theorem markDir_nodes (s : KState) (d : String) : (s.markDirToBeDeleted d).nodes = s.nodes :=
  markDir_ind (C := fun t => t.nodes = s.nodes) s d rfl rfl
@[simp] theorem markDir_deps (s : KState) (d : String) : (s.markDirToBeDeleted d).deps = s.deps :=
  markDir_ind (C := fun t => t.deps = s.deps) s d rfl rfl

/-- One shape for all kinds of node: a static tree, for which nothing is queued, has `d = ""`, which
`markDirToBeDeleted` skips. -/
theorem beforeDelete_ok (s s' : KState) (n : Node) (h : s.beforeDelete n = .ok s') :
    ∃ s1 d, s' = s1.markDirToBeDeleted d ∧ (n.key.kind = .file → d = parentDir n.key.label) ∧
      ((s1 = s ∧ ¬ ∃ e, FileEntryOf n.core e) ∨
        ∃ r, s1 = s.queueDelete n.key.label r ∧ FileEntryOf n.core (n.key.label, r)) := by
  have notFile : n.key.kind ≠ .file → ¬ ∃ e, FileEntryOf n.core e := fun hk ⟨_, he⟩ => hk he.1
  unfold KState.beforeDelete at h
  cases hk : n.key.kind with
  | root => rw [hk] at h; cases h
  | st =>
    rw [hk] at h; obtain rfl := Except.ok.inj h
    exact ⟨s, "", (if_pos (Or.inl rfl)).symm, nofun,
      Or.inl ⟨rfl, notFile (hk ▸ nofun)⟩⟩
  | step =>
    rw [hk] at h; obtain rfl := Except.ok.inj h
    exact ⟨s, _, rfl, nofun, Or.inl ⟨rfl, notFile (hk ▸ nofun)⟩⟩
  | file =>
    rw [hk] at h; obtain rfl := Except.ok.inj h
    refine ⟨_, _, rfl, fun _ => rfl, ?_⟩
    have hashed : n.fstate = .built ∨ n.fstate = .outdated → ∀ v, n.fhash = some v →
        FileEntryOf n.core (n.key.label, some v) := fun hs v hv =>
      ⟨hk, rfl, Or.inr hs,
        ⟨nofun, fun h => hs.elim (fun g => nomatch g.symm.trans h) fun g => nomatch g.symm.trans h⟩,
        fun _ hh => Option.some.inj hh ▸ hv⟩
    have noHash : n.fstate ≠ .volatile → n.fhash = none → ¬ ∃ e, FileEntryOf n.core e :=
      fun hv hh ⟨e, _, _, _, h4, h5⟩ =>
        match he : e.2 with
        | none => hv (h4.1 he)
        | some v => nomatch (h5 v he).symm.trans hh
    have other : n.fstate ≠ .volatile → n.fstate ≠ .built → n.fstate ≠ .outdated →
        ¬ ∃ e, FileEntryOf n.core e :=
      fun h1 h2 h3 ⟨e, _, _, h, _, _⟩ => h.elim h1 fun h => h.elim h2 h3
    cases hst : n.fstate with
    | volatile => exact Or.inr ⟨none, rfl, hk, rfl, Or.inl hst, ⟨fun _ => hst, fun _ => rfl⟩, nofun⟩
    | built =>
      cases hh : n.fhash with
      | none => exact Or.inl ⟨rfl, noHash (hst ▸ nofun) hh⟩
      | some v => exact Or.inr ⟨some v, rfl, hashed (Or.inl hst) v hh⟩
    | outdated =>
      cases hh : n.fhash with
      | none => exact Or.inl ⟨rfl, noHash (hst ▸ nofun) hh⟩
      | some v => exact Or.inr ⟨some v, rfl, hashed (Or.inr hst) v hh⟩
    | undeclared | unconfirmed | missing | confirmed | planned =>
      exact Or.inl ⟨rfl, other (hst ▸ nofun) (hst ▸ nofun) (hst ▸ nofun)⟩

theorem beforeDelete_frame (s s' : KState) (n : Node) (h : s.beforeDelete n = .ok s') :
    s'.nodes = s.nodes ∧ s'.deps = s.deps := by
  obtain ⟨s1, d, rfl, _, h1⟩ := beforeDelete_ok s s' n h
  rcases h1 with ⟨rfl, _⟩ | ⟨r, rfl, _⟩ <;> exact ⟨markDir_nodes _ _, markDir_deps _ _⟩

theorem beforeDelete_grows {s s' : KState} {n : Node} (h : s.beforeDelete n = .ok s') :
    Grows (FileEntryOf n.core) (MustQueue n.core) s.toBeDeleted s'.toBeDeleted := by
  obtain ⟨s1, d, rfl, hd, h1⟩ := beforeDelete_ok s s' n h
  have g1 : Grows (FileEntryOf n.core) (fun p => ∃ e, FileEntryOf n.core e ∧ e.1 = p) s.toBeDeleted s1.toBeDeleted := by
    rcases h1 with ⟨rfl, hno⟩ | ⟨r, rfl, hr⟩
    · exact .refl _ fun _ ⟨e, he, _⟩ => hno ⟨e, he⟩
    · exact (Grows.refl (E := fun _ => False) (M := fun _ => False) _ fun _ => id).trans (queueDelete_grows s _ r)
        (fun e he => he.elim False.elim fun h => h ▸ hr) fun p ⟨e, he, hp⟩ => .inr (hp.symm.trans he.2.1)
  exact g1.trans (markDir_grows s1 d) (fun e he => he.elim id False.elim) fun p hp =>
    hp.imp id fun ⟨hk, hnd, hp⟩ => hd hk ▸ ⟨hnd, hp⟩

theorem deleteDeps_spec (s : KState) (p : Dep → Bool) :
    (s.deleteDeps p).cores = s.cores ∧ (s.deleteDeps p).deps = s.deps.filter (fun d => !p d) ∧
      (s.deleteDeps p).toBeDeleted = s.toBeDeleted :=
  deleteDeps_ind (C := fun t => t.cores = s.cores ∧ t.deps = s.deps.filter (fun d => !p d) ∧ t.toBeDeleted = s.toBeDeleted)
    s p ⟨rfl, rfl, rfl⟩ fun t _ _ ht =>
      ⟨(show (t.flagDepEndpoints _ _).cores = t.cores from map_view_ite Node.core _ _ t.nodes fun _ _ _ => rfl).trans ht.1, ht.2⟩

/-- The `WHERE` clause of the query of `Trellis.delete_detached` (detached, no products, no outgoing dependency),
on the cleanup columns. -/
def isLeaf (cs : List Core) (deps : List Dep) (c : Core) : Bool :=
  decide (c.2.2.1 = true ∧ (cs.all (fun m => !(decide (m.2.1 = some c.1 ∧ m.1 ≠ c.1)))) = true ∧
    (!deps.any (fun d => d.src = c.1)) = true)

theorem isLeaf_iff (cs : List Core) (deps : List Dep) (c : Core) : isLeaf cs deps c = true ↔
    c.2.2.1 = true ∧ (∀ m ∈ cs, ¬ (m.2.1 = some c.1 ∧ m.1 ≠ c.1)) ∧ ∀ d ∈ deps, d.src ≠ c.1 := by
  simp only [isLeaf, decide_eq_true_eq, List.all_eq_true, Bool.not_eq_true', decide_eq_false_iff_not,
    List.any_eq_false, ne_eq]

theorem exists_of_not_isLeaf {cs : List Core} {deps : List Dep} {c : Core} (h : isLeaf cs deps c = false)
    (hd : c.2.2.1 = true) : (∃ m ∈ cs, m.2.1 = some c.1 ∧ m.1 ≠ c.1) ∨ ∃ d ∈ deps, d.src = c.1 := by
  have hnl := mt (isLeaf_iff cs deps c).2 (Bool.eq_false_iff.1 h)
  rw [not_and, Classical.not_and_iff_not_or_not] at hnl
  refine (hnl hd).imp (fun hm => ?_) fun hd => ?_
  · obtain ⟨m, hm⟩ := Classical.not_forall.1 hm
    obtain ⟨hm, hmc⟩ := Classical.not_imp.1 hm
    exact ⟨m, hm, Classical.not_not.1 hmc⟩
  · obtain ⟨d, hd⟩ := Classical.not_forall.1 hd
    obtain ⟨hd, hsrc⟩ := Classical.not_imp.1 hd
    exact ⟨d, hd, Classical.not_not.1 hsrc⟩

/-- The rows that the query of one pass of `Trellis.delete_detached` selects. -/
def KState.cands (s : KState) : List Node := s.nodes.filter fun n =>
    n.detached ∧ (s.products n.key).isEmpty ∧ !(s.deps.any fun d => d.src = n.key)

theorem cands_eq (s : KState) : s.cands = s.nodes.filter (fun n => isLeaf s.cores s.deps n.core) := by
  have products_isEmpty : ∀ k, (s.products k).isEmpty =
      s.cores.all fun m => !(decide (m.2.1 = some k ∧ m.1 ≠ k)) := fun k => by
    rw [Bool.eq_iff_iff, List.isEmpty_iff, KState.products, List.filter_eq_nil_iff, KState.cores, List.all_map,
      List.all_eq_true]
    refine forall₂_congr fun n _ => ?_
    simp only [decide_eq_true_eq, Function.comp, Bool.not_eq_true', decide_eq_false_iff_not]
    rfl
  unfold KState.cands
  refine List.filter_congr fun n _ => ?_
  rw [products_isEmpty]
  rfl

theorem mem_cands_iff (s : KState) (a : Node) : a ∈ s.cands ↔
    a ∈ s.nodes ∧ a.detached = true ∧ (∀ m ∈ s.cores, ¬ (m.2.1 = some a.key ∧ m.1 ≠ a.key)) ∧
      ∀ d ∈ s.deps, d.src ≠ a.key := by
  rw [cands_eq, List.mem_filter, isLeaf_iff]
  rfl

theorem mem_cands_products (s : KState) (a : Node) (ha : a ∈ s.cands) :
    ∀ m ∈ s.cores, ¬ (m.2.1 = some a.key ∧ m.1 ≠ a.key) :=
  ((mem_cands_iff s a).1 ha).2.2.1

theorem mem_cands (s : KState) (a : Node) (ha : a ∈ s.cands) :
    a ∈ s.nodes ∧ a.core ∈ s.cores ∧ a.detached = true ∧ (∀ d ∈ s.deps, d.src ≠ a.key) :=
  have h := (mem_cands_iff s a).1 ha
  ⟨h.1, mem_cores h.1, h.2.1, h.2.2.2⟩

/-- One deletion of `Trellis.delete_detached`: `del_all_sources`, `before_delete`, `DELETE FROM node`, then
`creator_is.discard` of the row and `creator_is.add` of its creator. -/
def passBody (n : Node) (b : KState × List Key) : M (ForInStep (KState × List Key)) :=
  let st := b.1.deleteDeps fun d => d.snk = n.key
  do
    let st ← st.beforeDelete n
    let st : KState := { st with nodes := st.nodes.filter (·.key ≠ n.key) }
    let creators := b.2.filter (· ≠ n.key)
    match n.creator with
    | some c => pure (ForInStep.yield (st, (creators.filter (· ≠ c)) ++ [c]))
    | none => pure (ForInStep.yield (st, creators))

theorem deletePass_eq (s : KState) : s.deletePass = (do
    let r ← forIn s.cands (s, ([] : List Key)) passBody
    pure (r.1, r.2, !s.cands.isEmpty)) := rfl

theorem passBody_ok {n : Node} {b : KState × List Key} {r : ForInStep (KState × List Key)}
    (h : passBody n b = .ok r) :
    ∃ st1, (b.1.deleteDeps fun d => d.snk = n.key).beforeDelete n = .ok st1 ∧
      r = .yield ({ st1 with nodes := st1.nodes.filter (·.key ≠ n.key) },
        match n.creator with
        | some c => ((b.2.filter (· ≠ n.key)).filter (· ≠ c)) ++ [c]
        | none => b.2.filter (· ≠ n.key)) := by
  unfold passBody at h
  obtain ⟨st1, hb, h⟩ := bind_ok_inv h
  refine ⟨st1, hb, ?_⟩
  cases hcr : n.creator <;> rw [hcr] at h <;> exact (Except.ok.inj h).symm

theorem mem_remember (cs : List Key) (k : Key) (c : Option Key) (x : Key) :
    x ∈ (match c with
        | some c => ((cs.filter (· ≠ k)).filter (· ≠ c)) ++ [c]
        | none => cs.filter (· ≠ k)) ↔ (x ∈ cs ∧ x ≠ k) ∨ c = some x := by
  cases c with
  | none => simp
  | some c =>
    by_cases hx : x = c
    · simp [hx]
    · simp [hx, Ne.symm hx]

def KState.hasKey (s : KState) (k : Key) : Prop := ∃ c ∈ s.cores, c.1 = k

theorem has_iff (s : KState) (k : Key) : s.has k = true ↔ s.hasKey k := by
  unfold KState.has KState.find? KState.hasKey KState.cores
  rw [List.find?_isSome]
  constructor
  · rintro ⟨n, hn, hk⟩
    exact ⟨n.core, mem_cores hn, of_decide_eq_true hk⟩
  · rintro ⟨c, hc, hk⟩
    obtain ⟨n, hn, rfl⟩ := List.mem_map.1 hc
    exact ⟨n, hn, decide_eq_true hk⟩

/-- Keys are unique.  In the database they are: `CREATE UNIQUE INDEX node_kind_label ON node (kind, label)` in
`trellis.py`. -/
def KeysNodup (s : KState) : Prop := (s.cores.map (·.1)).Nodup

def baseBody (_x : Nat) (b : KState × List Key) : M (ForInStep (KState × List Key)) := do
  let r ← b.1.deletePass
  match r with
  | (st', cs, some_) =>
    let creators := b.2.filter fun c => st'.has c ∨ cs.contains c
    let creators := creators.filter (fun c => !cs.contains c) ++ cs
    if !some_ then pure (.done (st', creators)) else pure (.yield (st', creators))

def lostBody (c : Key) (st : KState) : M (ForInStep KState) :=
  if st.has c then do
    let st ← st.afterLostProduct c
    pure (.yield st)
  else pure (.yield st)

theorem deleteDetachedBase_eq (s : KState) : s.deleteDetachedBase =
    (forIn (List.range (s.nodes.length + 1)) (s, ([] : List Key)) baseBody >>= fun r =>
      (forIn r.2 r.1 lostBody >>= fun r2 => pure r2)) := rfl

def mergeCreators (st' : KState) (cs csp : List Key) : List Key :=
  ((cs.filter fun c => st'.has c ∨ csp.contains c).filter (fun c => !csp.contains c)) ++ csp

theorem mem_mergeCreators (st' : KState) (cs csp : List Key) (x : Key) :
    x ∈ mergeCreators st' cs csp ↔ x ∈ csp ∨ (x ∈ cs ∧ st'.hasKey x) := by
  unfold mergeCreators
  simp only [List.mem_append, List.mem_filter, Bool.decide_or, Bool.decide_eq_true, Bool.or_eq_true,
    Bool.not_eq_true', List.contains_eq_mem, decide_eq_true_eq, decide_eq_false_iff_not, has_iff]
  by_cases hx : x ∈ csp
  · simp [hx]
  · simp [hx]

theorem baseBody_ok (x : Nat) (b : KState × List Key) (r : ForInStep (KState × List Key))
    (h : baseBody x b = .ok r) :
    ∃ st' csp bb, b.1.deletePass = .ok (st', csp, bb) ∧
      r = (if bb then ForInStep.yield else ForInStep.done) (st', mergeCreators st' b.2 csp) := by
  unfold baseBody at h
  obtain ⟨⟨st', csp, bb⟩, hp, h⟩ := bind_ok_inv h
  refine ⟨st', csp, bb, hp, ?_⟩
  cases bb <;> exact (Except.ok.inj h).symm

theorem lostBody_ok {c : Key} {st : KState} {r : ForInStep KState} (h : lostBody c st = .ok r) :
    r = .yield st ∧ (c.kind = .step → st.has c = false) ∨ c.kind = .step ∧ r = .yield (st.deleteHash c) := by
  unfold lostBody at h
  split at h
  · obtain ⟨s1, hl, h⟩ := bind_ok_inv h
    cases h
    rcases afterLostProduct_ok hl with ⟨hk, rfl⟩ | ⟨hk, rfl⟩
    · exact Or.inr ⟨hk, rfl⟩
    · exact Or.inl ⟨rfl, fun hs => nomatch hk.symm.trans hs⟩
  · cases h
    exact Or.inl ⟨rfl, fun _ => Bool.eq_false_iff.2 ‹_›⟩

def treeInner (f : Node) (st : KState) : M (ForInStep KState) :=
  if !((st.sinksOf f.key).any fun k => !(st.isDetached k)) then do
    let st ← st.detach f.key
    pure (ForInStep.yield st)
  else pure (ForInStep.yield st)

def treeOuter (t : Node) (st : KState) : M (ForInStep KState) :=
  let files := (st.products t.key).mergeSort fun a b => decide (b.key.label ≤ a.key.label)
  do
    let r ← forIn files st treeInner
    pure (ForInStep.yield r)

theorem deleteDetached_eq (s : KState) : s.deleteDetached =
    (forIn (s.nodes.filter fun n => n.key.kind = .st ∧ !n.detached) s treeOuter >>= fun st =>
      st.deleteDetachedBase) := rfl

theorem treeOuter_ind {C : KState → Prop} {t : Node} {st : KState} {r : ForInStep KState}
    (hdetach : ∀ f ∈ st.products t.key, ∀ b s1, C b → b.detach f.key = .ok s1 → C s1) (hp : C st)
    (h : treeOuter t st = .ok r) : C r.value := by
  obtain ⟨a, ha, h⟩ := bind_ok_inv h
  cases h
  refine forIn_except_inv _ treeInner C st a hp (fun f hf b r' hb hfb => ?_) ha
  unfold treeInner at hfb
  split at hfb
  · obtain ⟨s1, hd, hfb⟩ := bind_ok_inv hfb
    cases hfb
    exact hdetach f (List.mem_mergeSort.1 hf) b s1 hb hd
  · cases hfb; exact hb

/-! ## What the primitive writes keep, `delete_detached` keeps -/

section Induct
variable {P : KState → Prop}
  (hdeps : ∀ s0 n b, P s0 → n ∈ s0.cands → (∀ d ∈ b.deps, d ∈ s0.deps) → (∀ m ∈ b.cores, m ∈ s0.cores) → P b →
    P (b.deleteDeps fun d => d.snk = n.key))
  (hqueue : ∀ s p h, P s → P (s.queueDelete p h))
  (hremove : ∀ s k, (∀ d ∈ s.deps, d.snk ≠ k ∧ d.src ≠ k) → (∀ p ∈ s.nodes, p.creator = some k → p.key = k) → P s →
    P { s with nodes := s.nodes.filter (·.key ≠ k) })
  (hpass : ∀ s r, P s → s.deletePass = .ok r → P r.1) (hhash : ∀ s k, P s → P (s.deleteHash k))
  (hdetach : ∀ s k s', P s → s.detach k = .ok s' → P s')

section
include hdetach

theorem detachTrees_ind (L : List Node) (s st : KState) (hp : P s) (h : forIn L s treeOuter = .ok st) : P st :=
  forIn_except_inv L treeOuter P s st hp
    (fun _ _ _ _ hb hf => treeOuter_ind (fun f _ b s1 hb hd => hdetach b f.key s1 hb hd) hb hf) h

/-- `Workflow.delete_detached` is `Trellis.delete_detached` run from a state that has whatever `detach` keeps. -/
theorem deleteDetached_split_of (s s' : KState) (hp : P s) (h : s.deleteDetached = .ok s') :
    ∃ st, P st ∧ st.deleteDetachedBase = .ok s' := by
  rw [deleteDetached_eq] at h
  obtain ⟨st, hl, h⟩ := bind_ok_inv h
  exact ⟨st, detachTrees_ind hdetach _ s st hp hl, h⟩

end

section
include hpass hhash

theorem deleteDetachedBase_of_pass (s s' : KState) (hp : P s)
    (h : s.deleteDetachedBase = .ok s') : P s' := by
  rw [deleteDetachedBase_eq] at h
  obtain ⟨a, ha, h⟩ := bind_ok_inv h
  obtain ⟨a2, ha2, h⟩ := bind_ok_inv h
  cases h
  have hpa : P a.1 := by
    refine forIn_except_inv _ baseBody (fun b => P b.1) (s, []) a hp (fun x _ b r' hb hf => ?_) ha
    obtain ⟨st', csp, bb, hdp, rfl⟩ := baseBody_ok x b r' hf
    cases bb <;> exact hpass _ _ hb hdp
  refine forIn_except_inv a.2 lostBody P a.1 s' hpa (fun c _ b r' hb hf => ?_) ha2
  rcases lostBody_ok hf with ⟨rfl, _⟩ | ⟨_, rfl⟩
  · exact hb
  · exact hhash _ _ hb

include hdetach

theorem deleteDetached_of_pass (s s' : KState) (hp : P s) (h : s.deleteDetached = .ok s') : P s' :=
  let ⟨st, hst, hb⟩ := deleteDetached_split_of hdetach s s' hp h
  deleteDetachedBase_of_pass hpass hhash st s' hst hb

end

include hdeps hqueue hremove

/-- Where the side conditions of `hremove` come from: when a row is removed, `deleteDeps` has dropped its incoming
edges, and it had no outgoing edge and no product in `s`, the state the candidates were selected on; edges and rows
of the pass state are edges and rows of `s` (the loop invariant).  Hypotheses, in order: `hdeps hqueue hremove`; the
`s0` of `hdeps` is this `s`, the state the current pass started from. -/
theorem deletePass_ind (s : KState) (r : KState × List Key × Bool) (hp : P s) (h : s.deletePass = .ok r) : P r.1 := by
  rw [deletePass_eq] at h
  obtain ⟨a, ha, h⟩ := bind_ok_inv h
  cases h
  refine (forIn_except_inv s.cands passBody
    (fun b => P b.1 ∧ (∀ d ∈ b.1.deps, d ∈ s.deps) ∧ ∀ m ∈ b.1.cores, m ∈ s.cores) (s, []) a
    ⟨hp, fun _ hd => hd, fun _ hm => hm⟩ (fun n hn b r' ⟨hb, hsub, hco⟩ hf => ?_) ha).1
  obtain ⟨st1, hb1, rfl⟩ := passBody_ok hf
  have hsp := beforeDelete_frame _ _ _ hb1
  have hd1 : st1.deps = b.1.deps.filter fun d => !decide (d.snk = n.key) := hsp.2.trans (deleteDeps_spec b.1 _).2.1
  have hc1 : st1.cores = b.1.cores := (congrArg (List.map Node.core) hsp.1).trans (deleteDeps_spec b.1 _).1
  refine ⟨?_, fun d hd => hsub d (List.mem_filter.1 (hd1 ▸ hd)).1, fun m hm => ?_⟩
  · refine hremove _ n.key (fun d hd => ?_) (fun p hpm hpc => ?_) ?_
    · obtain ⟨hd0, hsnk⟩ := List.mem_filter.1 (hd1 ▸ hd)
      exact ⟨of_decide_eq_false ((Bool.not_eq_true' _).mp hsnk), (mem_cands s n hn).2.2.2 d (hsub d hd0)⟩
    · have hpc0 : p.core ∈ s.cores := hco _ (hc1 ▸ List.mem_map_of_mem (f := Node.core) hpm)
      exact Decidable.by_contra fun hne => mem_cands_products s n hn p.core hpc0 ⟨hpc, hne⟩
    · obtain ⟨s1, dir, rfl, _, h1⟩ := beforeDelete_ok _ _ _ hb1
      have hdd := hdeps s n b.1 hp hn hsub hco hb
      have : P s1 := by
        rcases h1 with ⟨rfl, _⟩ | ⟨_, rfl, _⟩
        · exact hdd
        · exact hqueue _ _ _ hdd
      exact markDir_ind s1 dir this (hqueue _ _ _ this)
  · obtain ⟨x, hx, rfl⟩ := List.mem_map.1 hm
    exact hco _ (hc1 ▸ List.mem_map_of_mem (f := Node.core) (List.mem_filter.1 hx).1)

include hhash hdetach

/-- Hypotheses, in order: `hdeps hqueue hremove hhash hdetach` of the `variable` block, `hpass` not being one (a use:
`deleteDetached_safe`).  In `hdeps`, `s0` is the state the current pass started from, not the state of the call. -/
theorem deleteDetached_ind (s s' : KState) (hp : P s) (h : s.deleteDetached = .ok s') : P s' :=
  deleteDetached_of_pass (deletePass_ind hdeps hqueue hremove) hhash hdetach s s' hp h

end Induct

end StepupModel.K
