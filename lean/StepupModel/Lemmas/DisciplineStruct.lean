import StepupModel.Lemmas.DisciplineBase
import StepupModel.Lemmas.StableInst
import StepupModel.Lemmas.Cleanup
import StepupModel.Lemmas.ReachDesc
/-!
# The structural invariant, and the changes of a state that keep it

`Struct s` is what the flag discipline needs of the graph, flags apart.  Its ownership clause `own` (a file with an
edge from a step is owned by that step, when it has a creator at all, and is not in a static state) is why the step
subtree that `Step.detach` and `Step.reattach` flag contains the producers of the files they hide or reveal: a
producer is the creator (`covers_setRow`, `Lemmas/DisciplineDetach.lean`).  `kinds`, `root` and `roots` (the creator
of a step is a step or the root, which is its own creator and the only row of its kind) are why that subtree, which
follows creator links from step to step, reaches every step among the recursive products (`desc_steps_in_subtree`,
in the same file).
`dkinds` and `closed`: dependency rows join a file and a step (or a tree and a file) that both have a row.

Two states are compared by `StructRel` (rows one by one by `StructRow`, no dependency row new) or, when the rows of
one key are free, by `Keep k`; `struct_transfer` turns either into the preservation of `Struct`.  `create_walk`
gives the intermediate states of an accepted `Trellis.create k` once, and `create_post`, `create_deps`,
`create_file_role`, `create_spec` read it; `Lemmas/OwnershipEdge.lean`, `Lemmas/EverOutputBase.lean` and
`Lemmas/SuccOutputsOps.lean` read invariants of their own off those, `StructRel` and `Keep`.
-/
namespace StepupModel.K.Discipline
open StepupModel.K.MetaAfter StepupModel.K.Sk

theorem deps_modify (s : KState) (k : Key) (f : Node → Node) : (s.modify k f).deps = s.deps := rfl

theorem deps_modifyWhere (s : KState) (p : Node → Bool) (f : Node → Node) : (s.modifyWhere p f).deps = s.deps := rfl

theorem deps_setDetachedRow (s : KState) (x : Key) (d : Bool) : (s.setDetachedRow x d).deps = s.deps :=
  setDetachedRow_ind (C := fun t => t.deps = s.deps) s x d rfl rfl fun _ h => h

theorem kn_of_ku {s : KState} (h : KeysUnique s) : KeysNodup s := (keysNodup_iff s).2 h

theorem ku_of_kn {s : KState} (h : KeysNodup s) : KeysUnique s := (keysNodup_iff s).1 h

structure Struct (s : KState) : Prop where
  keys : KeysUnique s
  own : ∀ d ∈ s.deps, d.src.kind = .step → ∀ f, s.find? d.snk = some f →
    (∀ c, f.creator = some c → c = d.src) ∧ f.fstate.role? ≠ some .static
  kinds : ∀ n ∈ s.nodes, n.key.kind = .step → ∀ c, n.creator = some c → c.kind = .step ∨ c = rootKey
  root : ∀ n ∈ s.nodes, n.key = rootKey → n.creator = some rootKey
  dkinds : ∀ d ∈ s.deps, depKindOk d.src.kind d.snk.kind = true
  closed : ∀ d ∈ s.deps, (s.find? d.src).isSome = true ∧ (s.find? d.snk).isSome = true
  roots : ∀ n ∈ s.nodes, n.key.kind = .root → n.key = rootKey

def StructRow (n n' : Node) : Prop :=
  n'.key = n.key ∧ n'.fstate.role? = n.fstate.role? ∧
    (n'.creator = n.creator ∨ (n'.creator = none ∧ n.key ≠ rootKey))

theorem StructRow.refl (n : Node) : StructRow n n := ⟨rfl, rfl, .inl rfl⟩

theorem StructRow.trans (a b c : Node) (h1 : StructRow a b) (h2 : StructRow b c) : StructRow a c := by
  refine ⟨h2.1.trans h1.1, h2.2.1.trans h1.2.1, ?_⟩
  rcases h2.2.2 with h | h
  · rcases h1.2.2 with h' | h'
    · exact .inl (h.trans h')
    · exact .inr ⟨h.trans h'.1, h'.2⟩
  · exact .inr ⟨h.1, by rw [← h1.1]; exact h.2⟩

theorem SoftRow.struct {n n' : Node} (h : SoftRow n n') : StructRow n n' := ⟨h.1, h.2.2.1.2, .inl h.2.2.1.1⟩

theorem StructRow.creator_of {n n' : Node} {c : Key} (h : StructRow n n') (hc : n'.creator = some c) : n.creator = some c :=
  h.2.2.elim (fun e => e ▸ hc) fun e => nomatch e.1.symm.trans hc

structure StructRel (s s' : KState) : Prop where
  deps : ∀ d ∈ s'.deps, d ∈ s.deps
  rows : All₂ StructRow s.nodes s'.nodes

theorem StructRel.refl (s : KState) : StructRel s s := ⟨fun _ h => h, all₂_refl StructRow.refl _⟩

theorem StructRel.trans {a b c : KState} (h1 : StructRel a b) (h2 : StructRel b c) : StructRel a c :=
  ⟨fun d hd => h1.deps d (h2.deps d hd), all₂_trans StructRow.trans h1.rows h2.rows⟩

theorem SoftRel.struct {s s' : KState} (h : SoftRel s s') : StructRel s s' :=
  ⟨fun d hd => by rw [h.deps] at hd; exact hd, all₂_imp (fun _ _ => SoftRow.struct) h.rows⟩

theorem StructRel.find? {s s' : KState} (h : StructRel s s') (k : Key) : OptRel StructRow (s.find? k) (s'.find? k) :=
  find?_all₂ (fun _ _ hr => hr.1) k h.rows

theorem structRel_mapNodes (s : KState) (g : Node → Node) (hg : ∀ n ∈ s.nodes, StructRow n (g n)) :
    StructRel s { s with nodes := s.nodes.map g } := ⟨fun _ h => h, all₂_map g _ hg⟩

theorem structRel_modify (s : KState) (k : Key) (f : Node → Node) (hf : ∀ n, StructRow n (f n)) :
    StructRel s (s.modify k f) :=
  ⟨fun _ h => h, all₂_modify StructRow.refl s k f fun n _ => hf n⟩

theorem StructRel.keysUnique {s s' : KState} (h : StructRel s s') (hk : KeysUnique s) : KeysUnique s' :=
  keysUnique_of_all₂ (fun _ _ hr => hr.1) h.rows hk

/-- Outside the keys of `X` the rows are related by `StructRow`; of the rows of `X` the clauses of `Struct` are asked
outright (`hroot`, `hown`, `hkind`, `hhas`). -/
theorem struct_transfer {s s' : KState} (X : Key → Prop) (hS : Struct s) (hkeys : KeysUnique s')
    (ho : Outside X StructRow s s') (hdeps : ∀ d ∈ s'.deps, d ∈ s.deps)
    (hroot : ∀ n' ∈ s'.nodes, X n'.key → n'.key.kind ≠ .root)
    (hown : ∀ d ∈ s'.deps, d.src.kind = .step → X d.snk → ∀ f, s'.find? d.snk = some f →
      (∀ c, f.creator = some c → c = d.src) ∧ f.fstate.role? ≠ some .static)
    (hkind : ∀ nk ∈ s'.nodes, X nk.key → nk.key.kind = .step → ∀ c, nk.creator = some c → c.kind = .step ∨ c = rootKey)
    (hhas : ∀ d ∈ s'.deps, ∀ x, x = d.src ∨ x = d.snk → X x → (s'.find? x).isSome = true) : Struct s' := by
  have outside : ∀ n' ∈ s'.nodes, n'.key.kind = .root → ¬ X n'.key := fun n' hn' hr hx => hroot n' hn' hx hr
  obtain ⟨hfind, hmem⟩ := ho
  refine ⟨hkeys, ?_, ?_, ?_, fun d hd => hS.dkinds d (hdeps d hd), ?_, ?_⟩
  · intro d hd hsrc f' hf'
    by_cases hsk : X d.snk
    · exact hown d hd hsrc hsk f' hf'
    · obtain ⟨f, hf, hrel⟩ := optRel_right (hf' ▸ hfind d.snk hsk)
      obtain ⟨hown', hrole⟩ := hS.own d (hdeps d hd) hsrc f hf
      exact ⟨fun c hc => hown' c (hrel.creator_of hc), by rw [hrel.2.1]; exact hrole⟩
  · intro n' hn' hs c hc
    by_cases hnk : X n'.key
    · exact hkind n' hn' hnk hs c hc
    · obtain ⟨n, hn, hr⟩ := hmem n' hn' hnk
      exact hS.kinds n hn (hr.1 ▸ hs) c (hr.creator_of hc)
  · intro n' hn' hk
    obtain ⟨n, hn, hr⟩ := hmem n' hn' (outside n' hn' (by rw [hk]; rfl))
    rcases hr.2.2 with hcr | hcr
    · rw [hcr]; exact hS.root n hn (hr.1 ▸ hk)
    · exact absurd (hr.1 ▸ hk) hcr.2
  · intro d hd
    have hc := hS.closed d (hdeps d hd)
    have key : ∀ x, x = d.src ∨ x = d.snk → (s.find? x).isSome = true → (s'.find? x).isSome = true := by
      intro x hxd hx
      by_cases hX : X x
      · exact hhas d hd x hxd hX
      · rw [optRel_isSome (hfind x hX)]; exact hx
    exact ⟨key _ (.inl rfl) hc.1, key _ (.inr rfl) hc.2⟩
  · intro n' hn' hr
    obtain ⟨n, hn, hrow⟩ := hmem n' hn' (outside n' hn' hr)
    rw [hrow.1]; exact hS.roots n hn (hrow.1 ▸ hr)

theorem struct_of_rel {s s' : KState} (h : StructRel s s') (hS : Struct s) : Struct s' :=
  struct_transfer (fun _ => False) hS (h.keysUnique hS.keys) (.of_rows (fun _ _ hr => hr.1) h.rows) h.deps (fun _ _ h => h.elim) (fun _ _ _ h => h.elim)
    (fun _ _ h => h.elim) (fun _ _ _ _ h => h.elim)

structure Keep (k : Key) (s s' : KState) : Prop where
  find : ∀ c, c ≠ k → OptRel StructRow (s.find? c) (s'.find? c)
  mem : ∀ n' ∈ s'.nodes, n'.key ≠ k → ∃ n ∈ s.nodes, StructRow n n'
  deps : ∀ d ∈ s'.deps, d ∈ s.deps

theorem Keep.outside {k : Key} {s s' : KState} (h : Keep k s s') : Outside (· = k) StructRow s s' := ⟨h.find, h.mem⟩

theorem Keep.of_outside {k : Key} {s s' : KState} (h : Outside (· = k) StructRow s s') (hd : ∀ d ∈ s'.deps, d ∈ s.deps) :
    Keep k s s' := ⟨h.find, h.mem, hd⟩

theorem Keep.refl (k : Key) (s : KState) : Keep k s s := .of_outside (.refl StructRow.refl s) fun _ h => h

theorem Keep.trans {k : Key} {a b c : KState} (h1 : Keep k a b) (h2 : Keep k b c) : Keep k a c :=
  .of_outside (h1.outside.trans (fun _ _ h => h.1) StructRow.trans h2.outside) fun d hd => h1.deps d (h2.deps d hd)

theorem keep_of_rel (k : Key) {s s' : KState} (h : StructRel s s') : Keep k s s' :=
  .of_outside (.of_rows (fun _ _ h => h.1) h.rows) h.deps

theorem keep_modify (s : KState) (k : Key) (f : Node → Node) (hf : ∀ n, n.key = k → (f n).key = k) :
    Keep k s (s.modify k f) :=
  .of_outside (.modify StructRow.refl s k f hf fun _ _ hx => absurd rfl hx) fun _ h => h

theorem struct_of_keep {k : Key} {s s' : KState} (hS : Struct s) (hkeep : Keep k s s') (hkeys : KeysUnique s')
    (hkroot : k.kind ≠ .root)
    (hkown : ∀ d ∈ s'.deps, d.src.kind = .step → d.snk = k →
      ∀ f, s'.find? k = some f → (∀ c, f.creator = some c → c = d.src) ∧ f.fstate.role? ≠ some .static)
    (hkkind : k.kind = .step → ∀ nk, s'.find? k = some nk → ∀ c, nk.creator = some c → c.kind = .step ∨ c = rootKey)
    (hkhas : (s.find? k).isSome = true → (s'.find? k).isSome = true) : Struct s' := by
  refine struct_transfer (· = k) hS hkeys hkeep.outside hkeep.deps (fun _ _ hc => hc ▸ hkroot)
    (fun d hd hsrc hsk f hf => hkown d hd hsrc hsk f (hsk ▸ hf))
    (fun nk hnk hk hs => hkkind (hk ▸ hs) nk (hk ▸ find?_of_mem hkeys hnk)) ?_
  rintro d hd x hx rfl
  refine hkhas ?_
  rcases hx with rfl | rfl
  · exact (hS.closed d (hkeep.deps d hd)).1
  · exact (hS.closed d (hkeep.deps d hd)).2

theorem struct_remove {s : KState} {k : Key} (hS : Struct s) (hdeps : ∀ d ∈ s.deps, d.snk ≠ k ∧ d.src ≠ k) :
    Struct ({ s with nodes := s.nodes.filter (·.key ≠ k) } : KState) := by
  refine struct_transfer (· = k) hS ?_ (.remove StructRow.refl s rfl) (fun _ h => h) ?_ ?_ ?_ ?_
  · have := hS.keys
    unfold KeysUnique at *
    exact List.Nodup.sublist (List.Sublist.map _ List.filter_sublist) this
  · exact fun n' hn' hk => absurd hk (by simpa using (List.mem_filter.1 hn').2)
  · exact fun d hd _ hsk => absurd hsk (hdeps d hd).1
  · exact fun nk hnk hk => absurd hk (by simpa using (List.mem_filter.1 hnk).2)
  · rintro d hd x (rfl | rfl) hx
    · exact absurd hx (hdeps d hd).2
    · exact absurd hx (hdeps d hd).1

theorem structRel_setDetachedRow (s : KState) (x : Key) (d : Bool) : StructRel s (s.setDetachedRow x d) :=
  setDetachedRow_ind (C := StructRel s) s x d (.refl s) (structRel_modify s x _ fun _ => ⟨rfl, rfl, .inl rfl⟩)
    fun t h => h.trans (flagReadySinks_rel t x).struct

theorem deps_setDetachedRec (s : KState) (k : Key) (d : Bool) : (s.setDetachedRec k d).deps = s.deps :=
  setDetachedRec_ind (C := fun t => t.deps = s.deps) s k d rfl fun t x _ h => (deps_setDetachedRow t x d).trans h

theorem structRel_setDetachedRec (s : KState) (k : Key) (d : Bool) : StructRel s (s.setDetachedRec k d) :=
  setDetachedRec_ind (C := StructRel s) s k d (.refl s) fun t x _ h => h.trans (structRel_setDetachedRow t x d)

theorem structRel_setCreator_none {s s' : KState} {k : Key} (h : s.setCreator k none true = .ok s') :
    StructRel s s' := by
  obtain ⟨hall, rfl⟩ := setCreator_ok h
  have hk : k ≠ rootKey := fun he => (creatorAllowed_none hall).2 (he ▸ rfl)
  refine StructRel.trans (structRel_mapNodes s _ fun n _ => ?_) (structRel_setDetachedRow _ k true)
  split
  · rename_i hn
    exact ⟨rfl, rfl, .inr ⟨rfl, hn ▸ hk⟩⟩
  · exact StructRow.refl n

theorem structRel_detach {s s' : KState} {k : Key} (h : s.detach k = .ok s') : StructRel s s' :=
  detach_of (P := StructRel s) (fun _ _ hp hc => hp.trans (structRel_setCreator_none hc))
    (fun t hp => hp.trans (structRel_setDetachedRec t k true))
    (fun _ _ hp hf => hp.trans (detachFlags_rel hf).struct)
    s s' (.refl s) h

theorem detach_deps {s s' : KState} {k : Key} (h : s.detach k = .ok s') : s'.deps = s.deps :=
  (detach_rowMap h).deps

theorem structRel_foldl_detach (L : List Node) : ∀ s s' : KState,
    L.foldlM (fun st (p : Node) => st.detach p.key) s = .ok s' → StructRel s s' := by
  intro s s' h
  exact foldlM_keeps (fun st => StructRel s st) (fun st (p : Node) => st.detach p.key) L
    (fun st p st' _ hst hd => hst.trans (structRel_detach hd)) s s' (StructRel.refl s) h

theorem detachAll_deps (L : List Node) {s s' : KState}
    (h : L.foldlM (fun st (p : Node) => st.detach p.key) s = .ok s') : s'.deps = s.deps :=
  foldlM_keeps (fun st => st.deps = s.deps) (fun st (p : Node) => st.detach p.key) L
    (fun _ _ _ _ hst hd => (detach_deps hd).trans hst) s s' rfl h

theorem deps_deleteDeps (s : KState) (p : Dep → Bool) : (s.deleteDeps p).deps = s.deps.filter fun d => !p d :=
  (deleteDeps_spec s p).2.1

theorem structRel_deleteDeps (s : KState) (p : Dep → Bool) : StructRel s (s.deleteDeps p) :=
  ⟨fun _ hd => (List.mem_filter.1 (deps_deleteDeps s p ▸ hd)).1, all₂_imp (fun _ _ => SoftRow.struct) (deleteDeps_flags s p).1.rows⟩

theorem out_setDetachedRow (X : Key → Prop) (s : KState) (x : Key) (d : Bool) (hX : X x) :
    Outside X SoftRow s (s.setDetachedRow x d) :=
  setDetachedRow_ind (C := Outside X SoftRow s) s x d (.refl SoftRow.refl s)
    (.modify SoftRow.refl s x _ (fun _ h => h) fun _ _ hx => absurd hX hx)
    fun t h => h.strans (.soft (flagReadySinks_rel t x))

theorem out_setCreator {X : Key → Prop} {s s' : KState} {k : Key} {c : Option Key} {d : Bool} (hX : X k)
    (h : s.setCreator k c d = .ok s') :
    Outside X SoftRow s s' ∧ s'.deps = s.deps ∧ (KeysUnique s → KeysUnique s') := by
  obtain ⟨_, rfl⟩ := setCreator_ok h
  exact ⟨(Outside.modify SoftRow.refl s k (fun n => { n with creator := c }) (fun _ h => h)
    fun _ _ hx => absurd hX hx).strans (out_setDetachedRow X _ k d hX), deps_setDetachedRow _ _ _, fun hk =>
    (keysNodup_iff _).1 (stable_keysNodup.toW.setCreator_preserves rfl k c d rfl s _ ((keysNodup_iff s).2 hk) h)⟩

theorem out_relink {X : Key → Prop} {s s1 s2 : KState} {k : Key} {c old : Option Key} {d : Bool} (hX : X k)
    (h1 : s.setCreator k c d = .ok s1) (h2 : s1.lostProduct old = .ok s2) :
    Outside X SoftRow s s2 ∧ s2.deps = s.deps ∧ (KeysUnique s → KeysUnique s2) :=
  have ⟨r1, d1, hk1⟩ := out_setCreator hX h1
  have r2 := lostProduct_rel h2
  ⟨r1.strans (.soft r2), r2.deps.trans d1, fun hk => r2.keysUnique (hk1 hk)⟩

structure InitRel (k : Key) (s s' : KState) (f : Node → Node) : Prop where
  key : ∀ m, m.key = k → (f m).key = k
  creator : ∀ m, s.find? k = some m → (f m).creator = m.creator
  rel : SoftRel (s.modify k f) s'

theorem initRow_ok {s s' : KState} {k : Key} {init : Init} {existed : Bool} (hk : KeysUnique s)
    (h : s.initRow k init existed = .ok s') :
    ∃ f, InitRel k s s' f ∧
      (∀ i, init = .step i → ∀ n' ∈ s'.nodes, n'.key = k → n'.checkAfter = true) ∧
      (∀ st, init = .file st → ∀ nk, s'.find? k = some nk → nk.fstate.role? = (s.keptState k st existed).role?) := by
  have noop : s' = s → InitRel k s s' fun m => m := fun e =>
    ⟨fun _ h => h, fun _ _ => rfl, by rw [modify_id, e]; exact SoftRel.refl s⟩
  cases init with
  | root => exact ⟨_, noop (pure_ok_iff.1 h).symm, (fun _ e => nomatch e), fun _ e => nomatch e⟩
  | tree => exact ⟨_, noop (pure_ok_iff.1 h).symm, (fun _ e => nomatch e), fun _ e => nomatch e⟩
  | step i =>
    cases pure_ok_iff.1 h
    refine ⟨_, ⟨?_, ?_, SoftRel.refl (s.initStepRow k i)⟩, fun _ _ n' hn' he => ?_, fun _ e => nomatch e⟩
    · exact fun _ h => h
    · exact fun _ _ => rfl
    · obtain ⟨m, _, rfl⟩ := List.mem_map.1 hn'
      by_cases hm : m.key = k
      · rw [if_pos hm]
      · rw [if_neg hm] at he; exact absurd he hm
  | file st =>
    obtain ⟨s1, h1, h2⟩ := initFileRow_ok h
    -- the write of the file row, as a rewrite of the rows of `k` followed by a soft change
    have key : ∀ g : Node → Node, (∀ m, m.key = k → (g m).key = k) → (∀ m, s.find? k = some m → (g m).creator = m.creator) →
        (∀ m, s.find? k = some m → (g m).fstate = s.keptState k st existed) → SoftRel (s.modify k g) s1 →
        ∃ f, InitRel k s s' f ∧ (∀ i, Init.file st = .step i → ∀ n' ∈ s'.nodes, n'.key = k → n'.checkAfter = true) ∧
          ∀ st', Init.file st = .file st' → ∀ nk, s'.find? k = some nk →
            nk.fstate.role? = (s.keptState k st' existed).role? := by
      intro g hgk hgc hst r1
      have hk1 : KeysUnique s1 := r1.keysUnique (keysUnique_modify k g hgk hk)
      have r2 : SoftRel s1 s' := by
        rcases h2 with ⟨_, h2⟩ | ⟨_, rfl⟩
        · exact softRel_of_sp (fun _ => markFileOutdated_soft k) hk1 h2
        · exact SoftRel.refl _
      refine ⟨g, ⟨hgk, hgc, r1.trans r2⟩, (fun _ e => nomatch e), fun st' e nk hnk => ?_⟩
      cases e
      have hrel := (r1.trans r2).find? k
      rw [hnk, find?_modify_self s k g hgk] at hrel
      obtain ⟨m', hm', hrel⟩ := optRel_right hrel
      obtain ⟨m, hf, rfl⟩ := Option.map_eq_some_iff.1 hm'
      rw [hrel.2.2.1.2, hst m hf]
    rcases writeInitialFile_ok h1 with ⟨_, h1⟩ | ⟨_, _, rfl⟩
    · rcases writeFile_ok h1 with ⟨hf, rfl⟩ | ⟨n, n', hf, hw, rfl⟩
      · exact key (fun m => m) (fun _ h => h) (fun _ _ => rfl) (fun m hm => by rw [hf] at hm; cases hm)
          (by rw [modify_id]; exact SoftRel.refl _)
      · have hn' := fileRowWrite_eq hw
        refine key (fun _ => n') (fun _ _ => (fileRowWrite_key n n' _ _ hw).trans (find_key hf)) (fun m hm => ?_) (fun m hm => ?_) ?_
        · rw [hf] at hm; cases hm; rw [hn']
        · rw [hn']
        · split
          · exact flagReadySinks_rel _ k
          · exact SoftRel.refl _
    · exact key (fun m => { m with fstate := s.keptState k st existed, fhash := none }) (fun _ h => h) (fun _ _ => rfl)
        (fun _ _ => rfl) (flagReadySinks_rel _ k)

/-- What is tracked through `create k creator _` (`create_walk`).  `cr` allows `none` because the writes on the way
are followed as `StructRel`, which lets a creator be cut. -/
structure CInv (k : Key) (creator : Option Key) (s0 t : KState) : Prop where
  keep : Keep k s0 t
  cr : ∀ nk, t.find? k = some nk → nk.creator = creator ∨ nk.creator = none
  has : (t.find? k).isSome = true

theorem CInv.rel {k : Key} {creator : Option Key} {s0 t t' : KState} (h : CInv k creator s0 t) (hr : StructRel t t') :
    CInv k creator s0 t' := by
  refine ⟨h.keep.trans (keep_of_rel k hr), ?_, ?_⟩
  · intro nk hnk
    obtain ⟨m, hf, hrel⟩ := optRel_right (hnk ▸ hr.find? k)
    rcases hrel.2.2 with hc | hc
    · rw [hc]; exact h.cr m hf
    · exact .inr hc.1
  · rw [optRel_isSome (hr.find? k)]; exact h.has

theorem CInv.modify {k : Key} {creator : Option Key} {s0 t : KState} (h : CInv k creator s0 t) (f : Node → Node)
    (hk : ∀ m, m.key = k → (f m).key = k) (hc : ∀ m, t.find? k = some m → (f m).creator = m.creator) :
    CInv k creator s0 (t.modify k f) := by
  refine ⟨h.keep.trans (keep_modify t k f hk), ?_, ?_⟩
  · intro nk hnk
    rw [find?_modify_self _ _ f hk] at hnk
    cases hf : t.find? k with
    | none => rw [hf] at hnk; cases hnk
    | some m =>
      rw [hf] at hnk
      simp only [Option.map_some, Option.some.injEq] at hnk
      rw [← hnk, hc m hf]; exact h.cr m hf
  · rw [find?_modify_self _ _ f hk]
    have := h.has
    cases hf : t.find? k with
    | none => rw [hf] at this; cases this
    | some m => rfl

theorem CInv.soft {k : Key} {creator : Option Key} {s0 t t' : KState} (h : CInv k creator s0 t) (hr : SoftRel t t') :
    CInv k creator s0 t' := h.rel hr.struct

theorem initRow_cinv {k : Key} {creator : Option Key} {s0 t t' : KState} {init : Init} {existed : Bool}
    (hku : KeysUnique t) (h : CInv k creator s0 t) (hi : t.initRow k init existed = .ok t') :
    CInv k creator s0 t' ∧ ∀ d ∈ t'.deps, d ∈ t.deps := by
  obtain ⟨f, hf, _, _⟩ := initRow_ok hku hi
  exact ⟨(h.modify f hf.key hf.creator).soft hf.rel, fun d hd => by rw [hf.rel.deps] at hd; exact hd⟩

theorem creatorKind_of_find {s : KState} (hS : Struct s) {k ck : Key} {cn : Node} (hk : k.kind = .step)
    (hf : s.find? ck = some cn) (hok : creatorKindOk k.kind ck.kind = true) : ck.kind = .step ∨ ck = rootKey := by
  have hck : cn.key = ck := find_key hf
  rw [hk] at hok
  unfold creatorKindOk at hok
  cases hkk : ck.kind with
  | step => exact .inl rfl
  | root => exact .inr (hck ▸ hS.roots cn (find_mem hf) (hck ▸ hkk))
  | file => rw [hkk] at hok; cases hok
  | st => rw [hkk] at hok; cases hok

theorem creatorKind_of_allowed {s : KState} (hS : Struct s) {k ck : Key} {d : Bool} (hk : k.kind = .step)
    (h : s.creatorAllowed k (some ck) d = true) : ck.kind = .step ∨ ck = rootKey := by
  rcases creatorAllowed_some h with ⟨hr, _⟩ | ⟨_, _, ⟨cn, hfc⟩, hok⟩
  · rw [hk] at hr; cases hr
  · exact creatorKind_of_find hS hk hfc hok

theorem setCreator_cinv {s s1 : KState} {k : Key} {c : Option Key} {d : Bool} {n : Node} (hf : s.find? k = some n)
    (h : s.setCreator k c d = .ok s1) : CInv k c s s1 := by
  obtain ⟨_, rfl⟩ := setCreator_ok h
  refine CInv.rel ⟨keep_modify s k (fun n => { n with creator := c }) (fun _ hm => hm), fun nk hnk => ?_, ?_⟩
    (structRel_setDetachedRow _ k _)
  · rw [find?_modify_self _ _ (fun n => { n with creator := c }) (fun _ hm => hm), hf] at hnk
    exact .inl (Option.some.inj hnk ▸ rfl)
  · rw [find?_modify_self _ _ (fun n => { n with creator := c }) (fun _ hm => hm), hf]; rfl

/-- The states that an accepted `Trellis.create` passes through, up to `initialize_row`.  Recycling a detached row:
the row of `k` gets its creator (`s1`), the old creator loses a product (`s2`), the dependency rows into `k` go and
the products of `k` are detached (`s3`).  Otherwise the row is appended. -/
theorem create_walk {s s' : KState} {k : Key} {creator : Option Key} {init : Init} (hku : KeysUnique s)
    (h : s.create k creator init = .ok s') :
    (∃ n s1 s2 s3, s.find? k = some n ∧ n.detached = true ∧
      s.setCreator k creator (s.creatorDetached creator) = .ok s1 ∧ s1.lostProduct n.creator = .ok s2 ∧
      (s2.deleteDeps fun dp => dp.snk = k).detachProducts k = .ok s3 ∧ s3.initRow k init true = .ok s' ∧
      KeysUnique s3 ∧ CInv k creator s s3 ∧ ∀ dp ∈ s3.deps, dp ∈ s.deps ∧ dp.snk ≠ k) ∨
    (s.find? k = none ∧ s.insertAllowed k creator = true ∧ (s.appendNode k creator).initRow k init false = .ok s' ∧
      KeysUnique (s.appendNode k creator) ∧ CInv k creator s (s.appendNode k creator)) := by
  rcases create_ok h with ⟨n, hf, hdet, _, h⟩ | ⟨hf, hins, h⟩
  · obtain ⟨s1, s2, s3, h1, h2, h3, h4⟩ := recycleCore_ok h
    obtain ⟨_, d12, hk12⟩ := out_relink (X := fun x => x = k) rfl h1 h2
    have r3 : StructRel (s2.deleteDeps fun dp => dp.snk = k) s3 := structRel_foldl_detach _ _ _ h3
    refine .inl ⟨n, s1, s2, s3, hf, hdet, h1, h2, h3, h4, r3.keysUnique ((structRel_deleteDeps s2 _).keysUnique (hk12 hku)),
      (((setCreator_cinv hf h1).soft (lostProduct_rel h2)).rel (structRel_deleteDeps s2 _)).rel r3, fun dp hd => ?_⟩
    have hd3 := r3.deps dp hd
    rw [deps_deleteDeps] at hd3
    obtain ⟨hd2, hp⟩ := List.mem_filter.1 hd3
    rw [d12] at hd2
    exact ⟨hd2, by simpa using hp⟩
  · obtain ⟨nk, hnk, hcr⟩ := find?_append_self creator hf
    refine .inr ⟨hf, hins, h, ku_of_kn (stable_keysNodup.appendNode s k creator hf hins (kn_of_ku hku)),
      .of_outside (.appendNode StructRow.refl s creator rfl) fun _ h => h, fun nk' hnk' => ?_, by rw [hnk]; rfl⟩
    rw [hnk] at hnk'; cases hnk'; exact .inl hcr

theorem create_post {s s' : KState} {k : Key} {creator : Option Key} {init : Init} (hku : KeysUnique s)
    (h : s.create k creator init = .ok s') :
    CInv k creator s s' ∧ (∀ d ∈ s'.deps, d ∈ s.deps ∧ (d.snk = k → s.find? k = none)) ∧
      ∃ (t : KState) (e : Bool), KeysUnique t ∧ (t.find? k).isSome = true ∧ t.initRow k init e = .ok s' := by
  rcases create_walk hku h with ⟨_, _, _, s3, _, _, _, _, _, h4, hk3, c3, hd3⟩ | ⟨hf, _, h4, hkA, cA⟩
  · obtain ⟨c4, hd4⟩ := initRow_cinv hk3 c3 h4
    exact ⟨c4, fun d hd => ⟨(hd3 d (hd4 d hd)).1, fun hk => absurd hk (hd3 d (hd4 d hd)).2⟩, s3, true, hk3, c3.has, h4⟩
  · obtain ⟨c4, hd4⟩ := initRow_cinv hkA cA h4
    exact ⟨c4, fun d hd => ⟨hd4 d hd, fun _ => hf⟩, _, false, hkA, cA.has, h4⟩

theorem create_deps {s s' : KState} {k : Key} {creator : Option Key} {init : Init} (hku : KeysUnique s)
    (h : s.create k creator init = .ok s') : ∀ d ∈ s.deps, d.snk ≠ k → d ∈ s'.deps := by
  intro d hd hk
  rcases create_walk hku h with ⟨_, s1, s2, s3, _, _, h1, h2, h3, h4, hk3, _⟩ | ⟨_, _, h4, hkA, _⟩
  · obtain ⟨f, hf4, _, _⟩ := initRow_ok hk3 h4
    rw [hf4.rel.deps]
    show d ∈ s3.deps
    rw [detachAll_deps _ h3, deps_deleteDeps, (out_relink (X := fun x => x = k) rfl h1 h2).2.1]
    exact List.mem_filter.2 ⟨hd, by simpa using hk⟩
  · obtain ⟨f, hf4, _, _⟩ := initRow_ok hkA h4
    rw [hf4.rel.deps]
    exact hd

/-- The second case is a recycled row that keeps its BUILT/OUTDATED memory (`File.initialize_row` asked for
UNDECLARED or PLANNED): it is left in the role of an output, which the old row had. -/
theorem create_file_role {s s' : KState} {k : Key} {creator : Option Key} {st : FileState}
    (hku : KeysUnique s) (h : s.create k creator (.file st) = .ok s') :
    ∀ nk, s'.find? k = some nk → nk.fstate.role? = st.role? ∨
      ((st = .undeclared ∨ st = .planned) ∧ nk.fstate.role? = some .output ∧
        ∃ n, s.find? k = some n ∧ n.fstate.role? = some .output) := by
  intro nk hnk
  rcases create_walk hku h with ⟨n, s1, s2, s3, hf, _, h1, h2, h3, h4, hk3, _⟩ | ⟨hf, _, h4, hkA, _⟩
  · obtain ⟨_, _, _, hrole⟩ := initRow_ok hk3 h4
    rw [hrole st rfl nk hnk]
    -- the row of `k` keeps its role up to `initialize_row`
    obtain ⟨_, rfl⟩ := setCreator_ok h1
    have hrel := ((structRel_setDetachedRow _ k _).trans ((lostProduct_rel h2).struct.trans
      ((structRel_deleteDeps s2 _).trans (structRel_foldl_detach _ _ _ h3)))).find? k
    rw [find?_modify_self _ _ (fun n => { n with creator := creator }) (fun _ hm => hm), hf] at hrel
    obtain ⟨m, hm, hrow⟩ := optRel_left hrel
    unfold KState.keptState
    rw [hm]
    dsimp only [Option.map_some]
    split
    · rename_i hc
      have hmo : m.fstate.role? = some .output := by rcases hc.2.2 with e | e <;> rw [e] <;> rfl
      exact .inr ⟨hc.2.1, hmo, n, hf, hrow.2.1.symm.trans hmo⟩
    · exact .inl rfl
  · obtain ⟨_, _, _, hrole⟩ := initRow_ok hkA h4
    rw [hrole st rfl nk hnk, keptState_fresh]; exact .inl rfl

theorem create_spec {s s' : KState} {k : Key} {creator : Option Key} {init : Init} (hS : Struct s)
    (h : s.create k creator init = .ok s') :
    CInv k creator s s' ∧ (∀ d ∈ s'.deps, d ∈ s.deps ∧ d.snk ≠ k) ∧
      (∀ st, init = .file st → (st = .planned ∨ st = .volatile) →
        ∀ nk, s'.find? k = some nk → nk.fstate.role? ≠ some .static) ∧
      (k.kind = .step → ∀ ck, creator = some ck → ck.kind = .step ∨ ck = rootKey) := by
  obtain ⟨hc, hdeps, _⟩ := create_post hS.keys h
  refine ⟨hc, fun d hd => ⟨(hdeps d hd).1, fun hsk => ?_⟩, fun st hi hst nk hnk => ?_, fun hks ck hck => ?_⟩
  · have := (hS.closed d (hdeps d hd).1).2
    rw [hsk, (hdeps d hd).2 hsk] at this; cases this
  · subst hi
    rcases create_file_role hS.keys h nk hnk with hr | ⟨_, hr, _⟩ <;> rw [hr]
    · rcases hst with rfl | rfl <;> decide
    · decide
  · subst hck
    rcases create_walk hS.keys h with ⟨_, _, _, _, _, _, h1, _⟩ | ⟨_, hins, _⟩
    · exact creatorKind_of_allowed hS hks (setCreator_ok h1).1
    · obtain ⟨hh, hok⟩ := insertAllowed_some hins
      cases hfc : s.find? ck with
      | none => exact absurd hh ((find?_none_iff s ck).1 hfc)
      | some cn => exact creatorKind_of_find hS hks hfc hok

theorem create_struct {s s' : KState} {k : Key} {creator : Option Key} {init : Init} (hS : Struct s)
    (hi : InitOK init) (hkroot : k.kind ≠ .root) (h : s.create k creator init = .ok s') : Struct s' := by
  obtain ⟨hc, hdeps, _, hkind⟩ := create_spec hS h
  have hkeys := ku_of_kn (StableCG.create_preserves stable_keysNodup.toC k creator init hi s s' (kn_of_ku hS.keys) h)
  refine struct_of_keep hS hc.keep hkeys hkroot ?_ ?_ (fun _ => hc.has)
  · intro d hd _ hsk
    exact absurd hsk (hdeps d hd).2
  · intro hks nk hnk c hcc
    rcases hc.cr nk hnk with hx | hx
    · exact hkind hks c (hx ▸ hcc)
    · rw [hx] at hcc; cases hcc

theorem reattach_spec {s s' : KState} {k c : Key} (hS : Struct s) (hkstep : k.kind = .step)
    (h : s.reattach k c = .ok s') :
    CInv k (some c) s s' ∧ (∀ d ∈ s'.deps, d ∈ s.deps) ∧ (c.kind = .step ∨ c = rootKey) := by
  obtain ⟨n, hf, _, _, h⟩ := reattach_ok h
  obtain ⟨s1, s2, h1, h2, h3⟩ := reattachCore_ok h
  obtain ⟨_, h3⟩ := (flagIfStep_ok h3).resolve_left fun h => h.1 hkstep
  have c4 := ((((setCreator_cinv hf h1).soft (lostProduct_rel h2)).rel
    (structRel_setDetachedRec s2 k (s.isDetached c)))).soft (flagChecksWithProducts_rel h3)
  exact ⟨c4, c4.keep.deps, creatorKind_of_allowed hS hkstep (setCreator_ok h1).1⟩

theorem reattach_struct {s s' : KState} {k c : Key} (hS : Struct s) (hkstep : k.kind = .step)
    (h : s.reattach k c = .ok s') : Struct s' := by
  obtain ⟨hc, hdeps, hkind⟩ := reattach_spec hS hkstep h
  have hkeys := ku_of_kn (stable_keysNodup.toW.reattach_preserves Sub.top k c rfl s s' (kn_of_ku hS.keys) h)
  refine struct_of_keep hS hc.keep hkeys (by rw [hkstep]; intro hh; cases hh) ?_ ?_ (fun _ => hc.has)
  · intro d hd hsrc hsk
    have := hS.dkinds d (hdeps d hd)
    rw [hsrc, hsk, hkstep] at this
    cases this
  · intro _ nk hnk c' hcc
    rcases hc.cr nk hnk with hx | hx
    · rw [hx] at hcc; cases hcc; exact hkind
    · rw [hx] at hcc; cases hcc

theorem create_keep {s s' : KState} {k : Key} {creator : Option Key} {init : Init} (hku : KeysUnique s)
    (h : s.create k creator init = .ok s') : Keep k s s' := (create_post hku h).1.keep

/-- `register_static_tree` after its guards, for a predicate `P` that `Trellis.create` of a tree and the hand-over of
static files keep (the ownership and output invariants): the files handed over are static (`treeGuard`) and `create`
has not changed their role. -/
theorem treeCreateHandOver_of {P : KState → Prop} (hkeys : ∀ s, P s → KeysUnique s)
    (hcreate : ∀ (p : String) (c : Key), Preserves P (fun s => s.create (treeKey p) (some c) .tree))
    (hhand : ∀ (s : KState) (tk : Key) (hs : List Key),
      (∀ k ∈ hs, ∀ m, s.find? k = some m → m.fstate.role? = some .static) → P s → P (s.handOver tk hs))
    {s s1 : KState} {creator : Key} {path : String} {hs : List Key} (hp : P s)
    (hg : s.treeGuard creator path = .ok (some hs)) (h1 : s.create (treeKey path) (some creator) .tree = .ok s1) :
    P (s1.handOver (treeKey path) hs) := by
  refine hhand s1 _ hs (fun k hk m hm => ?_) (hcreate _ _ s s1 hp h1)
  obtain ⟨n, hn, hnk, hkind, hrole⟩ := treeGuard_static hg k hk
  have hne : k ≠ treeKey path := by
    intro he
    have : n.key.kind = Kind.st := by rw [hnk, he]; rfl
    rw [hkind] at this; cases this
  have hrel := (create_keep (hkeys s hp) h1).find k hne
  rw [← hnk, find?_of_mem (hkeys s hp) hn, hnk, hm] at hrel
  exact hrel.2.1.trans hrole

theorem cut_of_structRel {s s' : KState} {k : Key} (hr : StructRel s s')
    (h : ∀ n ∈ s.nodes, n.key = k → n.creator = none) : ∀ n ∈ s'.nodes, n.key = k → n.creator = none := by
  intro n' hn' hk
  obtain ⟨n, hn, h1, _, h3⟩ := all₂_mem_right hr.rows n' hn'
  rcases h3 with h3 | h3
  · rw [h3]; exact h n hn (h1 ▸ hk)
  · exact h3.1

theorem detach_cuts {s s' : KState} {k : Key} (hku : KeysUnique s) (h : s.detach k = .ok s') :
    ∀ n ∈ s'.nodes, n.key = k → n.creator = none := by
  obtain ⟨n, s1, hf, h1, h2⟩ := detach_ok h
  refine cut_of_structRel (detachFlags_rel h2).struct ?_
  rcases detachCore_ok h1 with ⟨hnone, hs1⟩ | ⟨_, sc, hsc, rfl⟩
  · intro m hm hmk
    have : s.find? k = some m := hmk ▸ find?_of_mem hku (hs1 ▸ hm)
    rw [hf] at this; cases this; exact hnone
  · obtain ⟨_, rfl⟩ := setCreator_ok hsc
    have hcut := cut_of_structRel (k := k) (structRel_setDetachedRow (s.modify k fun n => { n with creator := none }) k true)
      (fun m' hm' hmk => by
        obtain ⟨m, hm, rfl⟩ := mem_modify hm'
        by_cases hmk' : m.key = k
        · rw [if_pos hmk']
        · rw [if_neg hmk'] at hmk; exact absurd hmk hmk')
    split
    · exact cut_of_structRel (structRel_setDetachedRec _ k true) hcut
    · exact hcut

end StepupModel.K.Discipline
