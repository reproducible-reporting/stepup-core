import StepupModel.Lemmas.StableW
/-!
What a view of the rows cannot tell.  `Node.detach` and the link writes of `Node.reattach` and of the recycling
`Trellis.create` rewrite the columns `creator`, `detached`, the three check flags and the stored step hash of some rows,
in place, and touch nothing else: `RowMap Node.noLink s0` survives these kinds of write, so the walk of
`Lemmas/StableW.lean` carries it (`rowMap_stableW`, `detach_rowMap`), and every view of the row list that shows none of
these columns (`Keeps v Node.noLink`) is the same before and after.
-/
namespace StepupModel.K

variable {β : Type} {v : Node → β}

/-- `DELETE FROM step_hash` writes `shash` and the cached `hasHash` only. -/
theorem sameView_deleteHash (hv : ∀ n : Node, v { n with shash := none, hasHash := false } = v n) (s : KState) (k : Key) :
    SameView v s (s.deleteHash k) :=
  sameView_modify s k _ fun n => ite_ind (fun m => v m = v n) (fun _ => hv n) fun _ => rfl

/-- The row without the columns that the link writes touch. -/
def Node.noLink (n : Node) : Node :=
  { n with creator := none, detached := false, checkReady := false, checkSafe := false, checkAfter := false,
           shash := none, hasHash := false }

/-- The kinds of write of `Node.detach`, the adoption of `Node.reattach`, and `DELETE FROM step_hash`. -/
def linkA : WClass → Bool
  | .flags | .detached | .cut | .adopt | .adoptFile | .deleteHash => true
  | _ => false

theorem rowMap_stableW (s0 : KState) : StableW linkA (fun _ _ => True) (fun _ _ => True) (RowMap Node.noLink s0) where
  flags _ s p f hf hp := hp.trans (RowMap.modifyWhere s p f (hf.keeps fun _ _ _ => rfl))
  payload := absent
  cache := absent
  writeFile := absent
  keepRole := absent
  outdate := absent
  stepWrite _ _ _ _ st _ h := by cases st <;> cases h
  stepInit := absent
  setHash := absent
  deleteHash _ s k hp := hp.trans (RowMap.modify s k _ fun n => ite_both (fun m : Node => m.noLink = n.noLink) rfl rfl)
  bumpDefer := absent
  hold := absent
  release := absent
  recycled := absent
  insertDep a _ _ _ h := absurd h (ite_ind (fun w => ¬ linkA w = true) (fun _ => nofun) (fun _ => nofun))
  deleteDeps := absent
  delStepDeps := absent
  setDynamic := absent
  queueDelete := absent
  clearQueue := absent
  updateMetaReady := absent
  setDetachedRow _ s k d hp := hp.trans (setDetachedRow_ind (C := RowMap Node.noLink s) s k d (.refl s)
    (RowMap.modify s k _ fun _ => rfl) fun t ht => ht.trans (RowMap.modifyWhere t _ _ fun _ => rfl))
  creator s k c _ _ _ hp := hp.trans (RowMap.modify s k _ fun _ => rfl)
  handOverRow := absent
  freshFile := absent
  appendNode := absent
  removeNode := absent

theorem detach_rowMap {s s' : KState} {k : Key} (h : s.detach k = .ok s') : RowMap Node.noLink s s' :=
  (rowMap_stableW s).detach_preserves (by decide) k s s' (.refl s) h

variable (hv : Keeps v Node.noLink)
include hv

theorem RowMap.blind {s s' : KState} (h : RowMap Node.noLink s s') : SameView v s s' :=
  (h.mono (.of_blind _ hv)).sameView.1

theorem sameView_flagReadySinks (s : KState) (k : Key) : SameView v s (s.flagReadySinks k) :=
  sameView_modifyWhere s _ _ (.of_erase hv fun _ => rfl)

theorem sameView_flagDepEndpoints (s : KState) (a b : Key) : SameView v s (s.flagDepEndpoints a b) :=
  sameView_modifyWhere s _ _ (.of_erase hv fun _ => rfl)

theorem sameView_deleteDeps (s : KState) (p : Dep → Bool) : SameView v s (s.deleteDeps p) :=
  deleteDeps_ind (C := SameView v s) s p ⟨rfl, rfl⟩ fun t a b ht => ht.trans (sameView_flagDepEndpoints hv t a b)

theorem sameView_setDetachedRow (s : KState) (k : Key) (d : Bool) : SameView v s (s.setDetachedRow k d) :=
  ((rowMap_stableW s).setDetachedRow rfl s k d (.refl s)).blind hv

theorem sameView_setCreator {s s' : KState} {k : Key} {c : Option Key} {d : Bool} (h : s.setCreator k c d = .ok s') :
    SameView v s s' :=
  ((rowMap_stableW s).setCreator_preserves rfl k c d (creatorW_const rfl rfl rfl _ c) s s' (.refl s) h).blind hv

theorem sameView_detach {s s' : KState} {k : Key} (h : s.detach k = .ok s') : SameView v s s' :=
  (detach_rowMap h).blind hv

end StepupModel.K
