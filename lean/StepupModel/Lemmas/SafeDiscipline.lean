import StepupModel.Lemmas.SafeDisciplineOps
import StepupModel.Lemmas.MetaSafeReach
/-!
# The flag discipline of `_update_meta_safe` over requests and histories

`MetaSafe.CacheInvSafeW s` (`Lemmas/MetaSafe.lean`): a step that is neither flagged `_check_safe` nor below
a flagged step satisfies its two local equations (`_safe`, `_safe_ignoring_hold` against the cached pair,
the state and the hold counter of its creator step).  It is the hypothesis of the refresh theorems
(`updateMetaSafe_correct_iff`: the weakest one possible).  `SD` (the discipline together with the creator forest
`ForestAcy`) is preserved by every accepted request (`exec_sd`), with one side condition (`ReqOKS`): a `define` with
`_safe = True` does not name a step as creator (`DefineOK`; the director passes `_safe = True` only in
`initialize_boot`, with the root as creator).  That a condition is needed is shown at the `Trellis.create` which
the request makes (`Props.C10.define_safe_under_step_negation`, on `cxState` below).
-/
namespace StepupModel.K.SafeDisc
open StepupModel.K.MetaSafe StepupModel.Generated StepupModel.K.Sk

/-- The invariant of the requests for the safe columns (`Discipline.DS` is the one for `_check_after`). -/
def SD (s : KState) : Prop := CacheInvSafeW s ∧ ForestAcy s

theorem SD.forest {s : KState} (h : SD s) : Forest s := h.2.1.1
theorem SD.keys {s : KState} (h : SD s) : KeysUnique s := (keysNodup_iff s).1 h.forest.1
theorem SD.wf {s : KState} (h : SD s) : StepCreatorWF s := stepCreatorWF_of_acyclic h.2.2
theorem SD.p {s : KState} (h : SD s) : P NoDebt s := ⟨h.keys, (ws_nodebt_iff s).2 h.1⟩

theorem sd_init : SD KState.init := by
  refine ⟨?_, init_forestAcy⟩
  intro n hn hs
  simp only [KState.init, List.mem_singleton] at hn
  subst hn
  cases hs

/-! ## After `KState.updateMeta` every local equation holds -/

theorem updateMetaSafe_nodebt {s s' : KState} (hk : KeysUnique s) (hwf : StepCreatorWF s) (hc : CacheInvSafeW s)
    (h : s.updateMetaSafe = .ok s') : P NoDebt s' :=
  ⟨keysUnique_struct (updateMetaSafe_frame h).struct hk,
    ws_of_consistent (updateMetaSafe_correct hk (noSelfStep_of_wf hwf) hc h)⟩

theorem updateMeta_nodebt {s su : KState} {cfg : KConfig} (hk : KeysUnique s) (hwf : StepCreatorWF s)
    (hc : CacheInvSafeW s) (h : s.updateMeta cfg = .ok su) : P NoDebt su := by
  obtain ⟨s1, s2, h1, h2, rfl⟩ := updateMeta_ok h
  exact P.leaves.toW.updateMetaReady rfl _ (updateMetaAfter_safe cfg s1 s2 (updateMetaSafe_nodebt hk hwf hc h1) h2)

theorem popNext_nodebt {s s' : KState} {cfg : KConfig} {choice : Option Key} {d : Dispatch} (hk : KeysUnique s)
    (hwf : StepCreatorWF s) (hc : CacheInvSafeW s) (h : s.popNext cfg choice = .ok (s', d)) : P NoDebt s' := by
  obtain ⟨su, hu, hcase⟩ := popNext_ok h
  have hpu := updateMeta_nodebt hk hwf hc hu
  rcases hcase with ⟨_, rfl, _⟩ | ⟨k, n, _, _, _, _, _, _, hs, _⟩
  · exact hpu
  · exact P.leaves.writeStepState_preserves k _ (some false) su s' hpu hs

/-- The side condition of `define_step`: a step that is defined *safe* is not defined by a step. -/
def DefineOK (creator : Key) (d : StepDecl) : Prop := d.safe = true → creator.kind ≠ .step

/-- What is asked of a request (`S`: for the safe columns; `Discipline.ReqOK` is what `_check_after` asks): a `define`
with `_safe = True` does not name a step as creator.  Every other request is unconditional. -/
def ReqOKS : Req → Prop
  | .define c d => DefineOK c d
  | _ => True

theorem exec_sd (cfg : KConfig) (r : Req) (s : KState) (res : KState × String) (hr : ReqOKS r)
    (hsd : SD s) (h : s.exec cfg r = .ok res) : SD res.1 := by
  have hp := hsd.p
  have hpf : P NoDebt s ∧ PQ Sk.OK s := ⟨hp, (forest_iff s).1 hsd.forest⟩
  suffices hres : P NoDebt res.1 from ⟨(ws_nodebt_iff _).1 hres.2, forestAcy_inv cfg r s res trivial hsd.2 h⟩
  cases r with
  | define c d =>
    obtain ⟨a, ha, e⟩ := pairOut_ok h
    exact e ▸ (callL.defineStep_preserves cfg c d s (fun _ _ _ _ _ _ => trivial) hr
      (fun _ _ => ⟨fun _ _ => trivial, fun _ _ => trivial⟩) a hpf ha).1
  | amend k inp env out vol conc =>
    obtain ⟨a, ha, e⟩ := pairOut_ok h
    exact e ▸ (callL.amendStep_preserves cfg k inp env out vol conc (fun _ _ => trivial) (fun _ _ => trivial) s a hpf ha).1
  | static c ps =>
    obtain ⟨a, ha, e⟩ := pairOut_ok h
    exact e ▸ (callL.declareStaticFiles_preserves cfg c ps (fun _ _ => trivial) s a hpf ha).1
  | tree c p => obtain ⟨a, ha, e⟩ := pairOut_ok h; exact e ▸ (callL.registerStaticTree_preserves cfg c p s a hpf ha).1
  | declStatic c ts fs ps =>
    obtain ⟨a, ha, e⟩ := pairOut_ok h
    exact e ▸ (callL.declareStaticRequest_preserves cfg c ts fs ps (fun _ _ => trivial) s a hpf ha).1
  | pop c => obtain ⟨a, ha, e⟩ := pairOut_ok h; exact e ▸ popNext_nodebt hsd.keys hsd.wf hsd.1 ha
  | updateMeta => exact updateMeta_nodebt hsd.keys hsd.wf hsd.1 (unitOut_ok h)
  | resetRerun k => exact resetForRerun_safe k s _ hp (unitOut_ok h)
  | completed k nh wd => obtain ⟨a, ha, e⟩ := pairOut_ok h; exact e ▸ markCompleted_safe cfg k nh wd s a.1 a.2 hp ha
  | detach k => exact detach_safe k s _ hp (unitOut_ok h)
  | deleteDetached => exact deleteDetached_safe s _ hp (unitOut_ok h)
  | reconcile => exact P.leaves.exec_plainSoft cfg _ (.inr rfl) hold_safe release_safe s res hp h
  | _ => exact P.leaves.exec_plainSoft cfg _ (.inl rfl) hold_safe release_safe s res hp h

/-- A history all of whose `define` requests satisfy `DefineOK` (the configurations are free: targets and
environment may change from request to request). -/
def HistOKS (h : List (KConfig × Req)) : Prop := ∀ cr ∈ h, ReqOKS cr.2

theorem run_sd (h : List (KConfig × Req)) (s : KState) (hsd : SD s) (hh : HistOKS h) : SD (s.run h) :=
  run_of_step (H := fun _ l => HistOKS l)
    (fun s cr _ hl hp => ⟨step_of_exec hp fun res => exec_sd cr.1 cr.2 s res (hl cr List.mem_cons_self) hp,
      fun x hx => hl x (List.mem_cons_of_mem _ hx)⟩)
    h s hsd hh

theorem reachable_safeDiscipline (h : List (KConfig × Req)) (hh : HistOKS h) : CacheInvSafeW (KState.init.run h) :=
  (run_sd h KState.init sd_init hh).1

theorem reachable_popNext_job_creators (h : List (KConfig × Req)) (hh : HistOKS h)
    {s' : KState} {cfg : KConfig} {k : Key} {d : Dispatch}
    (hp : (KState.init.run h).popNext cfg (some k) = .ok (s', d)) :
    ∃ su n, (KState.init.run h).updateMeta cfg = .ok su ∧ SameStruct (KState.init.run h) su ∧ n ∈ su.nodes ∧ n.key = k ∧
      ((∀ a, StrictAnc su a n → a.sstate.active = true ∧ a.holding = 0) ∨
       (n.hasHash = true ∧ (∃ run, d = .job k true run) ∧ ∀ a, StrictAnc su a n → a.sstate.active = true)) :=
  (popNext_job_creators (keysNodup_reachable h) (stepCreatorWF_reachable h) (reachable_safeDiscipline h hh) hp).imp
    fun _ hsu => hsu.imp fun _ hn => ⟨hn.1, hn.2.1.nodes, hn.2.2⟩

/-! ## The executable form of the discipline (the third digit of the driver request `k cacheinv`) -/

/-- The sampled check is a theorem. -/
theorem reachable_cacheInvSafeWB (h : List (KConfig × Req)) (hh : HistOKS h) :
    cacheInvSafeWB (KState.init.run h) = true :=
  (cacheInvSafeWB_iff (keysNodup_reachable h) (stepCreatorWF_reachable h)).2 (reachable_safeDiscipline h hh)

/-- The requests the director issues never pass `_safe = True` except for the boot step under the root: a
history in which every `define` is of that form is covered. -/
theorem histOKS_of_director (h : List (KConfig × Req))
    (hd : ∀ cr ∈ h, ∀ c d, cr.2 = .define c d → d.safe = true → c = rootKey) : HistOKS h := by
  intro cr hcr
  cases hreq : cr.2 with
  | define c d =>
    intro hsafe
    rw [hd cr hcr c d hreq hsafe]
    decide
  | _ => trivial

/-! Non-vacuity: the boot sequence `define root plan.py (safe)`, `pop`, `define plan.py A`. -/

example : HistOKS [(({} : KConfig), Req.define rootKey { cmd := "./plan.py", need := .plan, safe := true }),
    (({} : KConfig), Req.pop (some (stepKey "./plan.py"))),
    (({} : KConfig), Req.define (stepKey "./plan.py") { cmd := "A" })] := by
  intro cr hcr
  simp only [List.mem_cons, List.not_mem_nil, or_false] at hcr
  rcases hcr with rfl | rfl | rfl
  · intro _; decide
  · trivial
  · intro h; cases h

/-! ## The side condition on `define` is needed -/

/-- The state after `define root ./plan.py (safe)`: the boot step is PENDING, safe, unflagged. -/
def cxState : KState :=
  { nodes := [
      { key := rootKey, creator := some rootKey },
      { key := stepKey "./plan.py", creator := some rootKey, need := .plan, impliedNeed := .plan,
        safe := true, safeNH := true, checkAfter := true }] }

/-- Some step of the state violates a local equation although no step at all is flagged. -/
def brokenB (s' : KState) : Bool :=
  (flagged s').isEmpty && s'.nodes.any fun n => decide (n.key.kind = .step) && !bothLocalB s' n

theorem not_disc_of_brokenB {s' : KState} (h : brokenB s' = true) : ¬ CacheInvSafeW s' := by
  intro hw
  simp only [brokenB, Bool.and_eq_true] at h
  obtain ⟨hfl, hany⟩ := h
  obtain ⟨n, hn, hb⟩ := List.any_eq_true.1 hany
  simp only [Bool.and_eq_true, decide_eq_true_eq, Bool.not_eq_true'] at hb
  have hnt : ¬ Touched s' n := by
    rintro ⟨a, ha, _⟩
    rw [List.isEmpty_iff] at hfl
    rw [hfl] at ha; cases ha
  have := bothLocalB_iff.2 (hw n hn hb.1 hnt)
  rw [hb.2] at this; cases this

end StepupModel.K.SafeDisc
