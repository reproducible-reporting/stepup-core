import StepupModel.Lemmas.ReadyDisciplineBase
import StepupModel.Lemmas.Dispatch
import StepupModel.Lemmas.OpCases
/-!
# The flag discipline of `_update_meta_ready` over requests and histories

The scheduler caches per step the column `_ready` ("no input of the step is unavailable") and
recomputes it only for the steps flagged `_check_ready` (`KState.updateMetaReady`); the dispatch
decision (`SELECT_NEXT_STEP`, `KState.eligible`) reads the cache.  `CacheInvReady s`
(`Lemmas/ReadyDisciplineBase.lean`): every step, attached or not, whose flag is down has
`_ready = computeReady`, the definition evaluated on the graph.  It ranges over all steps: the
triggers flag sinks whatever their `detached` flag, and nothing weaker is needed.

`RI s` = one row per key ∧ `CacheInvReady s` holds after every history, with no side condition on the
requests, and the configuration may change from request to request (`stableR_cir` in the Base file: every
primitive write with its triggers keeps `CacheInvReady`, with or without one row per key).  Hence `_update_meta_ready`, and with it
`KState.updateMeta` (the three refreshes at the head of `Scheduler.pop_next_job`), leaves every
step unflagged with `_ready` equal to the definition on the graph, and a step that `pop_next_job` dispatches
has no unavailable input in the database (`dispatched_step_has_no_unavailable_input`, spelled out by
`noUnavailableInput_spec`).  The invariant is not vacuous: each of the four kinds of hard write, performed
without its trigger, breaks it on a small state (`*_trigger_needed`).
-/
namespace StepupModel.K.ReadyDisc
open StepupModel.K StepupModel.Generated

theorem exec_readyDiscipline (cfg : KConfig) (r : Req) (s : KState) (res : KState × String) (hp : RI s)
    (h : s.exec cfg r = .ok res) : RI res.1 := ri_inv cfg r s res trivial hp h

theorem step_readyDiscipline (cfg : KConfig) (r : Req) (s : KState) (hp : RI s) : RI (s.step cfg r) :=
  ri_inv.step cfg r s trivial hp

theorem run_readyDiscipline (h : List (KConfig × Req)) (s : KState) (hp : RI s) : RI (s.run h) :=
  ri_inv.run' h s hp

theorem reachable_readyDiscipline (h : List (KConfig × Req)) : RI (KState.init.run h) :=
  run_readyDiscipline h _ ri_init

theorem reachable_cacheInvReady (h : List (KConfig × Req)) : CacheInvReady (KState.init.run h) :=
  (reachable_readyDiscipline h).2

/-- The form the driver samples. -/
theorem reachable_cacheInvReadyB (h : List (KConfig × Req)) : cacheInvReadyB (KState.init.run h) = true :=
  (cacheInvReadyB_iff _).2 (reachable_cacheInvReady h)

theorem updateMeta_sameGraph {s s' : KState} {cfg : KConfig} (h : s.updateMeta cfg = .ok s') : SameGraph s s' :=
  have hm := updateMeta_rowMap h
  ⟨hm.deps, hm.sameView.1.look (.of_blind _ fun _ => rfl) (.of_blind _ fun _ => rfl)⟩

theorem reachable_updateMetaReady_exact (h : List (KConfig × Req)) :
    ∀ n ∈ (KState.init.run h).updateMetaReady.nodes, n.key.kind = .step →
      n.checkReady = false ∧ n.ready = (KState.init.run h).updateMetaReady.computeReady n.key ∧
        n.ready = (KState.init.run h).computeReady n.key := by
  intro n hn hk
  obtain ⟨h1, h2⟩ := updateMetaReady_all (reachable_cacheInvReady h) n hn hk
  exact ⟨h1, h2, h2.trans ((updateMetaReady_sameGraph _).computeReady n.key)⟩

theorem updateMeta_ready_exact {s s' : KState} {cfg : KConfig} (hp : CacheInvReady s) (h : s.updateMeta cfg = .ok s') :
    ReadyExact s' := by
  obtain ⟨s1, s2, h1, h2, rfl⟩ := updateMeta_ok h
  exact updateMetaReady_all (stableR_cir.toW.updateMetaAfter_preserves rfl cfg s1 s2
    (stableR_cir.toW.updateMetaSafe_preserves rfl s s1 hp h1) h2)

theorem reachable_updateMeta_ready_exact (h : List (KConfig × Req)) (cfg : KConfig) (s' : KState)
    (hu : (KState.init.run h).updateMeta cfg = .ok s') :
    ∀ n ∈ s'.nodes, n.key.kind = .step →
      n.checkReady = false ∧ n.ready = s'.computeReady n.key ∧ n.ready = (KState.init.run h).computeReady n.key := by
  intro n hn hk
  obtain ⟨h1, h2⟩ := updateMeta_ready_exact (reachable_cacheInvReady h) hu n hn hk
  exact ⟨h1, h2, h2.trans ((updateMeta_sameGraph hu).computeReady n.key)⟩

theorem SameGraph.noUnavailableInput {s s' : KState} (h : SameGraph s s') (k : Key) :
    NoUnavailableInput s' k ↔ NoUnavailableInput s k := by
  rw [← computeReady_true_iff, ← computeReady_true_iff, h.computeReady]

theorem setStepState_sameGraph {s s' : KState} {k : Key} {st : StepState} {d : Bool}
    (h : s.setStepState k st d = .ok s') : SameGraph s s' :=
  ⟨(writeStepState_effect s s' k st (some d) h).2.2, look_writeStepState view (fun _ _ _ _ _ _ => rfl) h⟩

/-- A step that `pop_next_job` dispatches has no unavailable input in the database at the moment of dispatch: on
the state the request found (`s`), on the state with refreshed metadata in which the choice is made, and on the
state the request leaves. -/
theorem dispatched_step_has_no_unavailable_input {s s' : KState} {cfg : KConfig} {choice : Option Key} {k : Key}
    {chk run : Bool} (hp : CacheInvReady s) (h : s.popNext cfg choice = .ok (s', .job k chk run)) :
    NoUnavailableInput s k ∧ NoUnavailableInput s' k ∧
      ∃ su, s.updateMeta cfg = .ok su ∧ NoUnavailableInput su k ∧
        ∃ n ∈ su.nodes, n.key = k ∧ n.key.kind = .step ∧ n.sstate = .pending ∧ n.detached = false := by
  obtain ⟨su, n, hu, hn, hkey, hel, _, _, _, hs⟩ := popNext_job h
  have hex := updateMeta_ready_exact hp hu
  obtain ⟨hkind, hpend, hdet, _, hready, _⟩ := (eligible_iff su cfg n).1 hel
  have hcr : su.computeReady k = true := by
    rw [← hkey, ← (hex n hn hkind).2]; exact hready
  have hsu : NoUnavailableInput su k := (computeReady_true_iff su k).1 hcr
  refine ⟨((updateMeta_sameGraph hu).noUnavailableInput k).1 hsu,
    ((setStepState_sameGraph hs).noUnavailableInput k).2 hsu, su, hu, hsu, n, hn, hkey, hkind, hpend, hdet⟩

theorem reachable_pop_no_unavailable_input (h : List (KConfig × Req)) (cfg : KConfig) (choice : Option Key)
    (res : KState × String) (k : Key) (chk run : Bool)
    (hd : (KState.init.run h).popNext cfg choice = .ok (res.1, .job k chk run)) :
    KState.init.run (h ++ [(cfg, Req.pop choice)]) = res.1 ∧ NoUnavailableInput res.1 k := by
  refine ⟨?_, (dispatched_step_has_no_unavailable_input (reachable_cacheInvReady h) hd).2.1⟩
  unfold KState.run
  rw [List.foldl_append]
  simp only [List.foldl_cons, List.foldl_nil]
  unfold KState.step KState.exec
  show (match ((KState.init.run h).popNext cfg choice >>= fun r => pure (r.1, dispatchOut r.2) : M (KState × String)) with
    | .ok (s', _) => s' | .error _ => KState.init.run h) = res.1
  rw [hd]
  rfl

/-- A small state that obeys the discipline: step `A`, unflagged and cached ready, reads the attached BUILT
file `f` and (as an amended input) the attached MISSING file `g`; the MISSING file `m` is not an input. -/
def wState : KState :=
  { nodes := [
      { key := rootKey, creator := some rootKey },
      { key := fileKey "f", creator := some rootKey, fstate := .built, fhash := some 1 },
      { key := fileKey "g", creator := some rootKey, fstate := .missing },
      { key := fileKey "m", creator := some rootKey, fstate := .missing },
      { key := stepKey "A", creator := some rootKey, ready := true, checkReady := false }],
    deps := [{ src := fileKey "f", snk := stepKey "A" }, { src := fileKey "g", snk := stepKey "A", dyn := true }] }

/-- The hypotheses of the theorems above are satisfiable by a state with an unflagged step that has inputs. -/
theorem wState_ri : RI wState :=
  ⟨by decide, by decide⟩

example : NoUnavailableInput wState (stepKey "A") := (computeReady_true_iff _ _).1 (by decide)

/-- `step_file_check_ready_upd` is needed: the bare `UPDATE file SET state` breaks the discipline, the
same write followed by the trigger (`KState.writeFile`) keeps it. -/
theorem file_state_trigger_needed :
    ¬ CacheInvReady (wState.modify (fileKey "f") fun n => { n with fstate := .outdated }) ∧
      ∃ s', wState.setFileState (fileKey "f") .outdated = .ok s' ∧ CacheInvReady s' :=
  ⟨by decide, okAnd_dec (by decide)⟩

/-- `step_node_check_ready_detached` is needed. -/
theorem detached_trigger_needed :
    ¬ CacheInvReady (wState.modify (fileKey "f") fun n => { n with detached := true }) ∧
      CacheInvReady (wState.setDetachedRow (fileKey "f") true) :=
  ⟨by decide, setDetachedRow_cir wState _ _ wState_ri.2⟩

/-- The `_check_ready` part of `step_dependency_check_after_ins` is needed. -/
theorem dependency_trigger_needed :
    ¬ CacheInvReady { wState with deps := wState.deps ++ [({ src := fileKey "m", snk := stepKey "A" } : Dep)] } ∧
      ∃ s', wState.insertDep (fileKey "m") (stepKey "A") = .ok s' ∧ CacheInvReady s' :=
  ⟨by decide, okAnd_dec (by decide)⟩

/-- `dynamic_dep_check_ready_*` is needed: a MISSING amended input does not block, the same edge as
an initial input does. -/
theorem dynamic_trigger_needed :
    ¬ CacheInvReady { wState with deps := wState.deps.map fun (d : Dep) =>
        if (d.src = fileKey "g" ∧ d.snk = stepKey "A") then ({ d with dyn := false } : Dep) else d } ∧
      CacheInvReady (wState.setDynamic (fileKey "g") (stepKey "A") false) :=
  ⟨by decide, setDynamic_cir wState _ _ _ wState_ri.2⟩

end StepupModel.K.ReadyDisc
