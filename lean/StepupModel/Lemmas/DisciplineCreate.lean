import StepupModel.Lemmas.DisciplineDetach
import StepupModel.Lemmas.Reach
/-!
# The flag discipline: `Trellis.create` and `Node.reattach` (of a step)

The operations that make rows visible (`Reveal` of `Lemmas/DisciplineDebt.lean`): each is one `Delta`, paid once
(`wd_pay`).  The recycling branch of `create` detaches the products of the old row, which are detached already: the
creator link is cut, the rest is a soft change (`detachProducts_of_detached`).

`Step.reattach` makes the step and its recursive products visible again and flags the step subtree
(`_flag_checks_with_products`) only: the producers of the inputs of the reattached steps are *not*
flagged, and need not be (`Reveal.notCons`).
-/
namespace StepupModel.K.Discipline
open StepupModel.K.MetaAfter StepupModel.K.Sk

theorem setDetachedRow_noop {s : KState} {x : Key} {n : Node} {d : Bool} (hk : KeysUnique s) (hf : s.find? x = some n)
    (hd : n.detached = d) : SoftRel s (s.setDetachedRow x d) := by
  refine setDetachedRow_ind (C := SoftRel s) s x d (.refl s) ?_ fun t h => h.trans (flagReadySinks_rel t x)
  rw [← modify_found hk hf, show ({ n with detached := d } : Node) = n by rw [← hd], modify_found hk hf fun m => m,
    modify_id]
  exact .refl s

theorem detach_detached_rel {s s' : KState} {p : Key} {n : Node} (hk : KeysUnique s)
    (hf : s.find? p = some n) (hd : n.detached = true) (h : s.detach p = .ok s') :
    SoftRel (s.modify p fun n => { n with creator := none }) s' := by
  obtain ⟨n', s1, hf', h1, h⟩ := detach_ok h
  cases hf.symm.trans hf'
  have r1 : SoftRel (s.modify p fun n => { n with creator := none }) s1 := by
    rcases detachCore_ok h1 with ⟨hcr, rfl⟩ | ⟨_, sc, hsc, rfl⟩
    · rw [← modify_found hk hf, show ({ n with creator := none } : Node) = n by rw [← hcr],
        modify_found hk hf fun m => m, modify_id]
      exact SoftRel.refl _
    · obtain ⟨_, rfl⟩ := setCreator_ok hsc
      rw [hd]
      refine setDetachedRow_noop (n := { n with creator := none }) (keysUnique_modify p _ (fun _ h => h) hk) ?_ hd
      rw [find?_modify_self s p (fun n => { n with creator := none }) (fun _ h => h), hf]
      rfl
  exact r1.trans (detachFlags_rel h)

theorem detachProducts_of_detached {u u' : KState} {k : Key} (hk : KeysUnique u)
    (hdet : ∀ p ∈ u.nodes, p.creator = some k → p.key ≠ k → p.detached = true)
    (h : u.detachProducts k = .ok u') : KeysUnique u' ∧ u'.deps = u.deps ∧ All₂ AfterRow u.nodes u'.nodes := by
  refine foldlM_keeps (fun st => KeysUnique st ∧ st.deps = u.deps ∧ All₂ AfterRow u.nodes st.nodes)
    (fun st (p : Node) => st.detach p.key) _ ?_ _ u' ⟨hk, rfl, all₂_refl AfterRow.refl _⟩ h
  intro st p st' hp ⟨hkst, hdst, hrst⟩ hdp
  obtain ⟨hpm, hpc⟩ := List.mem_filter.1 hp
  simp only [decide_eq_true_eq, Bool.decide_and, Bool.and_eq_true] at hpc
  have hfind := find?_all₂ (R := AfterRow) (fun _ _ hr => hr.1) p.key hrst
  have hfp : u.find? p.key = some p := find?_of_mem hk hpm
  unfold KState.find? at hfp
  rw [hfp] at hfind
  obtain ⟨m, hfst, hfind⟩ := optRel_left hfind
  have r := detach_detached_rel hkst hfst (hfind.2.1.trans (hdet p hpm hpc.1 hpc.2)) hdp
  exact ⟨r.keysUnique (keysUnique_modify p.key _ (fun _ h => h) hkst), r.deps.trans hdst,
    all₂_trans AfterRow.trans hrst (all₂_trans AfterRow.trans
      (all₂_modify AfterRow.refl st p.key (fun n => { n with creator := none }) fun n _ =>
        afterRow_of_neutral (f := fun n => { n with creator := none }) (fun _ => ⟨rfl, rfl, rfl, rfl⟩) n)
      (all₂_imp (fun _ _ => SoftRow.after) r.rows))⟩

/-- A key of kind step is initialised as a step: the only initialisation that flags the row (`initRow_delta`), and
the row of `k` is owed. -/
def InitKind (k : Key) : Init → Prop
  | .step _ => True
  | _ => k.kind ≠ .step

theorem initRow_delta {X : Key → Prop} {Gone New : Key → Key → Prop} {t s' : KState} {k : Key} {init : Init} {e : Bool}
    (hk : KeysUnique t) (hkind : InitKind k init) (hX : X k) (h : t.initRow k init e = .ok s') :
    Delta X Gone New t s' ∧ ∀ n' ∈ s'.nodes, n'.key = k → n'.key.kind = .step → n'.checkAfter = true := by
  obtain ⟨f, hf, hflag, _⟩ := initRow_ok hk h
  refine ⟨(Delta.ofRows (s := t) (s' := t.modify k f) (fun _ _ => Iff.rfl)
    (Outside.modify AfterRow.refl t k f hf.key fun _ _ hx => absurd hX hx)).trans (.of_soft hf.rel), fun n' hn' he hs => ?_⟩
  cases init with
  | step i => exact hflag i rfl n' hn' he
  | _ => exact absurd (he ▸ hs) hkind

/-- Owed are `k` (flagged by `initialize_row` when it is a step) and, in the recycling branch, the sources of the
deleted edges into `k` (flagged by the trigger of the deletion); nothing two hops upstream, since the row was hidden
(`Reveal.notCons`).  `Forest` gives that the products of the detached row are detached already (`product_detached`),
so that detaching them owes nothing. -/
theorem create_wd {F : Key → Prop} {s s' : KState} {cfg : KConfig} {k : Key} {creator : Option Key} {init : Init}
    (hS : Struct s) (hFo : Forest s) (hkind : InitKind k init) (h : s.create k creator init = .ok s')
    (hc : WD F s cfg) : WD F s' cfg := by
  have hk := hS.keys
  -- up to `initialize_row`
  suffices H : ∃ t e, KeysUnique t ∧ t.initRow k init e = .ok s' ∧
      Delta (· = k) (GoneBy s fun dp => dp.snk = k) NoEdge s t ∧ ¬ ConsRow s k ∧
      (∀ n ∈ t.nodes, n.key.kind = .step → Edge s.deps n.key k → n.checkAfter = true) by
    obtain ⟨t, e, hkt, hi, hD, hidden, hsrc⟩ := H
    obtain ⟨hDi, hself⟩ := initRow_delta (X := (· = k)) (Gone := GoneBy s fun dp => dp.snk = k) (New := NoEdge) hkt hkind rfl hi
    have src : ∀ n' ∈ s'.nodes, n'.key.kind = .step → Edge s.deps n'.key k → n'.checkAfter = true := by
      intro n' hn' hs he
      by_cases hnk : n'.key = k
      · exact hself n' hn' hnk hs
      · obtain ⟨n, hn, hr⟩ := hDi.rows.mem n' hn' hnk
        exact hr.2.2.2.1 (hsrc n hn (hr.1 ▸ hs) (hr.1 ▸ he))
    refine wd_pay (hD.trans hDi) hc ?_
    rintro n' hn' hs _ ((hx | ⟨x, hx, _, he⟩ | ⟨x, hx, hcr, _⟩) | (⟨c, d, hdm, hp, h1, _⟩ | ⟨f, c, _, ⟨d, hdm, hp, _, h2⟩, hcr⟩) | hn)
    · exact .inl (hself n' hn' hx hs)
    · cases hx; exact .inl (src n' hn' hs he)
    · cases hx; exact absurd hcr hidden
    · exact .inl (src n' hn' hs ⟨d, hdm, h1, of_decide_eq_true hp⟩)
    · exact absurd ((of_decide_eq_true hp : d.snk = k) ▸ h2 ▸ hcr) hidden
    · exact absurd hn not_dueNew_noEdge
  rcases create_walk hk h with ⟨n, s1, s2, s3, hf, hdet, h1, h2, h3, h, _⟩ | ⟨hf, _, h, hkA, _⟩
  · -- recycling: the row of `k` was detached, hence hidden (`hrev`)
    obtain ⟨r12, hd2, hk2⟩ := out_relink (X := fun x => x = k) rfl h1 h2
    obtain ⟨r3, hfl⟩ := deleteDeps_flags s2 fun dp => dp.snk = k
    have hrows : Outside (fun x => x = k) SoftRow s (s2.deleteDeps fun dp => dp.snk = k) :=
      r12.strans (.of_rows (fun _ _ h => h.1) r3.rows)
    have hrev : Reveal (fun x => x = k) (fun dp => decide (dp.snk = k)) s (s2.deleteDeps fun dp => dp.snk = k) :=
      ⟨by rw [deps_deleteDeps, hd2], fun dp _ hr => by simpa using hr, hrows.find, hrows.mem,
        fun c hc m hm => by subst hc; rw [hf] at hm; cases hm; exact hdet⟩
    have hk3a : KeysUnique (s2.deleteDeps fun dp => dp.snk = k) := r3.keysUnique (hk2 hk)
    obtain ⟨hk3, hd3, hrows3⟩ := detachProducts_of_detached hk3a (fun p hpm hpc hpk => by
      obtain ⟨p0, hp0, hsr⟩ := hrows.mem p hpm hpk
      have hp0k : ¬ p0.key = k := hsr.1 ▸ hpk
      exact hsr.2.1.trans (product_detached hFo hf hdet hp0 (hsr.2.2.1.1 ▸ hpc) hp0k)) h3
    refine ⟨s3, true, hk3, h, hrev.delta.trans (.ofRows (fun _ _ => by rw [hd3]) (.of_rows (fun _ _ h => h.1) hrows3)),
      hrev.notCons rfl, fun n3 hn3 hs ⟨dp, hdm, hsrc, hsnk⟩ => ?_⟩
    -- the sources of `k` are flagged by the trigger of the deletion
    obtain ⟨n2, hn2, hr⟩ := all₂_mem_right hrows3 n3 hn3
    exact hr.2.2.2.1 (hfl n2 hn2 (hr.1 ▸ hs)
      ⟨dp, hd2 ▸ hdm, decide_eq_true hsnk, .inl (hr.1 ▸ hsrc.symm)⟩)
  · refine ⟨s.appendNode k creator, false, hkA, h,
      .ofRows (fun _ _ => Iff.rfl) (.appendNode AfterRow.refl s creator rfl),
      (fun ⟨m, hm, _⟩ => by rw [hf] at hm; cases hm), ?_⟩
    intro n _ _ ⟨dp, hdm, _, hsnk⟩
    have := (hS.closed dp hdm).2
    rw [hsnk, hf] at this; cases this

theorem reattach_wd {F : Key → Prop} {s s' : KState} {cfg : KConfig} {k c : Key} (hS : Struct s) (hFo : Forest s)
    (hkstep : k.kind = .step) (h : s.reattach k c = .ok s') (hc : WD F s cfg) : WD F s' cfg := by
  have hok : Sk.OK s.skel := (forest_iff s).1 hFo
  obtain ⟨n, hf, hdet', _, h⟩ := reattach_ok h
  obtain ⟨s1, s2, h1, h2, h⟩ := reattachCore_ok h
  obtain ⟨_, h⟩ := (flagIfStep_ok h).resolve_left fun h => h.1 hkstep
  -- the revealed keys
  let X : Key → Prop := fun x => x = k ∨ x ∈ s2.descendants k
  obtain ⟨r12, d12, _⟩ := out_relink (X := X) (.inl rfl) h1 h2
  obtain ⟨r3, _⟩ := out_setDetachedRec X s2 k (s.isDetached c) fun x hx => .inr hx
  have hrows : Outside X SoftRow s (s2.setDetachedRec k (s.isDetached c)) := r12.strans r3
  have hdeps : (s2.setDetachedRec k (s.isDetached c)).deps = s.deps := by
    rw [deps_setDetachedRec, d12]
  obtain ⟨hsk1, hallow⟩ := skel_setCreator h1
  have hsk2 : s2.skel = setRow k (some c) (s.isDetached c) s.skel := by rw [skel_of_soft (lostProduct_rel h2), hsk1]
  have hkroot : k ≠ rootKey := by
    intro he; rw [he] at hkstep; cases hkstep
  have hnatt : ¬ Att s.skel k := by
    intro ha
    have := (att_iff_of_mem hok.nodup (find?_row hf)).1 ha
    rw [hdet'] at this; cases this
  have hX : ∀ x, X x → x = k ∨ Desc (setRow k (some c) (s.isDetached c) s.skel) k x := fun x hx =>
    hx.imp_right fun hx => hsk2 ▸ (mem_descendants s2 k x).1 hx
  have hidden : ∀ c', X c' → ∀ m, s.find? c' = some m → m.detached = true := by
    intro c' hx m hm
    have self : c' = k → m.detached = true := fun e => by rw [e, hf] at hm; cases hm; exact hdet'
    rcases hX c' hx with e | hd
    · exact self e
    · rcases desc_setRow_sub hd with e | hd'
      · exact self e
      · have hna := desc_not_att hok.nodup hok.root hok.loc hnatt hd'
        cases hx' : m.detached with
        | true => rfl
        | false => exact absurd ⟨_, find?_row hm, rfl, hx'⟩ hna
  have hrev : Reveal X (fun _ => false) s (s2.setDetachedRec k (s.isDetached c)) :=
    ⟨hdeps.trans (List.filter_eq_self.2 fun _ _ => rfl).symm, (fun _ _ hr => nomatch hr), hrows.find, hrows.mem, hidden⟩
  -- every step that is owed is in the flagged subtree
  obtain ⟨ks, hks, hfl⟩ := flagChecksWithProducts_flags h
  obtain ⟨hsteps, hfiles⟩ := covers_setRow hS hkroot hf (.inr (by rw [hkstep]; intro hh; cases hh))
    (fun t ht => rows_setDetachedRec k (s.isDetached c) t (by rw [hsk2]; exact ht)) hks
  refine wd_pay (hrev.delta.trans (.of_soft (flagChecksWithProducts_rel h))) hc ?_
  rintro n' hn' hs' _ ((hx | ⟨x, hx, hxf, he⟩ | ⟨x, hx, hcr, _⟩) | (⟨_, _, _, hr, _⟩ | ⟨_, _, _, ⟨_, _, hr, _⟩, _⟩) | hn)
  · exact .inl (hfl n' hn' (hsteps _ (hX _ hx) hs')).2
  · -- `x` is a file among the revealed keys, owned by the step
    rcases hX x hx with rfl | hd
    · rw [hkstep] at hxf; cases hxf
    · exact .inl (hfl n' hn' (hfiles x hd hxf _ hs' he)).2
  · exact absurd hcr (hrev.notCons hx)
  · cases hr
  · cases hr
  · exact absurd hn not_dueNew_noEdge

end StepupModel.K.Discipline
