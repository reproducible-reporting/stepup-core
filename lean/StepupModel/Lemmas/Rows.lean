import StepupModel.Lemmas.K
/-!
# Two states whose rows correspond one to one

`All₂ R l l'`: the rows of `l'` are `R`-images of the rows of `l`, in order; for an `R` that keeps keys the lookups
correspond (`OptRel R` relates two lookups).  `SoftRel` and `StructRel` (`Lemmas/Discipline*.lean`) are `All₂` at their
row relations.  `SameView v s s'`, the same rows up to what the view `v` hides, is `s'.nodes.map v = s.nodes.map v`
together with the same deletion queue; `all₂_of_view` and `map_view_of_all₂` take its first half to `All₂` at
`v b = v a` and back.  `RowMap e`, one function that `e` cannot tell from the identity applied to every row, is a
`SameView e` with the same edges.  `Outside X R s s'` is the relation for a change that is not row by row: off the keys
of `X` the rows of `s'` are `R`-images of those of `s`, under them rows may appear, vanish or change (it is behind
`Keep k` of `Lemmas/DisciplineStruct.lean`).  `All₂`, `OptRel` and `Outside` are in namespace `K.Discipline`, where
their users know them by their full names; the views are in `K`.

`Keeps v f`: the row function `f` writes no column that the view `v` shows.  `MapStable R P`: `P` survives every
rewrite of the node table that relates each row to its successor by `R`.  The views of a row are ordered by `Finer`,
and everything here is monotone in the view.  An inclusion between two
concrete views is closed by `fun _ => rfl` (`Finer.of_factor` for a projection of a tuple, `Finer.of_blind` for a view
that shows none of the columns an erasure resets).
-/
namespace StepupModel.K.Discipline

inductive All₂ {α : Type} (R : α → α → Prop) : List α → List α → Prop
  | nil : All₂ R [] []
  | cons {a b : α} {l l' : List α} : R a b → All₂ R l l' → All₂ R (a :: l) (b :: l')

theorem all₂_refl {α : Type} {R : α → α → Prop} (h : ∀ x, R x x) : ∀ l : List α, All₂ R l l
  | [] => .nil
  | x :: l => .cons (h x) (all₂_refl h l)

theorem all₂_trans {α : Type} {R : α → α → Prop} (h : ∀ x y z, R x y → R y z → R x z)
    {a b c : List α} (h1 : All₂ R a b) (h2 : All₂ R b c) : All₂ R a c := by
  induction h1 generalizing c with
  | nil => cases h2; exact .nil
  | cons hab _ ih =>
    cases h2 with
    | cons hbc t2 => exact .cons (h _ _ _ hab hbc) (ih t2)

theorem all₂_map {α : Type} {R : α → α → Prop} (g : α → α) :
    ∀ l : List α, (∀ x ∈ l, R x (g x)) → All₂ R l (l.map g)
  | [], _ => .nil
  | x :: l, h => .cons (h x List.mem_cons_self) (all₂_map g l fun y hy => h y (List.mem_cons_of_mem _ hy))

theorem all₂_of_map_eq {α β : Type} {R : α → α → Prop} (f : α → β) (hR : ∀ a b, f a = f b → R a b) (l l' : List α)
    (h : l.map f = l'.map f) : All₂ R l l' := by
  induction l generalizing l' with
  | nil =>
    cases l' with
    | nil => exact .nil
    | cons _ _ => cases h
  | cons a l ih =>
    cases l' with
    | nil => cases h
    | cons b l' =>
      rw [List.map_cons, List.map_cons, List.cons.injEq] at h
      exact .cons (hR a b h.1) (ih l' h.2)

theorem all₂_mem_right {α : Type} {R : α → α → Prop} {l l' : List α} (h : All₂ R l l') :
    ∀ y ∈ l', ∃ x ∈ l, R x y := by
  induction h with
  | nil => exact fun _ hy => nomatch hy
  | cons hab _ ih =>
    intro y hy
    rcases List.mem_cons.1 hy with rfl | hy
    · exact ⟨_, List.mem_cons_self, hab⟩
    · obtain ⟨x, hx, hr⟩ := ih y hy
      exact ⟨x, List.mem_cons_of_mem _ hx, hr⟩

theorem all₂_imp {α : Type} {R R' : α → α → Prop} (h : ∀ a b, R a b → R' a b) {l l' : List α} (hl : All₂ R l l') :
    All₂ R' l l' := by
  induction hl with
  | nil => exact .nil
  | cons hab _ ih => exact .cons (h _ _ hab) ih

def OptRel {α : Type} (R : α → α → Prop) : Option α → Option α → Prop
  | some a, some b => R a b
  | none, none => True
  | _, _ => False

theorem optRel_imp {α : Type} {R R' : α → α → Prop} (h : ∀ a b, R a b → R' a b) {o o' : Option α}
    (hr : OptRel R o o') : OptRel R' o o' := by
  cases o <;> cases o'
  · trivial
  · exact hr.elim
  · exact hr.elim
  · exact h _ _ hr

theorem optRel_right {α : Type} {R : α → α → Prop} {a : Option α} {b : α} (h : OptRel R a (some b)) :
    ∃ a0, a = some a0 ∧ R a0 b := by
  cases a with
  | none => exact h.elim
  | some a0 => exact ⟨a0, rfl, h⟩

theorem optRel_left {α : Type} {R : α → α → Prop} {a : α} {b : Option α} (h : OptRel R (some a) b) :
    ∃ b0, b = some b0 ∧ R a b0 := by
  cases b with
  | none => exact h.elim
  | some b0 => exact ⟨b0, rfl, h⟩

theorem optRel_refl {α : Type} {R : α → α → Prop} (h : ∀ a, R a a) (o : Option α) : OptRel R o o := by
  cases o with
  | none => trivial
  | some a => exact h a

theorem optRel_trans {α : Type} {R : α → α → Prop} (h : ∀ a b c, R a b → R b c → R a c) {o1 o2 o3 : Option α}
    (h1 : OptRel R o1 o2) (h2 : OptRel R o2 o3) : OptRel R o1 o3 := by
  cases o2 with
  | some b =>
    obtain ⟨a, rfl, ha⟩ := optRel_right h1
    obtain ⟨c, rfl, hc⟩ := optRel_left h2
    exact h a b c ha hc
  | none =>
    cases o1 with
    | some _ => exact h1.elim
    | none =>
      cases o3 with
      | some _ => exact h2.elim
      | none => trivial

theorem optRel_isSome {α : Type} {R : α → α → Prop} {o o' : Option α} (hr : OptRel R o o') : o'.isSome = o.isSome := by
  cases o <;> cases o'
  · rfl
  · exact hr.elim
  · exact hr.elim
  · rfl

theorem keys_of_all₂ {R : Node → Node → Prop} (hR : ∀ a b, R a b → b.key = a.key) {l l' : List Node} (h : All₂ R l l') :
    l'.map (·.key) = l.map (·.key) := by
  induction h with
  | nil => rfl
  | cons hab _ ih => rw [List.map_cons, List.map_cons, hR _ _ hab, ih]

theorem find?_all₂ {R : Node → Node → Prop} (hR : ∀ a b, R a b → b.key = a.key) (k : Key) {l l' : List Node}
    (h : All₂ R l l') : OptRel R (l.find? (·.key = k)) (l'.find? (·.key = k)) := by
  induction h with
  | nil => trivial
  | cons hab _ ih =>
    rw [List.find?_cons, List.find?_cons, hR _ _ hab]
    split
    · exact hab
    · exact ih

end StepupModel.K.Discipline

namespace StepupModel.K
open Discipline

section views
variable {β γ : Type}

/-- `w` shows nothing that `v` hides. -/
def Finer (v : Node → β) (w : Node → γ) : Prop := ∀ a b : Node, v a = v b → w a = w b

theorem Finer.refl (v : Node → β) : Finer v v := fun _ _ h => h

theorem Finer.of_factor {v : Node → β} {w : Node → γ} (u : β → γ) (h : ∀ n, w n = u (v n)) : Finer v w :=
  fun a b e => by rw [h, h, e]

theorem Finer.of_blind (e : Node → Node) {w : Node → γ} (h : ∀ n, w (e n) = w n) : Finer e w :=
  fun a b eq => (h a).symm.trans ((congrArg w eq).trans (h b))

/-- `f` writes only columns that `v` does not show. -/
def Keeps (v : Node → β) (f : Node → Node) : Prop := ∀ n, v (f n) = v n

namespace Keeps
variable {v : Node → β} {w : Node → γ} {f g : Node → Node}

theorem id : Keeps v id := fun _ => rfl

theorem mono (h : Keeps v f) (hvw : Finer v w) : Keeps w f := fun n => hvw _ _ (h n)

theorem comp (hg : Keeps v g) (hf : Keeps v f) : Keeps v (g ∘ f) := fun n => (hg (f n)).trans (hf n)

theorem ite (p : Node → Prop) [DecidablePred p] (hf : Keeps v f) : Keeps v fun n => if p n then f n else n :=
  fun n => ite_ind (fun m => v m = v n) (fun _ => hf n) fun _ => rfl

theorem foldl {α : Type} {g : Node → α → Node} {l : List α} (hg : ∀ a, Keeps v (g · a)) :
    Keeps v fun n => l.foldl g n := fun n =>
  foldl_ind (fun m => v m = v n) g l (fun m a _ hm => (hg a m).trans hm) rfl

/-- `e` is an erasure that resets what `f` writes. -/
theorem of_erase {e : Node → Node} (he : Keeps v e) (hf : Keeps e f) : Keeps v f :=
  hf.mono (.of_blind e he)

end Keeps
end views

theorem optRel_view {β : Type} {v : Node → β} {o o' : Option Node} (h : OptRel (fun a b => v b = v a) o o') :
    o'.map v = o.map v := by
  cases o <;> cases o'
  · rfl
  · exact h.elim
  · exact h.elim
  · exact congrArg some h

theorem all₂_of_view {α β : Type} (v : α → β) {l l' : List α} (h : l'.map v = l.map v) :
    All₂ (fun a b => v b = v a) l l' :=
  all₂_of_map_eq v (fun _ _ e => e.symm) l l' h.symm

theorem map_view_of_all₂ {α β : Type} (w : α → β) {l l' : List α} (h : All₂ (fun a b => w b = w a) l l') :
    l'.map w = l.map w := by
  induction h with
  | nil => rfl
  | cons hab _ ih => rw [List.map_cons, List.map_cons, hab, ih]

theorem map_view_mono {β γ : Type} {v : Node → β} {w : Node → γ} {l l' : List Node} (h : l'.map v = l.map v)
    (hvw : Finer v w) : l'.map w = l.map w :=
  map_view_of_all₂ w (all₂_imp (fun a b e => hvw b a e) (all₂_of_view v h))

theorem nodup_keys_of_view {β : Type} {v : Node → β} {l l' : List Node} (h : l'.map v = l.map v) (hk : Finer v Node.key)
    (hu : (l.map (·.key)).Nodup) : (l'.map (·.key)).Nodup :=
  (map_view_mono h hk : l'.map (·.key) = _) ▸ hu

theorem mem_of_map_eq {α β : Type} (v : α → β) {l l' : List α} (h : l'.map v = l.map v) {a : α} (ha : a ∈ l') :
    ∃ b ∈ l, v a = v b :=
  all₂_mem_right (all₂_of_view v h) a ha

theorem look_of_view {β γ : Type} {e : Node → γ} {v : Node → β} {s s' : KState} (hn : s'.nodes.map e = s.nodes.map e)
    (hk : Finer e Node.key) (hv : Finer e v) (q : Key) : s'.look v q = s.look v q :=
  optRel_view (optRel_imp (fun a b h => hv b a h) (find?_all₂ (fun a b h => hk b a h) q (all₂_of_view e hn)))

theorem find?_some_of_view {β : Type} {v : Node → β} {s s' : KState} (h : s'.nodes.map v = s.nodes.map v)
    (hk : Finer v Node.key) {k : Key} {n : Node} (hf : s.find? k = some n) : ∃ n', s'.find? k = some n' ∧ v n' = v n :=
  Option.map_eq_some_iff.1 ((look_of_view h hk (.refl v) k).trans (congrArg _ hf))

theorem find?_none_of_view {β : Type} {v : Node → β} {s s' : KState} (h : s'.nodes.map v = s.nodes.map v)
    (hk : Finer v Node.key) {k : Key} (hf : s.find? k = none) : s'.find? k = none :=
  find?_none_of_look (v := v) k (look_of_view h.symm hk (.refl v) k) hf

section SameView
variable {β : Type} {v : Node → β}

/-- `s'` has the rows of `s`, in order, up to what the view `v` does not show, and the same deletion queue. -/
def SameView (v : Node → β) (s s' : KState) : Prop :=
  s'.nodes.map v = s.nodes.map v ∧ s'.toBeDeleted = s.toBeDeleted

theorem SameView.refl (s : KState) : SameView v s s := ⟨rfl, rfl⟩

theorem SameView.trans {a b c : KState} (h1 : SameView v a b) (h2 : SameView v b c) : SameView v a c :=
  ⟨h2.1.trans h1.1, h2.2.trans h1.2⟩

theorem sameView_modifyWhere (s : KState) (p : Node → Bool) (f : Node → Node) (hf : Keeps v f) :
    SameView v s (s.modifyWhere p f) :=
  ⟨map_view_modifyWhere s p f v hf, rfl⟩

theorem sameView_modify (s : KState) (k : Key) (f : Node → Node) (hf : Keeps v f) :
    SameView v s (s.modify k f) :=
  ⟨map_view_modify s k f v fun n _ _ => hf n, rfl⟩

theorem SameView.look {γ : Type} {w : Node → γ} {s s' : KState} (h : SameView v s s') (hk : Finer v Node.key)
    (hw : Finer v w) (q : Key) : s'.look w q = s.look w q :=
  look_of_view h.1 hk hw q

end SameView

/-- `s'` is `s` with a function applied to every row that the view `e` cannot tell from the identity. -/
def RowMap {β : Type} (e : Node → β) (s s' : KState) : Prop :=
  ∃ g : Node → Node, Keeps e g ∧ s' = { s with nodes := s.nodes.map g }

namespace RowMap
variable {β γ : Type} {e : Node → β}

theorem refl (s : KState) : RowMap e s s := ⟨id, .id, by rw [List.map_id]⟩

theorem trans {a b c : KState} (h1 : RowMap e a b) (h2 : RowMap e b c) : RowMap e a c := by
  obtain ⟨g1, hg1, rfl⟩ := h1
  obtain ⟨g2, hg2, rfl⟩ := h2
  exact ⟨g2 ∘ g1, hg2.comp hg1, by simp only [List.map_map]⟩

theorem mono {e' : Node → γ} {s s' : KState} (h : RowMap e s s') (hw : Finer e e') : RowMap e' s s' := by
  obtain ⟨g, hg, rfl⟩ := h
  exact ⟨g, hg.mono hw, rfl⟩

theorem modifyWhere (s : KState) (p : Node → Bool) (f : Node → Node) (hf : Keeps e f) :
    RowMap e s (s.modifyWhere p f) :=
  ⟨fun n => if p n then f n else n, hf.ite (p · = true), rfl⟩

theorem modify (s : KState) (k : Key) (f : Node → Node) (hf : Keeps e f) : RowMap e s (s.modify k f) :=
  KState.modify_eq_modifyWhere s k f ▸ modifyWhere s _ f hf

theorem deps {s s' : KState} (h : RowMap e s s') : s'.deps = s.deps := by
  obtain ⟨g, _, rfl⟩ := h; rfl

theorem toBeDeleted {s s' : KState} (h : RowMap e s s') : s'.toBeDeleted = s.toBeDeleted := by
  obtain ⟨g, _, rfl⟩ := h; rfl

theorem nodes {s s' : KState} (h : RowMap e s s') : s'.nodes.map e = s.nodes.map e := by
  obtain ⟨g, hg, rfl⟩ := h
  exact map_view_map e g s.nodes fun n _ => hg n

theorem keysUnique {s s' : KState} (h : RowMap e s s') (hk : Finer e Node.key)
    (hu : (s.nodes.map (·.key)).Nodup) : (s'.nodes.map (·.key)).Nodup :=
  nodup_keys_of_view h.nodes hk hu

theorem view {s s' : KState} (h : RowMap e s s') (w : β → γ) : s'.nodes.map (w ∘ e) = s.nodes.map (w ∘ e) :=
  map_eq_of_comp e w h.nodes

theorem sameView {s s' : KState} (h : RowMap e s s') : SameView e s s' ∧ s'.deps = s.deps :=
  ⟨⟨h.nodes, h.toBeDeleted⟩, h.deps⟩

end RowMap

/-- `P` survives every rewrite of the node table that relates each row to its successor by `R`. -/
def MapStable (R : Node → Node → Prop) (P : KState → Prop) : Prop :=
  ∀ (s : KState) (g : Node → Node), (∀ n ∈ s.nodes, R n (g n)) → P s → P { s with nodes := s.nodes.map g }

namespace MapStable
variable {R : Node → Node → Prop} {P : KState → Prop}

/-- `UPDATE node SET .. WHERE p`. -/
theorem modifyWhere (h : MapStable R P) (hr : ∀ n, R n n) (s : KState) (p : Node → Bool) (f : Node → Node)
    (hf : ∀ n ∈ s.nodes, p n = true → R n (f n)) (hp : P s) : P (s.modifyWhere p f) :=
  h s _ (fun n hn => ite_ind (R n) (hf n hn) fun _ => hr n) hp

/-- `UPDATE node SET .. WHERE key = k`. -/
theorem modify (h : MapStable R P) (hr : ∀ n, R n n) (s : KState) (k : Key) (f : Node → Node)
    (hf : ∀ n ∈ s.nodes, n.key = k → R n (f n)) (hp : P s) : P (s.modify k f) :=
  h s _ (fun n hn => ite_ind (R n) (hf n hn) fun _ => hr n) hp

end MapStable

end StepupModel.K

namespace StepupModel.K.Discipline

theorem all₂_modify {R : Node → Node → Prop} (hrefl : ∀ n, R n n) (s : KState) (k : Key) (f : Node → Node)
    (hf : ∀ n, n.key = k → R n (f n)) : All₂ R s.nodes (s.modify k f).nodes := by
  unfold KState.modify
  refine all₂_map _ _ fun n _ => ?_
  by_cases h : n.key = k
  · rw [if_pos h]; exact hf n h
  · rw [if_neg h]; exact hrefl n

/-- Outside the keys of `X` the rows of `s'` are `R`-images of those of `s`; under the keys of `X` rows may appear,
vanish or change in any way. -/
structure Outside (X : Key → Prop) (R : Node → Node → Prop) (s s' : KState) : Prop where
  find : ∀ c, ¬ X c → OptRel R (s.find? c) (s'.find? c)
  mem : ∀ n' ∈ s'.nodes, ¬ X n'.key → ∃ n ∈ s.nodes, R n n'

namespace Outside
variable {X Y : Key → Prop} {R R' : Node → Node → Prop} {s s' s'' : KState}

theorem refl (hR : ∀ n, R n n) (s : KState) : Outside X R s s :=
  ⟨fun _ _ => optRel_refl hR _, fun n hn _ => ⟨n, hn, hR n⟩⟩

theorem trans (hkey : ∀ a b, R a b → b.key = a.key) (ht : ∀ a b c, R a b → R b c → R a c)
    (h1 : Outside X R s s') (h2 : Outside X R s' s'') : Outside X R s s'' :=
  ⟨fun c hc => optRel_trans ht (h1.find c hc) (h2.find c hc), fun n'' hn'' hx =>
    have ⟨n', hn', r2⟩ := h2.mem n'' hn'' hx
    have ⟨n, hn, r1⟩ := h1.mem n' hn' (hkey _ _ r2 ▸ hx)
    ⟨n, hn, ht _ _ _ r1 r2⟩⟩

theorem imp (hR : ∀ a b, R a b → R' a b) (hX : ∀ k, X k → Y k) (h : Outside X R s s') : Outside Y R' s s' :=
  ⟨fun c hc => optRel_imp hR (h.find c fun hx => hc (hX c hx)), fun n' hn' hx =>
    have ⟨n, hn, r⟩ := h.mem n' hn' fun h' => hx (hX _ h')
    ⟨n, hn, hR _ _ r⟩⟩

theorem of_eq (hR : ∀ n, R n n) (h : Outside X Eq s s') : Outside X R s s' :=
  h.imp (fun a _ e => by cases e; exact hR a) fun _ h => h

theorem of_all₂ {Q : Node → Node → Prop} (hkey : ∀ a b, Q a b → b.key = a.key)
    (hQ : ∀ a b, Q a b → ¬ X a.key → R a b) (h : All₂ Q s.nodes s'.nodes) : Outside X R s s' where
  find c hc := by
    have := find?_all₂ (R := Q) hkey c h
    unfold KState.find?
    revert this
    cases hf : s.nodes.find? (·.key = c) <;> cases s'.nodes.find? (·.key = c) <;> intro this
    · trivial
    · exact this.elim
    · exact this.elim
    · exact hQ _ _ this ((find_key (s := s) hf).symm ▸ hc)
  mem n' hn' hx :=
    have ⟨n, hn, q⟩ := all₂_mem_right h n' hn'
    ⟨n, hn, hQ _ _ q (hkey _ _ q ▸ hx)⟩

theorem of_rows (hkey : ∀ a b, R a b → b.key = a.key) (h : All₂ R s.nodes s'.nodes) : Outside X R s s' :=
  of_all₂ hkey (fun _ _ r _ => r) h

theorem of_nodes (hR : ∀ n, R n n) (h : s'.nodes = s.nodes) : Outside X R s s' :=
  ⟨fun c _ => by unfold KState.find?; rw [h]; exact optRel_refl hR _, fun n hn _ => ⟨n, h ▸ hn, hR n⟩⟩

/-- `UPDATE .. WHERE key = k`. -/
theorem modify (hR : ∀ n, R n n) (s : KState) (k : Key) (f : Node → Node) (hkey : ∀ n, n.key = k → (f n).key = k)
    (hf : ∀ n, n.key = k → ¬ X k → R n (f n)) : Outside X R s (s.modify k f) :=
  of_all₂ (Q := fun a b => b.key = a.key ∧ (¬ X a.key → R a b)) (fun _ _ h => h.1) (fun _ _ h => h.2)
    (all₂_modify (fun n => ⟨rfl, fun _ => hR n⟩) s k f fun n hn =>
      ⟨(hkey n hn).trans hn.symm, fun hx => hf n hn (hn ▸ hx)⟩)

/-- `INSERT INTO node` of an exempt key. -/
theorem appendNode (hR : ∀ n, R n n) (s : KState) {k : Key} (c : Option Key) (hX : X k) :
    Outside X R s (s.appendNode k c) where
  find q hq := by
    rw [find?_appendNode, if_neg fun (e : k = q) => hq (e ▸ hX), Option.or_none]; exact optRel_refl hR _
  mem n' hn' hx := ⟨n', (mem_appendNode.1 hn').resolve_right fun e => hx (e ▸ hX), hR n'⟩

/-- `DELETE FROM node` of an exempt key. -/
theorem remove (hR : ∀ n, R n n) (s : KState) {k : Key} (hX : X k) :
    Outside X R s { s with nodes := s.nodes.filter (·.key ≠ k) } where
  find q hq := by
    have e : KState.find? { s with nodes := s.nodes.filter (·.key ≠ k) } q = s.find? q :=
      find?_filter_ne s.nodes k q fun e => hq (e ▸ hX)
    rw [e]; exact optRel_refl hR _
  mem n' hn' _ := ⟨n', (List.mem_filter.1 hn').1, hR n'⟩

end Outside

end StepupModel.K.Discipline
