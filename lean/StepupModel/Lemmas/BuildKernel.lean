import StepupModel.Lemmas.Resources
import StepupModel.Lemmas.MetaAfter
/-!
# Kernel facts for the composed build phase (`B/Build.lean`)

* The metadata refresh of `pop_next_job` (`_update_meta_safe`, `_update_meta_after`, `_update_meta_ready`) leaves
  no `_check_*` flag on a step and writes nothing on a table without flags, so the state that `pop_next_job`
  leaves when it answers "nothing" is a fixed point of the refresh in which no step is eligible.
* `RunsIn K` is a `StableRes` (`Lemmas/ResourcesFrame.lean`): every primitive write other than
  `Step.set_state(RUNNING)` keeps it, hence every request other than `pop` and `setState _ RUNNING`, and
  `pop_next_job` adds exactly the step it dispatches to run its command.
* The three endings of a job in `executor.py` (`mark_completed`; `set_state(PENDING)`; `reset_for_rerun` +
  `delete_hash` + `set_state(PENDING)`) all end with `mark_completed` or `set_state(st ≠ RUNNING)`, and either
  leaves no RUNNING row with the key of the step (`Settling`, `exec_settles`).
-/
namespace StepupModel.K
open StepupModel.K.MetaSafe StepupModel.K.MetaAfter StepupModel.K.Resources

def NoCheckFlags (s : KState) : Prop :=
  ∀ n ∈ s.nodes, n.key.kind = .step → n.checkSafe = false ∧ n.checkAfter = false ∧ n.checkReady = false

theorem updateMeta_noCheckFlags {s su : KState} {cfg : KConfig} (h : s.updateMeta cfg = .ok su) : NoCheckFlags su := by
  obtain ⟨s1, s2, h1, h2, rfl⟩ := updateMeta_ok h
  have f1 := updateMetaSafe_flags h1
  have f2 := updateMetaAfter_flags h2
  obtain ⟨g, hg, e2⟩ := updateMetaAfter_rowMap h2
  have f12 : ∀ m ∈ s2.nodes, m.key.kind = .step → m.checkSafe = false ∧ m.checkAfter = false := by
    intro m hm hk
    refine ⟨?_, f2 m hm hk⟩
    rw [e2] at hm
    obtain ⟨m1, hm1, rfl⟩ := List.mem_map.1 hm
    have hkey : (g m1).key = m1.key := (congrArg Node.key (hg m1) :)
    have hcs : (g m1).checkSafe = m1.checkSafe := (congrArg Node.checkSafe (hg m1) :)
    exact hcs.trans (f1 m1 hm1 (hkey ▸ hk))
  intro n hn hk
  obtain ⟨m, hm, rfl⟩ := List.mem_map.1 hn
  dsimp only at hk ⊢
  by_cases hp : decide (m.key.kind = .step ∧ m.checkReady = true) = true
  · rw [if_pos hp] at hk ⊢
    exact ⟨(f12 m hm hk).1, (f12 m hm hk).2, rfl⟩
  · rw [if_neg hp] at hk ⊢
    refine ⟨(f12 m hm hk).1, (f12 m hm hk).2, ?_⟩
    cases hc : m.checkReady with
    | false => rfl
    | true => exact absurd (decide_eq_true ⟨hk, hc⟩) hp

theorem updateMeta_of_noCheckFlags {s : KState} (cfg : KConfig) (h : NoCheckFlags s) : s.updateMeta cfg = .ok s :=
  bind_ok_iff.2 ⟨s, updateMetaSafe_skip fun n hn hk => (h n hn hk).1,
    bind_ok_iff.2 ⟨s, updateMetaAfter_skip cfg fun n hn hk => (h n hn hk).2.1,
      congrArg Except.ok (updateMetaReady_skip fun n hn hk => (h n hn hk).2.2)⟩⟩

/-- The three `_update_meta_*` of `pop_next_job` succeed and `SELECT_NEXT_STEP` finds no row in the state they
leave. -/
def NoEligible (k : KState) (cfg : KConfig) : Prop :=
  ∃ su, k.updateMeta cfg = .ok su ∧ ∀ n ∈ su.nodes, su.eligible cfg n = false

instance (k : KState) (cfg : KConfig) : Decidable (NoEligible k cfg) :=
  match h : k.updateMeta cfg with
  | .ok su => decidable_of_iff (∀ n ∈ su.nodes, su.eligible cfg n = false)
      ⟨fun hh => ⟨su, h, hh⟩, fun ⟨su', h', hh⟩ => by rw [h] at h'; cases h'; exact hh⟩
  | .error _ => isFalse fun ⟨su', h', _⟩ => by rw [h] at h'; cases h'

theorem popNext_none_spec {k k' : KState} {cfg : KConfig} {c : Option Key}
    (h : k.popNext cfg c = .ok (k', .none)) :
    c = none ∧ k.updateMeta cfg = .ok k' ∧ (∀ n ∈ k'.nodes, k'.eligible cfg n = false) ∧
      k'.updateMeta cfg = .ok k' ∧ NoEligible k cfg ∧ NoEligible k' cfg := by
  obtain ⟨su, hu, ⟨rfl, rfl, -, hel⟩ | ⟨_, _, _, _, _, _, _, _, _, hd⟩⟩ := popNext_ok h
  · have hfix := updateMeta_of_noCheckFlags cfg (updateMeta_noCheckFlags hu)
    exact ⟨rfl, hu, hel, hfix, ⟨k', hu, hel⟩, ⟨k', hfix, hel⟩⟩
  · cases hd

def RunsIn (K : Key → Prop) (s : KState) : Prop := ∀ n ∈ s.nodes, runs n = true → K n.key

variable {K : Key → Prop}

theorem stableRes_runsIn (K : Key → Prop) : StableRes (RunsIn K) := stableRes_dom fun k _ => K k

/-- All requests but the two that make a step RUNNING.  In stepup-core only `pop_next_job` does that: no RPC
handler, nor the executor, the watcher or startup calls `set_state(RUNNING)`. -/
def NoForeign : Req → Prop
  | .pop _ => False
  | .setState _ .running => False
  | _ => True

instance : DecidablePred NoForeign := fun r => by unfold NoForeign; split <;> infer_instance

theorem setStepExtras_runsIn (s : KState) (sk : Key) (d : StepDecl) (h : RunsIn K s) :
    RunsIn K (s.setStepExtras sk d) :=
  rows_modify s sk _ (fun _ _ _ hn => hn) h

theorem exec_runsIn (cfg : KConfig) (r : Req) (s : KState) (res : KState × String) (hq : NoForeign r)
    (hp : RunsIn K s) (h : s.exec cfg r = .ok res) : RunsIn K res.1 := by
  refine exec_stableW_of (stableRes_runsIn K).toW cfg r s res ?_ ?_ ?_ ?_ (fun _ _ => trivial) hp h
  · intro c d sk n s1 s3 _ _ _ _ _ _ _ hp3; exact setStepExtras_runsIn s3 sk _ hp3
  · intro c d sk s1 _ _ _ hp1; exact setStepExtras_runsIn s1 sk _ hp1
  · intro k _ _ e; subst e; exact hq.elim
  · intro k e; subst e; exact hq.elim

theorem step_runsIn (cfg : KConfig) (r : Req) (s : KState) (hq : NoForeign r) (hp : RunsIn K s) :
    RunsIn K (s.step cfg r) :=
  step_of_exec hp fun res => exec_runsIn cfg r s res hq hp

theorem runsIn_mono {K K' : Key → Prop} (hk : ∀ x, K x → K' x) {s : KState} (h : RunsIn K s) : RunsIn K' s :=
  fun n hn hr => hk _ (h n hn hr)

theorem popNext_runsIn {k k' : KState} {cfg : KConfig} {c : Option Key} {d : Dispatch}
    (h : k.popNext cfg c = .ok (k', d)) (hp : RunsIn K k) :
    RunsIn (fun x => K x ∨ ∃ run, d = .job x false run) k' :=
  ((stableRes_runsIn _).toWR (R := fun _ x => ∃ run, d = .job x false run) fun s x _ _ _ hx hf hw hs =>
      rows_modify s x _ (fun _ _ _ _ _ => .inr ((stepRowWrite_cols hw).1.trans (find_key hf) ▸ hx)) hs
    ).popNext_preserves Sub.top cfg c k k' d (fun _ _ _ run _ _ _ _ _ _ _ hd => ⟨run, hd⟩)
    (runsIn_mono (fun _ => .inl) hp) h

theorem setStepState_settles {s s' : KState} {k : Key} {st : StepState} {d : Bool} (hst : st ≠ .running)
    (hw : s.setStepState k st d = .ok s') : RunsIn (fun x => x ≠ k) s' := by
  rcases writeStepState_ok hw with ⟨hf, rfl⟩ | ⟨n, n', -, hrw, rfl⟩
  · exact fun n hn _ => key_ne_of_find?_none hf hn
  · intro m hm hrun
    obtain ⟨m0, hm0, rfl⟩ := mem_modify hm
    by_cases hp : m0.key = k
    · rw [if_pos hp] at hrun
      exact absurd ((stepRowWrite_cols hrw).2.2 ▸ ((runs_iff n').1 hrun).2) hst
    · rw [if_neg hp]; exact hp

theorem completeFailure_settles {s s' : KState} {cfg : KConfig} {k : Key} {wd : Bool}
    (h : s.completeFailure cfg k wd = .ok s') : RunsIn (fun x => x ≠ k) s' := by
  have L := stableRes_runsIn (fun x => x ≠ k)
  obtain ⟨s1, s2, s3, st, d, -, hst, h2, h3, rfl⟩ := completeFailure_ok h
  have p2 : RunsIn (fun x => x ≠ k) s2 := setStepState_settles (by rcases hst with rfl | rfl <;> decide) h2
  exact L.deleteHash s3 k (h3.elim (· ▸ p2) (L.toW.detachCreatedSteps_preserves Sub.top k s2 s3 p2))

theorem completeSuccess_settles {s s' : KState} {cfg : KConfig} {k : Key} {hh : Nat}
    (h : s.completeSuccess cfg k hh = .ok s') : RunsIn (fun x => x ≠ k) s' := by
  have L := stableRes_runsIn (fun x => x ≠ k)
  obtain ⟨s1, s2, h1, h2, rfl⟩ := completeSuccess_ok h
  have p2 := L.toW.rebuildOutdatedProducts_preserves Sub.top k s1 s2 (setStepState_settles (by decide) h1) h2
  exact L.toW.payloadAt rfl _ k _ (fun _ => rfl) (L.setHash s2 k hh p2)

theorem markCompleted_settles {s s' : KState} {cfg : KConfig} {k : Key} {nh : Option Nat} {wd b : Bool}
    (h : s.markCompleted cfg k nh wd = .ok (s', b)) : RunsIn (fun x => x ≠ k) s' := by
  rcases markCompleted_ok h with ⟨-, h⟩ | ⟨hh, -, h⟩
  · exact completeFailure_settles h
  · exact completeSuccess_settles h

/-- The last request of the final transaction of a job for step `k`, as the executor issues it. -/
def Settling (k : Key) : Req → Prop
  | .completed k' _ _ => k' = k
  | .setState k' st => k' = k ∧ st ≠ .running
  | _ => False

theorem exec_settles {s : KState} {cfg : KConfig} {k : Key} {r : Req} {res : KState × String} (hs : Settling k r)
    (h : s.exec cfg r = .ok res) : RunsIn (fun x => x ≠ k) res.1 := by
  cases r with
  | completed k' nh wd =>
    obtain rfl : k' = k := hs
    obtain ⟨a, ha, e⟩ := pairOut_ok h
    exact e ▸ markCompleted_settles ha
  | setState k' st =>
    obtain ⟨rfl, hst⟩ : k' = k ∧ st ≠ .running := hs
    exact setStepState_settles hst (unitOut_ok h)
  | _ => exact hs.elim

end StepupModel.K
