import StepupModel.Lemmas.EverOutputBase
import StepupModel.Lemmas.KProp
import StepupModel.Lemmas.SuccOutputsLeaf
/-!
# I4 "every attached output of a SUCCEEDED step is BUILT or VOLATILE": the invariant and its leaves

`SuccOutputsOK` is the statement the oracle `succeeded_outputs` of `harness/koracles.py` decides (the form
`Workflow._check_consistency` tests).  It is not inductive.  The invariant that is carried through the
requests is `J X W N s`, a statement about every edge `src -> f` into a file row `f`:

* (row) `f` has a row;
* (own) the creator of `f` is `src` or `f` has no creator (a raw `detach` of the file cuts the link and
  leaves the edge);
* (role) `f` is in a product state (PLANNED, BUILT, OUTDATED, VOLATILE);
* (done) if the creator of `f` is `src`, and `src` is a SUCCEEDED step, then `f` is BUILT or VOLATILE.

`(done)` does not mention `detached`: a detached SUCCEEDED step with its detached outputs satisfies it too, which
is what makes the re-attachment of a recycled subtree harmless.  The parameters: `X` are the sink keys
for which anything is claimed (`Trellis.create` rewrites the row of its key before it deletes the edges
into it), `W` the edges whose `(done)` clause is waived (inside `mark_completed`, between the write of the
step state and the writes of the file states), `N` keys that are not SUCCEEDED steps (the creator of the
products that are being declared).

`midJ`: the recursion `mark_step_pending` / `mark_file_outdated` / `mark_consuming_steps_pending` keeps the
invariant (`Mid.toW`, `Lemmas/SuccOutputsLeaf.lean`, through the walk of `Lemmas/StableW.lean`): the step is made
PENDING *before* its BUILT sinks become OUTDATED, and a file with an edge from the step is owned by the step or by
nobody, so no SUCCEEDED owner is left behind.
-/
namespace StepupModel.K.SuccOut
open StepupModel.K.MetaAfter StepupModel.K.Discipline StepupModel.K.Ever

def Done (st : FileState) : Prop := st = .built ∨ st = .volatile

instance (st : FileState) : Decidable (Done st) := by unfold Done; exact inferInstance

theorem Done.isProduct {st : FileState} (h : Done st) : IsProduct st := by
  rcases h with rfl | rfl <;> decide

/-- I4 as the oracle states it: every attached file that is the sink of an edge from a SUCCEEDED
step (attached or not) is BUILT or VOLATILE. -/
def SuccOutputsOK (s : KState) : Prop :=
  ∀ n ∈ s.nodes, n.key.kind = .step → n.sstate = .succeeded →
    ∀ d ∈ s.deps, d.src = n.key →
      ∀ f ∈ s.nodes, f.key = d.snk → f.key.kind = .file → f.detached = false → Done f.fstate

instance (s : KState) : Decidable (SuccOutputsOK s) := by
  unfold SuccOutputsOK Done; exact inferInstance

def succOutputsOKB (s : KState) : Bool := decide (SuccOutputsOK s)

theorem succOutputsOKB_iff (s : KState) : succOutputsOKB s = true ↔ SuccOutputsOK s := by
  unfold succOutputsOKB; exact decide_eq_true_iff

def Succ (s : KState) (k : Key) : Prop := k.kind = .step ∧ s.sstateOf k = some .succeeded

def EdgeOK (s : KState) (W : Key → Key → Prop) (d : Dep) (f : Node) : Prop :=
  (f.creator = none ∨ f.creator = some d.src) ∧ IsProduct f.fstate ∧
    (f.creator = some d.src → ¬ W d.src d.snk → Succ s d.src → Done f.fstate)

/-- The invariant (see the header). -/
def J (X : Key → Prop) (W : Key → Key → Prop) (N : Key → Prop) (s : KState) : Prop :=
  (∀ d ∈ s.deps, d.snk.kind = .file → X d.snk → ∃ f, s.find? d.snk = some f ∧ EdgeOK s W d f) ∧
  (∀ k, N k → ¬ Succ s k)

def NoW (_ _ : Key) : Prop := False
def NoN (_ : Key) : Prop := False

/-- The state change of a file row that needs no context. -/
def StMono (s' : KState) (f f' : Node) : Prop :=
  f'.fstate = f.fstate ∨ f'.fstate = .built ∨ (IsProduct f'.fstate ∧ ¬ Done f.fstate) ∨
    (IsProduct f'.fstate ∧ ∀ c, f'.creator = some c → ¬ Succ s' c)

theorem StMono.rfl'{s' : KState} {f f' : Node} (h : f'.fstate = f.fstate) : StMono s' f f' := .inl h

namespace Succ

theorem of_find {s s' : KState} {q : Key} (h : Succ s' q)
    (hf : ∀ n', s'.find? q = some n' → n'.sstate = .succeeded → ∃ n, s.find? q = some n ∧ n.sstate = .succeeded) :
    Succ s q := by
  refine ⟨h.1, ?_⟩
  have h2 := h.2
  unfold KState.sstateOf at h2 ⊢
  cases hq : s'.find? q with
  | none => rw [hq] at h2; cases h2
  | some n' =>
    rw [hq] at h2
    obtain ⟨n, hn, hs⟩ := hf n' hq (Option.some.inj h2)
    rw [hn, ← hs]; rfl

theorem of_modify {s : KState} {k q : Key} {g : Node → Node} (hkey : ∀ n, n.key = k → (g n).key = k)
    (hs : ∀ n, s.find? k = some n → (g n).sstate = .succeeded → n.sstate = .succeeded) (h : Succ (s.modify k g) q) :
    Succ s q := by
  refine h.of_find fun n' hn' hs' => ?_
  rw [find?_modify s k q g hkey] at hn'
  cases hq : s.find? q with
  | none => rw [hq] at hn'; cases hn'
  | some n =>
    rw [hq] at hn'
    cases hn'
    refine ⟨n, rfl, ?_⟩
    dsimp only at hs'
    by_cases hm : n.key = k
    · rw [if_pos hm] at hs'
      exact hs n ((find_key hq).symm.trans hm ▸ hq) hs'
    · rw [if_neg hm] at hs'; exact hs'

end Succ

/-- What a row update may do without context. -/
def RowMono (n n' : Node) : Prop :=
  (n.key.kind = .file → (n'.creator = n.creator ∨ n'.creator = none) ∧ (n'.fstate = n.fstate ∨ n'.fstate = .built)) ∧
  (n'.sstate = .succeeded → n.sstate = .succeeded)

theorem RowMono.refl (n : Node) : RowMono n n := ⟨fun _ => ⟨.inl rfl, .inl rfl⟩, id⟩

theorem rowMono_of_cacheOnly {g : Node → Node} (hg : CacheOnly g) (n : Node) : RowMono n (g n) :=
  ⟨fun _ => ⟨.inl (hg.creator n), .inl (hg.fstate n)⟩, fun hs => hg.sstate n ▸ hs⟩

theorem rowMono_same {n n' : Node} (h1 : n'.creator = n.creator) (h2 : n'.fstate = n.fstate)
    (h3 : n'.sstate = n.sstate) : RowMono n n' :=
  ⟨fun _ => ⟨.inl h1, .inl h2⟩, fun h => h3 ▸ h⟩

namespace J
variable {X : Key → Prop} {W : Key → Key → Prop} {N : Key → Prop} {s s' : KState}

theorem mono (hJ : J X W N s)
    (hd : ∀ d' ∈ s'.deps, d'.snk.kind = .file → X d'.snk → ∃ d ∈ s.deps, d.src = d'.src ∧ d.snk = d'.snk)
    (hr : ∀ k f, k.kind = .file → X k → s.find? k = some f → (∃ d' ∈ s'.deps, d'.snk = k) →
      ∃ f', s'.find? k = some f' ∧ (f'.creator = f.creator ∨ f'.creator = none) ∧ StMono s' f f')
    (hs : ∀ k, Succ s' k → Succ s k) : J X W N s' := by
  refine ⟨?_, fun k hk h => hJ.2 k hk (hs k h)⟩
  intro d' hd' hkind hx
  obtain ⟨d, hdm, h1, h2⟩ := hd d' hd' hkind hx
  obtain ⟨f, hf, hc1, hc2, hc3⟩ := hJ.1 d hdm (h2 ▸ hkind) (h2 ▸ hx)
  rw [h2] at hf
  obtain ⟨f', hf', hcr, hst⟩ := hr d'.snk f hkind hx hf ⟨d', hd', rfl⟩
  refine ⟨f', hf', ?_, ?_, ?_⟩
  · rcases hcr with he | he
    · rw [he, ← h1]; exact hc1
    · exact .inl he
  · rcases hst with he | he | he | he
    · rw [he]; exact hc2
    · rw [he]; decide
    · exact he.1
    · exact he.1
  · intro hcs hw hsucc
    have hcf : f.creator = some d.src := by
      rcases hcr with he | he
      · rw [← he, h1]; exact hcs
      · rw [he] at hcs; cases hcs
    have hdone : Done f.fstate := hc3 hcf (by rw [h1, h2]; exact hw) (h1 ▸ hs _ hsucc)
    rcases hst with he | he | he | he
    · rw [he]; exact hdone
    · exact .inl he
    · exact absurd hdone he.2
    · exact absurd hsucc (he.2 _ hcs)

theorem congr (hJ : J X W N s) (hn : s'.nodes = s.nodes) (hd : s'.deps = s.deps) : J X W N s' := by
  have hfind : ∀ k, s'.find? k = s.find? k := fun k => by unfold KState.find?; rw [hn]
  exact hJ.mono (fun d' h _ _ => ⟨d', hd ▸ h, rfl, rfl⟩)
    (fun k f _ _ hf _ => ⟨f, (hfind k).trans hf, .inl rfl, .inl rfl⟩)
    (fun k h => h.of_find fun n' hn' hs => ⟨n', hfind k ▸ hn', hs⟩)

theorem weaken {X' : Key → Prop} {W' : Key → Key → Prop} {N' : Key → Prop} (hJ : J X W N s)
    (hX : ∀ k, X' k → X k) (hW : ∀ a b, W a b → W' a b) (hN : ∀ k, N' k → N k) : J X' W' N' s := by
  refine ⟨?_, fun k hk => hJ.2 k (hN k hk)⟩
  intro d hd hk hx
  obtain ⟨f, hf, h1, h2, h3⟩ := hJ.1 d hd hk (hX _ hx)
  exact ⟨f, hf, h1, h2, fun hc hw => h3 hc (fun h => hw (hW _ _ h))⟩

theorem addN (hJ : J X W N s) (M : Key → Prop) (hM : ∀ k, M k → ¬ Succ s k) : J X W (fun k => N k ∨ M k) s :=
  ⟨hJ.1, fun k hk => hk.elim (hJ.2 k) (hM k)⟩

theorem unwaive {W' : Key → Key → Prop} (hJ : J X W N s)
    (h : ∀ d ∈ s.deps, d.snk.kind = .file → W d.src d.snk → ¬ W' d.src d.snk → ∀ f, s.find? d.snk = some f →
      f.creator = some d.src → Succ s d.src → Done f.fstate) : J X W' N s := by
  refine ⟨?_, hJ.2⟩
  intro d hd hk hx
  obtain ⟨f, hf, h1, h2, h3⟩ := hJ.1 d hd hk hx
  refine ⟨f, hf, h1, h2, fun hc hw hs => ?_⟩
  by_cases hW : W d.src d.snk
  · exact h d hd hk hW hw f hf hc hs
  · exact h3 hc hW hs

theorem unwaiveSrc {k : Key} (hJ : J X (fun a b => W a b ∨ a = k) N s)
    (h : Succ s k → ∀ d ∈ s.deps, d.src = k → d.snk.kind = .file → ¬ W k d.snk → ∀ f, s.find? d.snk = some f →
      f.creator = some k → Done f.fstate) : J X W N s :=
  hJ.unwaive fun d hd hk hw hnw f hf hc hs => by
    rcases hw with hw | rfl
    · exact absurd hw hnw
    · exact h hs d hd rfl hk hnw f hf hc

theorem rows (hJ : J X W N s) (hd : s'.deps = s.deps)
    (hf : ∀ k, ∃ g : Node → Node, s'.find? k = (s.find? k).map g ∧ ∀ n, s.find? k = some n → RowMono n (g n)) :
    J X W N s' := by
  refine hJ.mono (fun d' h _ _ => ⟨d', hd ▸ h, rfl, rfl⟩) ?_ ?_
  · intro k f hk _ hfk _
    obtain ⟨g, hg, hm⟩ := hf k
    obtain ⟨h1, h2⟩ := (hm f hfk).1 (find_key hfk ▸ hk)
    exact ⟨g f, by rw [hg, hfk]; rfl, h1, h2.imp_right .inl⟩
  · intro k h
    obtain ⟨g, hg, hm⟩ := hf k
    refine h.of_find fun n' hn' hs => ?_
    rw [hg] at hn'
    cases hfk : s.find? k with
    | none => rw [hfk] at hn'; cases hn'
    | some n => rw [hfk] at hn'; cases hn'; exact ⟨n, rfl, (hm n hfk).2 hs⟩

theorem modifyWhere (hJ : J X W N s) (p : Node → Bool) (g : Node → Node) (hkey : ∀ n, (g n).key = n.key)
    (hg : ∀ n, RowMono n (g n)) : J X W N (s.modifyWhere p g) := by
  refine hJ.rows rfl fun k => ⟨fun n => if p n then g n else n, find?_modifyWhere s p g k hkey, fun n _ => ?_⟩
  dsimp only
  split
  · exact hg n
  · exact RowMono.refl n

theorem modify (hJ : J X W N s) (k : Key) (g : Node → Node) (hkey : ∀ n, n.key = k → (g n).key = k)
    (hg : ∀ n, s.find? k = some n → RowMono n (g n)) : J X W N (s.modify k g) := by
  refine hJ.rows rfl fun q => ⟨fun n => if n.key = k then g n else n, find?_modify s k q g hkey, fun n hn => ?_⟩
  dsimp only
  split
  · rename_i hp
    exact hg n ((find_key hn).symm.trans hp ▸ hn)
  · exact RowMono.refl n

theorem cache (hJ : J X W N s) (p : Node → Bool) (g : Node → Node) (hg : CacheOnly g) : J X W N (s.modifyWhere p g) :=
  hJ.modifyWhere p g hg.key (rowMono_of_cacheOnly hg)

theorem depsSub (hJ : J X W N s) (D : List Dep)
    (hD : ∀ d' ∈ D, ∃ d ∈ s.deps, d.src = d'.src ∧ d.snk = d'.snk) : J X W N { s with deps := D } :=
  hJ.mono (fun d' h _ _ => hD d' h) (fun _ f _ _ hf _ => ⟨f, hf, .inl rfl, .inl rfl⟩) (fun _ h => h)

theorem filterDeps (hJ : J X W N s) (p : Dep → Bool) : J X W N { s with deps := s.deps.filter fun d => !p d } :=
  hJ.depsSub _ fun d' h => ⟨d', (List.mem_filter.1 h).1, rfl, rfl⟩

theorem markDyn (hJ : J X W N s) (a b : Key) (dyn : Bool) :
    J X W N { s with deps := s.deps.map fun (d : Dep) => if d.src = a ∧ d.snk = b then { d with dyn := dyn } else d } := by
  refine hJ.depsSub _ fun d' h => ?_
  obtain ⟨d, hd, rfl⟩ := List.mem_map.1 h
  refine ⟨d, hd, ?_, ?_⟩ <;> split <;> rfl

theorem addDep (hJ : J X W N s) (a b : Key)
    (h : b.kind = .file → X b → ∃ f, s.find? b = some f ∧ EdgeOK s W { src := a, snk := b } f) :
    J X W N { s with deps := s.deps ++ [({ src := a, snk := b } : Dep)] } := by
  refine ⟨?_, hJ.2⟩
  intro d hd hk hx
  rcases List.mem_append.1 hd with hd | hd
  · exact hJ.1 d hd hk hx
  · rw [List.mem_singleton] at hd
    subst hd
    exact h hk hx

theorem appendNode (hJ : J X W N s) (k : Key) (c : Option Key) : J X W N (s.appendNode k c) := by
  refine hJ.mono (fun d' h _ _ => ⟨d', h, rfl, rfl⟩) ?_ fun q h => h.of_find fun n' hn' hs => ?_
  · intro q f _ _ hf _
    exact ⟨f, by rw [find?_appendNode, hf]; rfl, .inl rfl, .inl rfl⟩
  · rw [find?_appendNode] at hn'
    cases hq : s.find? q with
    | some n => rw [hq] at hn'; cases hn'; exact ⟨_, rfl, hs⟩
    | none =>
      rw [hq] at hn'
      by_cases hk : k = q
      · rw [if_pos hk] at hn'; cases hn'; cases hs
      · rw [if_neg hk] at hn'; cases hn'

theorem removeNode (hJ : J X W N s) (k : Key) (hk : ∀ d ∈ s.deps, d.snk ≠ k) :
    J X W N { s with nodes := s.nodes.filter (·.key ≠ k) } := by
  refine hJ.mono (fun d' h _ _ => ⟨d', h, rfl, rfl⟩) ?_ fun q h => h.of_find fun n' hn' hs => ⟨n', ?_, hs⟩
  · intro q f _ _ hf ⟨d', hd', he⟩
    exact ⟨f, (find?_filter_ne s.nodes k q (he ▸ hk d' hd')).trans hf, .inl rfl, .inl rfl⟩
  · by_cases hq : q = k
    · exact absurd (hq ▸ find_key hn') (of_decide_eq_true (List.mem_filter.1 (find_mem hn')).2)
    · exact (find?_filter_ne s.nodes k q hq).symm.trans hn'

/-- `UPDATE file SET state` on the row of `k`: the clauses of the edges into `k` are re-established by the
caller. -/
theorem fileWrite (hJ : J X W N s)
    {k : Key} {n n' : Node} (hf : s.find? k = some n) (hkey : n'.key = n.key) (hcr : n'.creator = n.creator)
    (hss : n'.sstate = n.sstate)
    (h : ∀ d ∈ s.deps, d.snk = k → k.kind = .file → X k → IsProduct n'.fstate ∧
      (n.creator = some d.src → ¬ W d.src d.snk → Succ s d.src → Done n'.fstate)) :
    J X W N (s.modify k fun _ => n') := by
  have hk := find_key hf
  have hfind : ∀ q, (s.modify k fun _ => n').find? q = (s.find? q).map fun m => if m.key = k then n' else m :=
    fun q => find?_modify s k q _ (fun m hm => hkey.trans hk)
  have hsucc : ∀ q, Succ (s.modify k fun _ => n') q → Succ s q := fun q hq =>
    hq.of_modify (fun _ _ => hkey.trans hk) (fun m hm hs => by rw [hf] at hm; cases hm; exact hss ▸ hs)
  refine ⟨?_, fun q hq hs => hJ.2 q hq (hsucc q hs)⟩
  intro d hd hkind hx
  obtain ⟨f, hfd, h1, h2, h3⟩ := hJ.1 d hd hkind hx
  by_cases hdk : d.snk = k
  · rw [hdk, hf] at hfd; cases hfd
    obtain ⟨hp1, hp2⟩ := h d hd hdk (hdk ▸ hkind) (hdk ▸ hx)
    refine ⟨n', by rw [hfind, hdk, hf]; simp [hk], by rw [hcr]; exact h1, hp1, ?_⟩
    intro hc hw hs
    exact hp2 (hcr ▸ hc) hw (hsucc _ hs)
  · refine ⟨f, ?_, h1, h2, fun hc hw hs => h3 hc hw (hsucc _ hs)⟩
    rw [hfind, hfd]
    have : f.key ≠ k := fun he => hdk ((find_key hfd).symm.trans he)
    simp [this]

theorem stepWrite (hJ : J X W N s)
    {k : Key} {n n' : Node} {st : StepState} {d : Option Bool} (hf : s.find? k = some n)
    (hw : stepRowWrite n st d = .ok n') (hst : st ≠ .succeeded) : J X W N (s.modify k fun _ => n') := by
  rw [stepRowWrite_eq hw]
  refine hJ.modify k _ (fun m _ => (find_key hf :)) fun m hm => ?_
  rw [hf] at hm; cases hm
  exact ⟨fun _ => ⟨.inl rfl, .inl rfl⟩, fun hs => absurd hs hst⟩

end J

theorem J.cacheAt {X : Key → Prop} {W : Key → Key → Prop} {N : Key → Prop} {s : KState} (hJ : J X W N s)
    (k : Key) (g : Node → Node) (hg : CacheOnly g) : J X W N (s.modify k g) :=
  hJ.modify k g (fun n hn => (hg.key n).trans hn) (fun n _ => rowMono_of_cacheOnly hg n)

/-- Edges into a key are removed: whatever was exempt for that key can be claimed again. -/
theorem J.dropSink {X : Key → Prop} {W : Key → Key → Prop} {N : Key → Prop} {s : KState} (k : Key) (hJ : J (fun x => X x ∧ x ≠ k) W N s)
    (p : Dep → Bool) (hp : ∀ d ∈ s.deps, d.snk = k → p d = true) : J X W N { s with deps := s.deps.filter fun d => !p d } := by
  have h1 := hJ.filterDeps p
  refine ⟨?_, h1.2⟩
  intro d hd hk hx
  refine h1.1 d hd hk ⟨hx, fun he => ?_⟩
  obtain ⟨hm, hq⟩ := List.mem_filter.1 hd
  rw [hp d hm he] at hq; cases hq

/-- A write that keeps the edges and `(key, creator, state)` of every row: only the step states matter, through
`Succ`; an edge whose source may have become SUCCEEDED is waived in `W'`. -/
theorem J.stepStates {X : Key → Prop} {W W' : Key → Key → Prop} {N N' : Key → Prop} {s s' : KState} (hJ : J X W N s)
    (hd : s'.deps = s.deps)
    (hcf : ∀ q, (s'.find? q).map (fun n => (n.key, n.creator, n.fstate)) =
      (s.find? q).map fun n => (n.key, n.creator, n.fstate))
    (hs : ∀ a b, ¬ W' a b → Succ s' a → Succ s a ∧ ¬ W a b) (hN : ∀ k, N' k → ¬ Succ s' k) : J X W' N' s' := by
  refine ⟨fun e he hkind hx => ?_, hN⟩
  obtain ⟨f, hf, h1, h2, h3⟩ := hJ.1 e (hd ▸ he) hkind hx
  obtain ⟨f', hf', hcols⟩ := find_cols (hcf e.snk).symm hf
  have hc : f'.creator = f.creator := congrArg (·.2.1) hcols
  have hst : f'.fstate = f.fstate := congrArg (·.2.2) hcols
  refine ⟨f', hf', hc ▸ h1, hst ▸ h2, fun hcs hw hsucc => ?_⟩
  obtain ⟨hs0, hw0⟩ := hs _ _ hw hsucc
  exact hst ▸ h3 (hc ▸ hcs) hw0 hs0

section
variable {X : Key → Prop} {W : Key → Key → Prop} {N : Key → Prop}

theorem leafJ (X : Key → Prop) (W : Key → Key → Prop) (N : Key → Prop) : Leaf (J X W N) where
  cache := fun s p f hf hp => hp.cache p f hf
  detached := fun s k d hp => hp.modify k _ (fun n hn => hn) (fun n _ => rowMono_same rfl rfl rfl)
  creator := fun s k c d _ hc hp => by
    refine hp.modify k _ (fun n hn => hn) (fun n hn => ?_)
    have hk := find_key hn
    refine ⟨fun hfile => ⟨?_, .inl rfl⟩, id⟩
    rcases hc with hc | hc
    · exact .inr hc
    · exact absurd (hk ▸ hfile) hc
  stepWrite := fun s k n n' st d hf hw hst hp => hp.stepWrite hf hw hst
  stepInit := fun s k i hp => hp.modify k _ (fun n hn => hn) (fun n _ => ⟨fun _ => ⟨.inl rfl, .inl rfl⟩, fun h => by cases h⟩)
  setHash := fun s k h hp => hp.modify k _ (fun n hn => hn) (fun n _ => rowMono_same rfl rfl rfl)
  deleteHash := fun s k hp => hp.modify k _ (fun n hn => ite_both (fun m : Node => m.key = k) hn hn)
    (fun n _ => ite_both (RowMono n) (rowMono_same rfl rfl rfl) (RowMono.refl n))
  bumpDefer := fun s k hp => hp.modify k _ (fun n hn => hn) (fun n _ => rowMono_same rfl rfl rfl)
  hold := fun s k hp => hp.modify k _ (fun n hn => hn) (fun n _ => rowMono_same rfl rfl rfl)
  release := fun s k n _ _ hp => hp.modify k _ (fun n hn => hn) (fun n _ => rowMono_same rfl rfl rfl)
  recycled := fun s k need shell hp => hp.modify k _ (fun n hn => hn) (fun n _ => rowMono_same rfl rfl rfl)
  addDep := fun s a b _ hkind ha hp => by
    refine hp.addDep a b (fun hb => ?_)
    rw [ha, hb] at hkind
    cases hkind
  filterDeps := fun s p hp => hp.filterDeps p
  markDyn := fun s a b dyn hp => hp.markDyn a b dyn
  appendNode := fun s k c _ _ hp => hp.appendNode k c
  removeNode := fun s k hk hp => hp.removeNode k hk
  queueDelete := fun s path h hp => hp.congr rfl rfl
  clearQueue := fun s hp => hp.congr rfl rfl

theorem fileRowWrite_cols {n n' : Node} {st : FileState} {nh : Option (Option Nat)} (h : fileRowWrite n st nh = .ok n') :
    n'.fstate = st ∧ n'.key = n.key ∧ n'.creator = n.creator ∧ n'.sstate = n.sstate := by
  rw [fileRowWrite_eq h]; exact ⟨rfl, rfl, rfl, rfl⟩

/-- What `J.fileWrite` asks of the caller of a state write on the file `k`. -/
def WriteOK (X : Key → Prop) (W : Key → Key → Prop) (s : KState) (k : Key) (st : FileState) : Prop :=
  ∀ n, s.find? k = some n → ∀ d ∈ s.deps, d.snk = k → k.kind = .file → X k →
    IsProduct st ∧ (n.creator = some d.src → ¬ W d.src d.snk → Succ s d.src → Done st)

theorem writeFile_J {s s' : KState} {k : Key}
    {st : FileState} {nh : Option (Option Nat)} (hJ : J X W N s) (hctx : WriteOK X W s k st)
    (h : s.writeFile k st nh = .ok s') : J X W N s' := by
  rcases writeFile_ok h with ⟨_, rfl⟩ | ⟨n, n', hf, hw, rfl⟩
  · exact hJ
  · obtain ⟨h1, h2, h3, h4⟩ := fileRowWrite_cols hw
    have hmod : J X W N (s.modify k fun _ => n') :=
      hJ.fileWrite hf h2 h3 h4 (fun d hd hdk hkind hx => h1 ▸ hctx n hf d hd hdk hkind hx)
    split
    · exact (leafJ X W N).flagReadySinks _ _ hmod
    · exact hmod

theorem writeOK_built (X : Key → Prop) (W : Key → Key → Prop) (s : KState) (k : Key) : WriteOK X W s k .built :=
  fun _ _ _ _ _ _ _ => ⟨by decide, fun _ _ _ => .inl rfl⟩

theorem writeOK_exempt {X : Key → Prop} (W : Key → Key → Prop) (s : KState) {k : Key} (hk : ¬ X k) (st : FileState) :
    WriteOK X W s k st := fun _ _ _ _ _ _ hx => absurd hx hk

theorem writeOK_noEdge (X : Key → Prop) (W : Key → Key → Prop) (s : KState) {k : Key} (hk : ∀ d ∈ s.deps, d.snk ≠ k)
    (st : FileState) : WriteOK X W s k st := fun _ _ d hd hdk _ _ => absurd hdk (hk d hd)

/-- A sink of a step that is not SUCCEEDED may take any product state: the file is owned by that step or by
nobody. -/
theorem writeOK_sink {s : KState} (hJ : J X W N s)
    {k f : Key} (hk : f ∈ s.sinksOf k) (hns : ¬ Succ s k) {st : FileState} (hst : IsProduct st) :
    WriteOK X W s f st := by
  intro n hn d hd hdk hkind hx
  refine ⟨hst, fun hc _ hs => ?_⟩
  obtain ⟨e, he, hes, hef⟩ := KState.mem_sinksOf.1 hk
  obtain ⟨fn, hfn, hown, _, _⟩ := hJ.1 e he (hef ▸ hkind) (hef ▸ hx)
  rw [hef, hn] at hfn; cases hfn
  rcases hown with ho | ho
  · rw [ho] at hc; cases hc
  · rw [ho] at hc
    have : e.src = d.src := Option.some.inj hc
    exact absurd (by rw [← hes, this]; exact hs) hns

theorem not_succ_of_pending {s : KState} {k : Key} (h : s.sstateOf k = some .pending) : ¬ Succ s k := by
  intro hs; rw [hs.2] at h; cases h

/-- The OUTDATED write of `mark_step_pending t` is justified by its caller: the file is a sink of `t`, which is
PENDING, hence not SUCCEEDED. -/
theorem midJ (X : Key → Prop) (W : Key → Key → Prop) (N : Key → Prop) : Mid (J X W N) :=
  ⟨leafJ X W N, fun _ _ _ _ hp hf _ _ hJ hw =>
    writeFile_J hJ (writeOK_sink hJ hf (not_succ_of_pending hp) (by decide)) hw⟩

end

end StepupModel.K.SuccOut
