import StepupModel.Lemmas.SuccOutputsBase
/-!
# I4: the four request kinds the invariant theorem excludes do break it

I4 (`SuccOutputsOK`: every attached output of a SUCCEEDED step is BUILT or VOLATILE) is kept by every request
except four kinds that the director never issues in the form below.  For each of them: the state the model
reaches by a short director-like history (a literal, compared with the model's own run of that history by the
`#guard` lines, which are evaluation checks and not theorems), I4 in that state, and ONE request that is accepted
and after which I4 fails.  The same histories replay on the implementation
(`harness/witness/succ_outputs_*.txt`, `harness/kreplay.py`), with the same answers and the same database.
-/
namespace StepupModel.K.SuccOut

def wCfg : KConfig := {}

def wPlan : Key := stepKey "./plan.py"

def wPrefix : List (KConfig × Req) := [
  (wCfg, .define rootKey { cmd := "./plan.py", need := .plan, safe := true }),
  (wCfg, .pop (some wPlan)),
  (wCfg, .define wPlan { cmd := "A", out := ["o"] })]

def wState1 : KState :=
  { nodes := [
      { key := rootKey, creator := some rootKey },
      { key := wPlan, creator := some rootKey, sstate := .running, need := .plan, impliedNeed := .plan,
        safe := true, checkSafe := true, safeNH := true, ready := true, checkReady := false },
      { key := stepKey "A", creator := some wPlan, checkSafe := true, checkAfter := true },
      { key := fileKey "o", creator := some (stepKey "A"), fstate := .planned }],
    deps := [{ src := stepKey "A", snk := fileKey "o" }] }

#guard reprStr wState1 == reprStr (KState.init.run wPrefix)

/-- A raw `Step.set_state(SUCCEEDED)` leaves the SUCCEEDED step A with the PLANNED attached output o
(`harness/witness/succ_outputs_set_state.txt`).  The only `set_state(SUCCEEDED)` of the implementation is the one
inside `Step.mark_completed`. -/
theorem set_state_succeeded_breaks_I4 : SuccOutputsOK wState1 ∧
    ∃ s', wState1.exec wCfg (.setState (stepKey "A") .succeeded) = .ok s' ∧ ¬ SuccOutputsOK s'.1 :=
  ⟨by decide, okAnd_not (by decide)⟩

def wState2 : KState :=
  { nodes := [
      { key := rootKey, creator := some rootKey },
      { key := wPlan, creator := some rootKey, sstate := .running, need := .plan, impliedNeed := .plan,
        safe := true, safeNH := true, ready := true, checkReady := false },
      { key := stepKey "A", creator := some wPlan, sstate := .running, safe := true, checkSafe := true, safeNH := true,
        ready := true, checkReady := false },
      { key := fileKey "o", creator := some (stepKey "A"), fstate := .planned }],
    deps := [{ src := stepKey "A", snk := fileKey "o" }] }

#guard reprStr wState2 == reprStr ((KState.init.run wPrefix).step wCfg (.pop (some (stepKey "A"))))

/-- The success branch of `mark_completed(new_hash)` does not look at the states of the outputs
(`harness/witness/succ_outputs_completed_planned.txt`).  The runner sends the
SUCCEEDED-cause hash update of every output first, and reports a missing output as a failure (`new_hash = None`). -/
theorem completed_with_planned_output_breaks_I4 : SuccOutputsOK wState2 ∧
    ∃ s', wState2.exec wCfg (.completed (stepKey "A") (some 7) false) = .ok s' ∧ ¬ SuccOutputsOK s'.1 :=
  ⟨by decide, okAnd_not (by decide +kernel)⟩

def wState3 : KState :=
  { nodes := [
      { key := rootKey, creator := some rootKey },
      { key := wPlan, creator := some rootKey, sstate := .running, need := .plan, impliedNeed := .plan,
        safe := true, safeNH := true, ready := true, checkReady := false },
      { key := stepKey "A", creator := some wPlan, sstate := .succeeded, safe := true, checkSafe := true, safeNH := true,
        ready := true, checkReady := false, hasHash := true, shash := some 7 },
      { key := fileKey "o", creator := some (stepKey "A"), fstate := .built, fhash := some 5 }],
    deps := [{ src := stepKey "A", snk := fileKey "o" }] }

def wState4 : KState := wState3

#guard reprStr wState3 == reprStr ((((KState.init.run wPrefix).step wCfg (.pop (some (stepKey "A")))).step wCfg
  (.hashes [("o", some 5)] .succeeded)).step wCfg (.completed (stepKey "A") (some 7) false))

theorem succOutputsOK_wState3 : SuccOutputsOK wState3 := by decide

/-- `amend` of a SUCCEEDED step: the new output o2 is PLANNED (`harness/witness/succ_outputs_amend_succeeded.txt`).
`DirectorHandler.amend_step` is an RPC of the process of a RUNNING step. -/
theorem amend_of_succeeded_step_breaks_I4 : SuccOutputsOK wState3 ∧
    ∃ s', wState3.exec wCfg (.amend (stepKey "A") [] [] ["o2"] [] []) = .ok s' ∧ ¬ SuccOutputsOK s'.1 :=
  ⟨succOutputsOK_wState3, okAnd_not (by decide +kernel)⟩

/-- `reset_for_rerun` of a SUCCEEDED step: the BUILT output o becomes OUTDATED, the step stays SUCCEEDED
(`harness/witness/succ_outputs_reset_rerun.txt`).  The executor calls `reset_for_rerun` on the step `pop_next_job`
has just set RUNNING. -/
theorem reset_for_rerun_of_succeeded_step_breaks_I4 : SuccOutputsOK wState4 ∧
    ∃ s', wState4.exec wCfg (.resetRerun (stepKey "A")) = .ok s' ∧ ¬ SuccOutputsOK s'.1 :=
  ⟨succOutputsOK_wState3, okAnd_not (by decide)⟩

#print axioms set_state_succeeded_breaks_I4
#print axioms completed_with_planned_output_breaks_I4
#print axioms amend_of_succeeded_step_breaks_I4
#print axioms reset_for_rerun_of_succeeded_step_breaks_I4

end StepupModel.K.SuccOut
