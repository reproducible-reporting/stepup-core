import StepupModel.Lemmas.StableC
/-!
# Instances of the stability notions: four invariants of every history of the kernel model

* `FilesOK` (state/hash consistency of every file row, `Lemmas/Inv.lean`);
* `DepsKindOK`: every edge links a file with a step or a static tree with a file (it reads the edges only: a
  `StableC` by `StableC.ofDeps`, closed by `.execInv'`);
* `KeysNodup` (`Lemmas/CleanupLoop.lean`): one row per `(kind, label)`;
* `StepRowsOK`: a deferred step is PENDING, a holding step is RUNNING.  This one is stable under
  every write *except* an unguarded `Step.hold` (the code increments `_holding` whatever the state
  of the step): it is an instance of `StableG` for the guard "the step is RUNNING", hence an
  invariant of the histories whose `hold` requests are made on RUNNING steps, and
  `stepRowsOK_not_stable` shows the guard is needed.
-/
namespace StepupModel.K

def Rows (R : Node → Prop) (s : KState) : Prop := ∀ n ∈ s.nodes, R n

theorem rows_modifyWhere {R : Node → Prop} (s : KState) (p : Node → Bool) (f : Node → Node)
    (hf : ∀ n ∈ s.nodes, p n = true → R n → R (f n)) (h : Rows R s) : Rows R (s.modifyWhere p f) := by
  intro n hn
  obtain ⟨m, hm, rfl⟩ := mem_modifyWhere hn
  exact ite_ind R (fun hk => hf m hm hk (h m hm)) fun _ => h m hm

theorem rows_modify {R : Node → Prop} (s : KState) (k : Key) (f : Node → Node)
    (hf : ∀ n ∈ s.nodes, n.key = k → R n → R (f n)) (h : Rows R s) : Rows R (s.modify k f) := by
  intro n hn
  obtain ⟨m, hm, rfl⟩ := mem_modify hn
  exact ite_ind R (fun hk => hf m hm hk (h m hm)) fun _ => h m hm

def RowGuard (g : Node → Prop) (s : KState) (k : Key) : Prop := ∀ n ∈ s.nodes, n.key = k → g n

/-- A predicate `R` of each row by itself.  The hypotheses, in order: `R` survives a cache rewrite, a new `detached`, a new
`creator`, a file write, the initial state of a file row, a step write, `initStepRow` (this one on the whole table), a step
hash set, a step hash deleted, `deferCount + 1`, `holding + 1` (under the guard `g` of the row), `holding - 1`, the `need`
and `shell` of a recycled row; and `R` holds of a fresh row. -/
theorem StableG.ofRows (R : Node → Prop) (g : Node → Prop)
    (hcache : ∀ f, CacheOnly f → ∀ n, R n → R (f n))
    (hdet : ∀ (n : Node) (d : Bool), R n → R { n with detached := d })
    (hcre : ∀ (n : Node) (c : Option Key), R n → R { n with creator := c })
    (hfile : ∀ (n n' : Node) st nh, fileRowWrite n st nh = .ok n' → R n → R n')
    (hfinit : ∀ (n : Node) st, NoHashState st → R n → R { n with fstate := st, fhash := none })
    (hstep : ∀ (n n' : Node) st d, stepRowWrite n st d = .ok n' → R n → R n')
    (hsinit : ∀ (s : KState) (k : Key) (i : StepInit), Rows R s → Rows R (s.initStepRow k i))
    (hset : ∀ (n : Node) (h : Nat), R n → R { n with shash := some h, hasHash := true })
    (hdel : ∀ (n : Node), R n → R { n with shash := none, hasHash := false })
    (hbump : ∀ (n : Node), R n → R { n with deferCount := n.deferCount + 1 })
    (hhold : ∀ (n : Node), g n → R n → R { n with holding := n.holding + 1 })
    (hrel : ∀ (n : Node), R n → R { n with holding := n.holding - 1 })
    (hrec : ∀ (n : Node) (need : Need) (shell : Bool), R n → R { n with need := need, shell := shell })
    (hfresh : ∀ (k : Key) (c : Option Key) (d : Bool), R { key := k, creator := c, detached := d }) :
    StableG (RowGuard g) (Rows R) where
  cache s p f hf hp := rows_modifyWhere s p f (fun n _ _ hn => hcache f hf n hn) hp
  detached s k d hp := rows_modify s k _ (fun n _ _ hn => hdet n d hn) hp
  creator s k c _ _ hp := rows_modify s k _ (fun n _ _ hn => hcre n c hn) hp
  handOverRow s k tk hp := rows_modify s k _ (fun n _ _ hn => hcre n (some tk) hn) hp
  fileWrite s k n n' st nh hf hw hp :=
    rows_modify s k _ (fun _ _ _ _ => hfile n n' st nh hw (hp n (find_mem hf))) hp
  fileInit s k st hst _ hp := rows_modify s k _ (fun n _ _ hn => hfinit n st hst hn) hp
  stepWrite s k n n' st d hf hw hp :=
    rows_modify s k _ (fun _ _ _ _ => hstep n n' st d hw (hp n (find_mem hf))) hp
  stepInit s k i hp := hsinit s k i hp
  setHash s k h hp := rows_modify s k _ (fun n _ _ hn => hset n h hn) hp
  deleteHash s k hp := rows_modify s k _ (fun n _ _ hn => ite_both R (hdel n hn) hn) hp
  bumpDefer s k hp := rows_modify s k _ (fun n _ _ hn => hbump n hn) hp
  hold s k hg hp := rows_modify s k _ (fun n hm hk hn => hhold n (hg n hm hk) hn) hp
  release s k _ _ _ hp := rows_modify s k _ (fun n _ _ hn => hrel n hn) hp
  recycled s k need shell hp := rows_modify s k _ (fun n _ _ hn => hrec n need shell hn) hp
  addDep _ _ _ _ _ hp := hp
  filterDeps _ _ hp := hp
  markDyn _ _ _ _ hp := hp
  appendNode _ k c _ _ hp n hn := (mem_appendNode.1 hn).elim (hp n) fun e => e ▸ hfresh k c _
  removeNode _ _ _ hp := fun n hn => hp n (List.mem_filter.1 hn).1
  queueDelete _ _ _ hp := hp
  clearQueue _ hp := hp

theorem StableG.weaken {G G' : KState → Key → Prop} {P : KState → Prop} (L : StableG G P)
    (h : ∀ s k, G' s k → G s k) : StableG G' P :=
  { L with hold := fun s k hg hp => L.hold s k (h s k hg) hp }

theorem stable_filesOK : Stable FilesOK := by
  refine StableG.weaken (StableG.ofRows (fun n => HashInv n.fstate n.fhash) (fun _ => True) ?_ ?_ ?_ ?_ ?_ ?_ ?_ ?_ ?_ ?_ ?_ ?_ ?_ ?_)
    (fun _ _ _ _ _ _ => trivial)
  · intro f hf n hn
    rw [hf.fstate, hf.fhash]; exact hn
  · intro n d hn; exact hn
  · intro n c hn; exact hn
  · intro n n' st nh hw _; exact fileRowWrite_hashInv n n' st nh hw
  · intro n st hst _; exact hashInv_noHash hst
  · intro n n' st d hw hn
    cases stepRowWrite_eq hw
    exact hn
  · intro s k i hp; exact rows_modify s k _ (fun _ _ _ hn => hn) hp
  · intro n h hn; exact hn
  · intro n hn; exact hn
  · intro n hn; exact hn
  · intro n _ hn; exact hn
  · intro n hn; exact hn
  · intro n need shell hn; exact hn
  · intro k c d; exact hashInv_noHash (Or.inl rfl)

theorem init_filesOK : FilesOK KState.init := by
  intro n hn
  simp [KState.init] at hn
  subst hn
  exact hashInv_noHash (Or.inl rfl)

theorem filesOK_reachable (h : List (KConfig × Req)) : FilesOK (KState.init.run h) :=
  reachable_stable stable_filesOK init_filesOK h

def DepsKindOK (s : KState) : Prop := ∀ d ∈ s.deps, depKindOk d.src.kind d.snk.kind = true

theorem stable_depsKindOK : StableC DepsKindOK := by
  refine StableC.ofDeps (fun l => ∀ d ∈ l, depKindOk d.src.kind d.snk.kind = true) ?_ ?_ ?_
  · intro l src snk _ _ hk hl d hd
    simp only [List.mem_append, List.mem_singleton] at hd
    rcases hd with hd | rfl
    · exact hl d hd
    · exact hk
  · intro l p hl d hd
    exact hl d (List.mem_filter.1 hd).1
  · intro l src snk dyn hl d hd
    simp only [List.mem_map] at hd
    obtain ⟨e, he, rfl⟩ := hd
    split
    · exact hl e he
    · exact hl e he

theorem init_depsKindOK : DepsKindOK KState.init := by
  intro d hd
  simp [KState.init] at hd

/-- `KeysNodup` (of `Lemmas/CleanupLoop.lean`, stated there on the cleanup columns) in plain terms. -/
theorem keysNodup_iff (s : KState) : KeysNodup s ↔ (s.nodes.map (·.key)).Nodup := by
  unfold KeysNodup KState.cores
  rw [List.map_map]
  exact Iff.rfl

instance (s : KState) : Decidable (KeysNodup s) := decidable_of_iff _ (keysNodup_iff s).symm

theorem keys_eq {s s' : KState} (h : s'.nodes.map (·.key) = s.nodes.map (·.key)) (hp : KeysNodup s) : KeysNodup s' := by
  rw [keysNodup_iff] at hp ⊢
  rw [h]; exact hp

/-- The freshness hypothesis of the `appendNode` leaf (it comes from the `find? k = none` branch of
`Trellis.create`) is what keeps the keys distinct. -/
theorem stable_keysNodup : Stable KeysNodup :=
  have at_k : ∀ (s : KState) (k : Key) (f : Node → Node), (∀ n, (f n).key = n.key) → KeysNodup s → KeysNodup (s.modify k f) :=
    fun s k f hf => keys_eq (keys_modify s k f fun n _ hk => (hf n).trans hk)
  { PlainL.ofMain (P := KeysNodup) fun _ _ h _ => keys_eq (map_eq_of_comp Node.main (·.1) h) with
    detached := fun s k _ => at_k s k _ fun _ => rfl
    creator := fun s k _ _ _ => at_k s k _ fun _ => rfl
    handOverRow := fun s k _ => at_k s k _ fun _ => rfl
    hold := fun s k _ => at_k s k _ fun _ => rfl
    fileInit := fun s k _ _ _ => at_k s k _ fun _ => rfl
    stepInit := fun s k _ => at_k s k _ fun _ => rfl
    fileWrite := fun s k n n' st nh hf hw =>
      keys_eq (keys_modify s k _ fun _ _ _ => (fileRowWrite_key n n' st nh hw).trans (find_key hf))
    stepWrite := fun s k n n' st d hf hw =>
      keys_eq (keys_modify s k _ fun _ _ _ => (stepRowWrite_key n n' st d hw).trans (find_key hf))
    addDep := fun _ _ _ _ _ => keys_eq rfl
    filterDeps := fun _ _ => keys_eq rfl
    markDyn := fun _ _ _ _ => keys_eq rfl
    appendNode := fun s k c hfind _ hp => by
      rw [keysNodup_iff] at hp ⊢
      unfold KState.appendNode
      simp only [List.map_append, List.map_cons, List.map_nil]
      rw [List.nodup_append]
      refine ⟨hp, by simp, ?_⟩
      intro a ha b hb
      simp only [List.mem_singleton] at hb
      subst hb
      intro hab
      subst hab
      obtain ⟨m, hm, hmk⟩ := List.mem_map.1 ha
      exact key_ne_of_find?_none hfind hm hmk
    removeNode := fun s k _ hp => by
      rw [keysNodup_iff] at hp ⊢
      exact List.Nodup.sublist (List.Sublist.map _ List.filter_sublist) hp }

theorem init_keysNodup : KeysNodup KState.init := by
  rw [keysNodup_iff]
  simp [KState.init]

theorem keysNodup_reachable (h : List (KConfig × Req)) : ((KState.init.run h).nodes.map (·.key)).Nodup :=
  (keysNodup_iff _).1 (reachable_stable stable_keysNodup init_keysNodup h)

/-- Row-level invariant of the `step` table (the definition of `Props.C09.StepRowInv`). -/
def StepRowOK (n : Node) : Prop :=
  (n.deferred = true → n.sstate = .pending) ∧ (0 < n.holding → n.sstate = .running)

def StepRowsOK (s : KState) : Prop := ∀ n ∈ s.nodes, StepRowOK n

instance (n : Node) : Decidable (StepRowOK n) := by unfold StepRowOK; exact inferInstance
instance (s : KState) : Decidable (StepRowsOK s) := by unfold StepRowsOK; exact inferInstance

/-- Every row of the step is RUNNING: what the caller of `Step.hold` knows (`DirectorHandler.hold`
resolves the step of a job in flight). -/
def HoldOnRunning : KState → Key → Prop := RowGuard (fun n => n.sstate = .running)

theorem stepRowWrite_rowOK (n n' : Node) (st : StepState) (d : Option Bool)
    (h : stepRowWrite n st d = .ok n') : StepRowOK n' := by
  obtain ⟨hcheck, rfl⟩ := stepRowWrite_ok_iff.1 h
  refine ⟨fun hd => ?_, fun hh => ?_⟩
  · simp only at hd ⊢
    by_cases hsf : st = .succeeded ∨ st = .failed
    · simp [hsf] at hd
    · simp only [hsf, if_false] at hd
      exact Decidable.by_contra fun hp => hcheck ⟨hd, hp⟩
  · simp only at hh ⊢
    by_cases hr : st = .running
    · exact hr
    · simp [hr] at hh

theorem stable_stepRowsOK : StableG HoldOnRunning StepRowsOK := by
  refine StableG.ofRows StepRowOK (fun n => n.sstate = .running) ?_ ?_ ?_ ?_ ?_ ?_ ?_ ?_ ?_ ?_ ?_ ?_ ?_ ?_
  · intro f hf n hn
    unfold StepRowOK
    rw [hf.sstate, hf.deferred, hf.holding]; exact hn
  · intro n d hn; exact hn
  · intro n c hn; exact hn
  · intro n n' st nh hw hn
    cases fileRowWrite_eq hw
    exact hn
  · intro n st _ hn; exact hn
  · intro n n' st d hw _; exact stepRowWrite_rowOK n n' st d hw
  · intro s k i hp
    refine rows_modify s k _ (fun n _ _ _ => ?_) hp
    exact ⟨(fun h => by cases h), (fun h => absurd h (Nat.lt_irrefl 0))⟩
  · intro n h hn; exact hn
  · intro n hn; exact hn
  · intro n hn; exact hn
  · intro n hg hn; exact ⟨hn.1, fun _ => hg⟩
  · intro n hn
    refine ⟨hn.1, fun h => hn.2 ?_⟩
    have h' : 0 < n.holding - 1 := h
    omega
  · intro n need shell hn; exact ⟨hn.1, hn.2⟩
  · intro k c d; exact ⟨(fun h => by cases h), (fun h => absurd h (Nat.lt_irrefl 0))⟩

theorem init_stepRowsOK : StepRowsOK KState.init := by
  intro n hn
  simp [KState.init] at hn
  subst hn
  exact ⟨(fun h => by cases h), (fun h => absurd h (Nat.lt_irrefl 0))⟩

theorem stepRowsOK_reachable_guarded (h : List (KConfig × Req)) (hg : HoldsGuarded HoldOnRunning KState.init h) :
    StepRowsOK (KState.init.run h) :=
  reachable_stableCG stable_stepRowsOK.toC init_stepRowsOK h hg

/-- A PENDING step next to the root: the state on which an unguarded `hold` breaks the invariant. -/
def holdWitness : KState :=
  { nodes := KState.init.nodes ++ [{ key := stepKey "x", creator := some rootKey }] }

/-- The guard is needed: the `hold` write on a PENDING step (the kernel accepts it, only the caller
makes sure the step is RUNNING) leaves a row that is holding without RUNNING. -/
theorem stepRowsOK_not_stable : ¬ Stable StepRowsOK := fun L =>
  absurd (L.hold holdWitness (stepKey "x") trivial (by decide)) (by decide)

/-- The same at the level of requests.  (`holdWitness` is, up to cache columns, what `define` of a step `x` by the
root reaches from the empty workflow.) -/
theorem hold_request_breaks_stepRowsOK :
    StepRowsOK holdWitness ∧ KeysNodup holdWitness ∧
      ¬ StepRowsOK (holdWitness.step {} (.hold (stepKey "x"))) := by
  decide

end StepupModel.K
