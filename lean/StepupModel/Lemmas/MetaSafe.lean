import StepupModel.Lemmas.Inv
import StepupModel.Lemmas.Dispatch
import StepupModel.Lemmas.K
import StepupModel.Lemmas.FuelLoop
import StepupModel.K.MetaCheck
import StepupModel.Lemmas.MetaRowMap
/-!
# `_update_meta_safe`: the refresh of `_safe` / `_safe_ignoring_hold` is correct

`K/MetaCheck.lean` restates the model in named pieces (`stepCreator`, `allRows`, `bestRow`, `writeBack`), and
`updateMetaSafe_eq` (`Lemmas/OpCases.lean`) says so.  The rows of the CTE `trace` (`allRows`) are the derivable
ones (`Derives`, `allRows_iff`), one per step and depth; a step has a row
exactly when it is flagged or below a flagged step (`Touched`).  A recomputed row is locally correct
afterwards whatever was cached (`writeBack_touched`: the deepest row of a step is the child of the deepest
row of its creator, which is where `MAX(depth)` is needed; `defectWitness_min` shows `MIN(depth)` failing),
the other rows keep their pairs.  Hence `updateMetaSafe_correct_iff`: the refresh establishes all local
equations exactly when `CacheInvSafeW` held before.  With acyclic step-creator links the local equations
have one solution, the fuel-free specification (`safeConsistent_unique`, `safeSpec_iff`), and the
recursion ends (`updateMetaSafe_no_hang`).

`CacheInvSafeW` is a hypothesis throughout: that the writers of the model flag every step whose local
equation they may break (or an ancestor of it) is a separate invariant (`Lemmas/SafeDiscipline.lean`).
The pipeline, `KState.updateMeta` (the three refreshes at the head of `Scheduler.pop_next_job`), and the reachable
states are in `Lemmas/MetaSafeReach.lean`.
-/
namespace StepupModel.K.MetaSafe

/-- One row per key: `MetaAfter.KeysUnique` has the same body, `KeysNodup` says it of `s.cores` (`keysNodup_iff`). -/
def KeysUnique (s : KState) : Prop := (s.nodes.map (·.key)).Nodup

instance (s : KState) : Decidable (KeysUnique s) := by unfold KeysUnique; exact inferInstance

/-- No step is its own creator (the CHECK `creator != i` of the `node` table). -/
def NoSelfStep (s : KState) : Prop := ∀ n ∈ s.nodes, n.key.kind = .step → n.creator ≠ some n.key

theorem stepCreator_eq_find {s : KState} {n : Node} {c : Key} (h : n.creator = some c) (hs : c.kind = .step) :
    stepCreator s n = s.find? c := by
  unfold stepCreator
  rw [h]
  simp only [hs, if_true]

theorem stepCreator_none_of_creator {s : KState} {n : Node} (h : n.creator = none) : stepCreator s n = none := by
  unfold stepCreator; rw [h]

theorem stepCreator_none_of_kind {s : KState} {n : Node} {c : Key} (h : n.creator = some c) (hs : c.kind ≠ .step) :
    stepCreator s n = none := by
  unfold stepCreator
  rw [h]
  simp only [hs, if_false]

theorem stepCreator_some {s : KState} {n c : Node} (h : stepCreator s n = some c) :
    c ∈ s.nodes ∧ c.key.kind = .step ∧ n.creator = some c.key := by
  cases hc : n.creator with
  | none => rw [stepCreator_none_of_creator hc] at h; cases h
  | some ck =>
    by_cases hk : ck.kind = Kind.step
    · rw [stepCreator_eq_find hc hk] at h
      have := find_key h
      exact ⟨find_mem h, by rw [this]; exact hk, by rw [this]⟩
    · rw [stepCreator_none_of_kind hc hk] at h; cases h

theorem stepCreator_of {s : KState} (hk : KeysUnique s) {n c : Node} (hc : c ∈ s.nodes) (hs : c.key.kind = .step)
    (h : n.creator = some c.key) : stepCreator s n = some c :=
  (stepCreator_eq_find h hs).trans (find?_of_mem hk hc)

theorem mem_flagged {s : KState} {n : Node} :
    n ∈ flagged s ↔ n ∈ s.nodes ∧ n.key.kind = .step ∧ n.checkSafe = true := by
  unfold flagged
  simp only [List.mem_filter, decide_eq_true_eq]

theorem mem_stepProducts {s : KState} {k : Key} {p : Node} :
    p ∈ stepProducts s k ↔ p ∈ s.nodes ∧ p.key.kind = .step ∧ p.creator = some k ∧ p.key ≠ k := by
  unfold stepProducts
  simp only [List.mem_filter, decide_eq_true_eq]

theorem mem_expandRows {s : KState} {rows : List SafeRow} {q : SafeRow} :
    q ∈ expandRows s rows ↔ ∃ r ∈ rows, ∃ p ∈ stepProducts s r.key, prodRow r p = q := by
  simp only [expandRows, List.mem_flatMap, List.mem_map]

/-- The rows of the recursive CTE `trace`: a seed per flagged step, a product row per row and step
product of its node. -/
inductive Derives (s : KState) : SafeRow → Prop
  | seed (n : Node) : n ∈ flagged s → Derives s (seedRow s n)
  | prod (r : SafeRow) (p : Node) : Derives s r → p ∈ stepProducts s r.key → Derives s (prodRow r p)

theorem go_loop (s : KState) :
    FuelLoop (fun fuel (x : List SafeRow × List SafeRow) => KState.updateMetaSafe.go (expandRows s) fuel x.1 x.2)
      (·.1.isEmpty) (fun x => (expandRows s x.1, x.2 ++ expandRows s x.1)) (·.2) :=
  ⟨fun _ => rfl, fun _ _ => rfl⟩

theorem allRows_iff {s : KState} {rows : List SafeRow} (h : allRows s = some rows) (r : SafeRow) :
    r ∈ rows ↔ Derives s r := by
  refine ((go_loop s).frontier (Rel := fun r q => ∃ p ∈ stepProducts s r.key, prodRow r p = q)
    (fun _ _ => mem_expandRows) h r).trans ⟨fun hw => ?_, fun hd => ?_⟩
  · induction hw with
    | seed hs => obtain ⟨n, hn, rfl⟩ := List.mem_map.1 hs; exact .seed n hn
    | next _ hr ih => obtain ⟨p, hp, rfl⟩ := hr; exact .prod _ p ih hp
  · induction hd with
    | seed n hn => exact .seed (List.mem_map.2 ⟨n, hn, rfl⟩)
    | prod r p _ hp ih => exact .next ih ⟨p, hp, rfl⟩

theorem foldl_pick_some (l : List SafeRow) (b0 : SafeRow) :
    ∃ b, l.foldl pick (some b0) = some b ∧ (b = b0 ∨ b ∈ l) ∧ b0.depth ≤ b.depth ∧ ∀ r ∈ l, r.depth ≤ b.depth := by
  induction l generalizing b0 with
  | nil => exact ⟨b0, rfl, .inl rfl, Nat.le_refl _, fun r hr => by cases hr⟩
  | cons a l ih =>
    simp only [List.foldl_cons, pick]
    by_cases h : b0.depth < a.depth
    · rw [if_pos h]
      obtain ⟨b, hb, hm, hd, hall⟩ := ih a
      refine ⟨b, hb, ?_, by omega, ?_⟩
      · rcases hm with rfl | hm
        · exact .inr List.mem_cons_self
        · exact .inr (List.mem_cons_of_mem _ hm)
      · intro r hr
        rcases List.mem_cons.1 hr with rfl | hr
        · exact hd
        · exact hall r hr
    · rw [if_neg h]
      obtain ⟨b, hb, hm, hd, hall⟩ := ih b0
      refine ⟨b, hb, ?_, hd, ?_⟩
      · rcases hm with rfl | hm
        · exact .inl rfl
        · exact .inr (List.mem_cons_of_mem _ hm)
      · intro r hr
        rcases List.mem_cons.1 hr with rfl | hr
        · omega
        · exact hall r hr

theorem bestRow_none {rows : List SafeRow} {k : Key} (h : ∀ r ∈ rows, r.key ≠ k) : bestRow rows k = none := by
  unfold bestRow
  have : rows.filter (fun r => decide (r.key = k)) = [] := by
    rw [List.filter_eq_nil_iff]
    intro r hr
    simpa using h r hr
  rw [this]; rfl

theorem bestRow_some {rows : List SafeRow} {k : Key} {r0 : SafeRow} (h0 : r0 ∈ rows) (hk0 : r0.key = k) :
    ∃ b, bestRow rows k = some b ∧ b ∈ rows ∧ b.key = k ∧ ∀ r ∈ rows, r.key = k → r.depth ≤ b.depth := by
  unfold bestRow
  have hmem : ∀ r, r ∈ rows.filter (fun r => decide (r.key = k)) ↔ r ∈ rows ∧ r.key = k := by
    intro r; simp only [List.mem_filter, decide_eq_true_eq]
  cases hl : rows.filter (fun r => decide (r.key = k)) with
  | nil =>
    have := (hmem r0).2 ⟨h0, hk0⟩
    rw [hl] at this; cases this
  | cons a l =>
    simp only [List.foldl_cons, pick]
    obtain ⟨b, hb, hm, hd, hall⟩ := foldl_pick_some l a
    have hb' : b ∈ a :: l := by
      rcases hm with rfl | hm
      · exact List.mem_cons_self
      · exact List.mem_cons_of_mem _ hm
    rw [← hl] at hb'
    refine ⟨b, hb, ((hmem b).1 hb').1, ((hmem b).1 hb').2, ?_⟩
    intro r hr hrk
    have : r ∈ a :: l := by rw [← hl]; exact (hmem r).2 ⟨hr, hrk⟩
    rcases List.mem_cons.1 this with rfl | h1
    · exact hd
    · exact hall r h1

theorem bestRow_mem {rows : List SafeRow} {k : Key} {b : SafeRow} (h : bestRow rows k = some b) :
    b ∈ rows ∧ b.key = k ∧ ∀ r ∈ rows, r.key = k → r.depth ≤ b.depth := by
  by_cases hex : ∃ r ∈ rows, r.key = k
  · obtain ⟨r0, h0, hk0⟩ := hex
    obtain ⟨b', hb', h1, h2, h3⟩ := bestRow_some h0 hk0
    rw [h] at hb'
    cases hb'
    exact ⟨h1, h2, h3⟩
  · have := bestRow_none (rows := rows) (k := k) (fun r hr hk => hex ⟨r, hr, hk⟩)
    rw [this] at h; cases h

theorem seedRow_key (s : KState) (n : Node) : (seedRow s n).key = n.key := rfl
theorem seedRow_depth (s : KState) (n : Node) : (seedRow s n).depth = 0 := rfl
theorem prodRow_key (r : SafeRow) (p : Node) : (prodRow r p).key = p.key := rfl
theorem prodRow_depth (r : SafeRow) (p : Node) : (prodRow r p).depth = r.depth + 1 := rfl

theorem derives_node {s : KState} {r : SafeRow} (h : Derives s r) :
    ∃ c ∈ s.nodes, c.key = r.key ∧ c.key.kind = .step ∧
      r.chain = (r.safe && c.sstate.active && c.holding == 0) ∧ r.chainNH = (r.safeNH && c.sstate.active) := by
  cases h with
  | seed n hn =>
    obtain ⟨h1, h2, _⟩ := mem_flagged.1 hn
    exact ⟨n, h1, rfl, h2, rfl, rfl⟩
  | prod r p _ hp =>
    obtain ⟨h1, h2, _⟩ := mem_stepProducts.1 hp
    exact ⟨p, h1, rfl, h2, rfl, rfl⟩

theorem derives_unique {s : KState} (hk : KeysUnique s) {r1 r2 : SafeRow} (h1 : Derives s r1) (h2 : Derives s r2)
    (hkey : r1.key = r2.key) (hd : r1.depth = r2.depth) : r1 = r2 := by
  induction h1 generalizing r2 with
  | seed n hn =>
    cases h2 with
    | seed m hm =>
      have : n = m := eq_of_nodup_map hk (mem_flagged.1 hn).1 (mem_flagged.1 hm).1 hkey
      rw [this]
    | prod r p _ _ => simp only [seedRow_depth, prodRow_depth] at hd; omega
  | prod r p hr hp ih =>
    cases h2 with
    | seed m hm => simp only [seedRow_depth, prodRow_depth] at hd; omega
    | prod r' p' hr' hp' =>
      obtain ⟨a1, _, a3, _⟩ := mem_stepProducts.1 hp
      obtain ⟨b1, _, b3, _⟩ := mem_stepProducts.1 hp'
      have hpp : p = p' := eq_of_nodup_map hk a1 b1 hkey
      subst hpp
      rw [a3] at b3
      have hkk : r.key = r'.key := Option.some.inj b3
      simp only [prodRow_depth] at hd
      have := ih hr' hkk (by omega)
      rw [this]

/-- What the specification reads of a row. -/
def structView (n : Node) : Key × Option Key × StepState × Nat := (n.key, n.creator, n.sstate, n.holding)

/-- What the local equations read of a row. -/
def safeView (n : Node) : Key × Option Key × StepState × Nat × Bool × Bool :=
  (n.key, n.creator, n.sstate, n.holding, n.safe, n.safeNH)

theorem structView_key {a b : Node} (h : structView a = structView b) : a.key = b.key := congrArg (·.1) h
theorem structView_creator {a b : Node} (h : structView a = structView b) : a.creator = b.creator := congrArg (·.2.1) h
theorem structView_sstate {a b : Node} (h : structView a = structView b) : a.sstate = b.sstate := congrArg (·.2.2.1) h
theorem structView_holding {a b : Node} (h : structView a = structView b) : a.holding = b.holding := congrArg (·.2.2.2) h
theorem safeView_safe {a b : Node} (h : safeView a = safeView b) : a.safe = b.safe := congrArg (·.2.2.2.2.1) h
theorem safeView_safeNH {a b : Node} (h : safeView a = safeView b) : a.safeNH = b.safeNH := congrArg (·.2.2.2.2.2) h

theorem structView_of_safeView {n m : Node} (h : safeView n = safeView m) : structView n = structView m :=
  congrArg (fun v => (v.1, v.2.1, v.2.2.1, v.2.2.2.1)) h

theorem structView_of_eraseSafe {n m : Node} (h : eraseSafe n = eraseSafe m) : structView n = structView m :=
  show structView (eraseSafe n) = structView (eraseSafe m) from congrArg structView h

/-- `SameView eraseSafe s s'` and the same edges, as one conjunction (what `RowMap.sameView` gives of a row map). -/
def SafeFrame (s s' : KState) : Prop :=
  s'.deps = s.deps ∧ s'.toBeDeleted = s.toBeDeleted ∧ s'.nodes.map eraseSafe = s.nodes.map eraseSafe

/-- The rows half of `SameView structView s s'` (what `RowMap.nodes` gives of a `RowMap structView`). -/
def SameStruct (s s' : KState) : Prop := s'.nodes.map structView = s.nodes.map structView

def SameSafe (s s' : KState) : Prop := s'.nodes.map safeView = s.nodes.map safeView

theorem SameSafe.symm {s s' : KState} (h : SameSafe s s') : SameSafe s' s := Eq.symm h

theorem SafeFrame.struct {s s' : KState} (h : SafeFrame s s') : SameStruct s s' :=
  map_eq_of_comp eraseSafe structView h.2.2

theorem keysUnique_struct {s s' : KState} (h : SameStruct s s') (hk : KeysUnique s) : KeysUnique s' :=
  nodup_keys_of_view h (.of_factor (·.1) fun _ => rfl) hk

def BothLocal (s : KState) (n : Node) : Prop := SafeLocal s n ∧ SafeNHLocal s n

theorem bothLocal_none {s : KState} {n : Node} (h : stepCreator s n = none) :
    BothLocal s n ↔ n.safe = true ∧ n.safeNH = true := by
  unfold BothLocal SafeLocal SafeNHLocal localSafe localSafeNH
  rw [h]

theorem bothLocal_some {s : KState} {n c : Node} (h : stepCreator s n = some c) :
    BothLocal s n ↔
      n.safe = (c.safe && c.sstate.active && c.holding == 0) ∧ n.safeNH = (c.safeNH && c.sstate.active) := by
  unfold BothLocal SafeLocal SafeNHLocal localSafe localSafeNH
  rw [h]

def SafeConsistent (s : KState) : Prop := ∀ n ∈ s.nodes, n.key.kind = .step → BothLocal s n

/-- `a` is `n` itself or one of its recursive step creators. -/
inductive AncOrSelf (s : KState) : Node → Node → Prop
  | refl (n : Node) : AncOrSelf s n n
  | up {a c n : Node} : stepCreator s n = some c → AncOrSelf s a c → AncOrSelf s a n

def StrictAnc (s : KState) (a n : Node) : Prop := ∃ c, stepCreator s n = some c ∧ AncOrSelf s a c

def StepLink (s : KState) (c k : Key) : Prop :=
  ∃ n cn, n ∈ s.nodes ∧ n.key = k ∧ k.kind = .step ∧ stepCreator s n = some cn ∧ cn.key = c

/-- The step-creates-step links have no cycle (ALL steps, attached or not). -/
def StepCreatorWF (s : KState) : Prop := WellFounded (StepLink s)

theorem stepCreator_mapNodes {s : KState} {g : Node → Node} (hg : Keeps structView g) (n : Node) :
    stepCreator { s with nodes := s.nodes.map g } (g n) = (stepCreator s n).map g := by
  unfold stepCreator
  rw [structView_creator (hg n)]
  cases n.creator with
  | none => rfl
  | some c =>
    dsimp only
    split
    · exact find?_map_key s.nodes g c fun n _ => structView_key (hg n)
    · rfl

theorem bothLocal_mapNodes {s : KState} {g : Node → Node} (hg : Keeps structView g) (n : Node) :
    BothLocal { s with nodes := s.nodes.map g } (g n) ↔
      ((g n).safe = (match stepCreator s n with
        | some c => (g c).safe && c.sstate.active && c.holding == 0
        | none => true)) ∧
      ((g n).safeNH = (match stepCreator s n with
        | some c => (g c).safeNH && c.sstate.active
        | none => true)) := by
  have hm := stepCreator_mapNodes (s := s) hg n
  cases hc : stepCreator s n with
  | none =>
    rw [hc] at hm
    exact bothLocal_none hm
  | some c =>
    rw [hc] at hm
    rw [bothLocal_some hm, structView_sstate (hg c), structView_holding (hg c)]

/-! The refreshes rewrite rows in place (`RowMap`): with the row function in hand, creator links, ancestors and the
local equations are carried along it. -/

theorem stepLink_mapNodes {s : KState} {g : Node → Node} (hg : Keeps structView g) {c k : Key} :
    StepLink { s with nodes := s.nodes.map g } c k ↔ StepLink s c k := by
  constructor
  · rintro ⟨n', cn', hn', hk, hst, hsc, hck⟩
    obtain ⟨n, hn, rfl⟩ := List.mem_map.1 hn'
    rw [stepCreator_mapNodes hg] at hsc
    obtain ⟨cn, hcn, rfl⟩ := Option.map_eq_some_iff.1 hsc
    exact ⟨n, cn, hn, (structView_key (hg n)).symm.trans hk, hst, hcn, (structView_key (hg cn)).symm.trans hck⟩
  · rintro ⟨n, cn, hn, hk, hst, hsc, hck⟩
    exact ⟨g n, g cn, List.mem_map.2 ⟨n, hn, rfl⟩, (structView_key (hg n)).trans hk, hst,
      by rw [stepCreator_mapNodes hg, hsc]; rfl, (structView_key (hg cn)).trans hck⟩

theorem rowMap_stepCreatorWF {s s' : KState} (h : RowMap structView s s') (hwf : StepCreatorWF s) : StepCreatorWF s' := by
  obtain ⟨g, hg, rfl⟩ := h
  exact Subrelation.wf (fun {_ _} hl => (stepLink_mapNodes hg).1 hl) hwf

theorem rowMap_safeConsistent {s s' : KState} (h : RowMap safeView s s') (hc : SafeConsistent s) : SafeConsistent s' := by
  obtain ⟨g, hg, rfl⟩ := h
  intro n' hn' hst
  obtain ⟨n, hn, rfl⟩ := List.mem_map.1 hn'
  have hs : Keeps structView g := fun n => structView_of_safeView (hg n)
  rw [bothLocal_mapNodes hs, safeView_safe (hg n), safeView_safeNH (hg n)]
  have := hc n hn (structView_key (hs n) ▸ hst)
  cases hsc : stepCreator s n with
  | none => exact (bothLocal_none hsc).1 this
  | some c =>
    simp only [safeView_safe (hg c), safeView_safeNH (hg c)]
    exact (bothLocal_some hsc).1 this

theorem ancOrSelf_mapNodes {s : KState} {g : Node → Node} (hg : Keeps structView g) {a n : Node}
    (h : AncOrSelf s a n) : AncOrSelf { s with nodes := s.nodes.map g } (g a) (g n) := by
  induction h with
  | refl => exact .refl _
  | up hc _ ih => exact .up (by rw [stepCreator_mapNodes hg, hc]; rfl) ih

theorem strictAnc_mapNodes {s : KState} {g : Node → Node} (hg : Keeps structView g) {a n : Node}
    (h : StrictAnc s a n) : StrictAnc { s with nodes := s.nodes.map g } (g a) (g n) := by
  obtain ⟨c, hc, hac⟩ := h
  exact ⟨g c, by rw [stepCreator_mapNodes hg, hc]; rfl, ancOrSelf_mapNodes hg hac⟩

theorem strictAnc_after {s su : KState} (hk : KeysUnique s) (hs : RowMap structView s su) {n : Node} (hn : n ∈ su.nodes)
    {n0 : Node} (hn0 : n0 ∈ s.nodes) (hk0 : n0.key = n.key) {a : Node} (ha : StrictAnc s a n0) :
    ∃ a', StrictAnc su a' n ∧ structView a = structView a' := by
  obtain ⟨g, hg, rfl⟩ := hs
  obtain ⟨b, hb, rfl⟩ := List.mem_map.1 hn
  cases eq_of_nodup_map hk hb hn0 ((structView_key (hg b)).symm.trans hk0.symm)
  exact ⟨g a, strictAnc_mapNodes hg ha, (hg a).symm⟩

/-- The row function of `writeBack`. -/
def writeRow (rows : List SafeRow) (n : Node) : Node := clearFlag (applyRows rows n)

theorem eraseSafe_applyRows (rows : List SafeRow) (n : Node) : eraseSafe (applyRows rows n) = eraseSafe n := by
  unfold applyRows setBest
  split
  · split <;> rfl
  · rfl

theorem structView_writeRow (rows : List SafeRow) (n : Node) : structView (writeRow rows n) = structView n := by
  refine Eq.trans ?_ (structView_of_eraseSafe (eraseSafe_applyRows rows n))
  unfold writeRow clearFlag
  split <;> rfl

theorem writeRow_key (rows : List SafeRow) (n : Node) : (writeRow rows n).key = n.key :=
  structView_key (structView_writeRow rows n)

theorem writeRow_safe (rows : List SafeRow) (n : Node) :
    (writeRow rows n).safe = (applyRows rows n).safe ∧ (writeRow rows n).safeNH = (applyRows rows n).safeNH := by
  unfold writeRow clearFlag
  split <;> exact ⟨rfl, rfl⟩

theorem applyRows_norow {rows : List SafeRow} {n : Node} (h : ∀ r ∈ rows, r.key ≠ n.key) : applyRows rows n = n := by
  unfold applyRows
  have : (rows.any fun r => decide (r.key = n.key)) = false := by
    rw [List.any_eq_false]
    intro r hr
    simpa using h r hr
  rw [this]; rfl

theorem applyRows_row {rows : List SafeRow} {n : Node} {r0 : SafeRow} (h0 : r0 ∈ rows) (hk0 : r0.key = n.key) :
    ∃ b, b ∈ rows ∧ b.key = n.key ∧ (∀ r ∈ rows, r.key = n.key → r.depth ≤ b.depth) ∧
      (applyRows rows n).safe = b.safe ∧ (applyRows rows n).safeNH = b.safeNH := by
  obtain ⟨b, hb, h1, h2, h3⟩ := bestRow_some h0 hk0
  refine ⟨b, h1, h2, h3, ?_⟩
  unfold applyRows
  have : (rows.any fun r => decide (r.key = n.key)) = true := by
    rw [List.any_eq_true]
    exact ⟨r0, h0, by simpa using hk0⟩
  rw [this]
  simp only [if_true]
  unfold setBest
  rw [hb]
  exact ⟨rfl, rfl⟩

theorem bothLocal_writeBack_iff (s : KState) (rows : List SafeRow) (n : Node) :
    BothLocal (writeBack s rows) (writeRow rows n) ↔
      ((applyRows rows n).safe = (match stepCreator s n with
        | some c => (applyRows rows c).safe && c.sstate.active && c.holding == 0
        | none => true)) ∧
      ((applyRows rows n).safeNH = (match stepCreator s n with
        | some c => (applyRows rows c).safeNH && c.sstate.active
        | none => true)) := by
  have := bothLocal_mapNodes (s := s) (structView_writeRow rows) n
  rw [show writeBack s rows = { s with nodes := s.nodes.map (writeRow rows) } from rfl]
  simpa only [(writeRow_safe rows _).1, (writeRow_safe rows _).2] using this

theorem mem_writeBack {s : KState} {rows : List SafeRow} {n' : Node} :
    n' ∈ (writeBack s rows).nodes ↔ ∃ n ∈ s.nodes, writeRow rows n = n' := List.mem_map

/-- The step is flagged or below a flagged step: exactly the rows that `FILL_SAFE_UPDATE` lists. -/
def Touched (s : KState) (n : Node) : Prop := ∃ a ∈ flagged s, AncOrSelf s a n

/-- `trace` has a row for the key of `n`, said of the derivable rows. -/
def HasRow (s : KState) (n : Node) : Prop := ∃ r, Derives s r ∧ r.key = n.key

theorem mem_products_of_creator {s : KState} (hs : NoSelfStep s) {n c : Node} (hn : n ∈ s.nodes)
    (hst : n.key.kind = .step) (hc : stepCreator s n = some c) : n ∈ stepProducts s c.key := by
  obtain ⟨_, _, h3⟩ := stepCreator_some hc
  refine mem_stepProducts.2 ⟨hn, hst, h3, ?_⟩
  intro he
  exact hs n hn hst (by rw [h3, he])

theorem hasRow_of_creator {s : KState} (hs : NoSelfStep s) {n c : Node} (hn : n ∈ s.nodes)
    (hst : n.key.kind = .step) (hc : stepCreator s n = some c) (h : HasRow s c) : HasRow s n := by
  obtain ⟨r, hr, hk⟩ := h
  have hp := mem_products_of_creator hs hn hst hc
  rw [← hk] at hp
  exact ⟨prodRow r n, Derives.prod r n hr hp, rfl⟩

theorem touched_of_hasRow {s : KState} (hk : KeysUnique s) {r : SafeRow} (h : Derives s r) :
    ∀ n ∈ s.nodes, n.key = r.key → Touched s n := by
  induction h with
  | seed m hm =>
    intro n hn hkey
    have : n = m := eq_of_nodup_map hk hn (mem_flagged.1 hm).1 hkey
    rw [this]
    exact ⟨m, hm, AncOrSelf.refl m⟩
  | prod r p hr hp ih =>
    intro n hn hkey
    obtain ⟨p1, _, p3, _⟩ := mem_stepProducts.1 hp
    have : n = p := eq_of_nodup_map hk hn p1 hkey
    rw [this]
    obtain ⟨c, hc, hck, hcs, _⟩ := derives_node hr
    obtain ⟨a, ha, hanc⟩ := ih c hc hck
    have hsc : stepCreator s p = some c := stepCreator_of hk hc hcs (by rw [hck]; exact p3)
    exact ⟨a, ha, AncOrSelf.up hsc hanc⟩

theorem hasRow_of_anc {s : KState} (hs : NoSelfStep s) {a n : Node} (h : AncOrSelf s a n) (ha : a ∈ flagged s)
    (hn : n ∈ s.nodes) (hst : n.key.kind = .step) : HasRow s n := by
  induction h with
  | refl => exact ⟨seedRow s _, Derives.seed _ ha, rfl⟩
  | up hc _ ih =>
    obtain ⟨c1, c2, _⟩ := stepCreator_some hc
    exact hasRow_of_creator hs hn hst hc (ih c1 c2)

theorem row_iff_touched {s : KState} (hk : KeysUnique s) (hs : NoSelfStep s) {rows : List SafeRow}
    (hr : allRows s = some rows) {n : Node} (hn : n ∈ s.nodes) (hst : n.key.kind = .step) :
    (∃ r ∈ rows, r.key = n.key) ↔ Touched s n := by
  constructor
  · rintro ⟨r, h1, h2⟩
    exact touched_of_hasRow hk ((allRows_iff hr r).1 h1) n hn h2.symm
  · rintro ⟨a, ha, hanc⟩
    obtain ⟨r, h1, h2⟩ := hasRow_of_anc hs hanc ha hn hst
    exact ⟨r, (allRows_iff hr r).2 h1, h2⟩

/-- The flag discipline, first form: a step whose cached pair may be stale is flagged. -/
def CacheInvSafe (s : KState) : Prop :=
  ∀ n ∈ s.nodes, n.key.kind = .step → n.checkSafe = false → BothLocal s n

/-- The flag discipline, weakest form: a step whose cached pair may be stale is flagged or below a
flagged step (the cached pair of a step below a flagged one is never read). -/
def CacheInvSafeW (s : KState) : Prop :=
  ∀ n ∈ s.nodes, n.key.kind = .step → ¬ Touched s n → BothLocal s n

theorem CacheInvSafe.weak {s : KState} (h : CacheInvSafe s) : CacheInvSafeW s := by
  intro n hn hst ht
  refine h n hn hst ?_
  cases hf : n.checkSafe with
  | false => rfl
  | true => exact absurd ⟨n, mem_flagged.2 ⟨hn, hst, hf⟩, AncOrSelf.refl n⟩ ht

theorem writeBack_touched {s : KState} (hk : KeysUnique s) (hs : NoSelfStep s) {rows : List SafeRow}
    (hr : allRows s = some rows) {n : Node} (hn : n ∈ s.nodes) (hst : n.key.kind = .step)
    (h : Touched s n) : BothLocal (writeBack s rows) (writeRow rows n) := by
  have hrows := allRows_iff hr
  rw [bothLocal_writeBack_iff]
  obtain ⟨r0, hr0, hk0⟩ := (row_iff_touched hk hs hr hn hst).2 h
  obtain ⟨b, hb, hbk, hmax, e1, e2⟩ := applyRows_row hr0 hk0
  rw [e1, e2]
  have hdb := (hrows b).1 hb
  cases hdb with
  | seed m hm =>
    -- the deepest row of `n` is its seed: a row of its creator would give `n` a deeper one, so the creator keeps its pair
    have hmn : m = n := eq_of_nodup_map hk (mem_flagged.1 hm).1 hn hbk
    subst hmn
    cases hc : stepCreator s m with
    | none => simp only [seedRow, localSafe, localSafeNH, hc, and_self]
    | some c =>
      have hno : ∀ r ∈ rows, r.key ≠ c.key := by
        intro r hr hrk
        have hp := mem_products_of_creator hs hn hst hc
        rw [← hrk] at hp
        have hd := Derives.prod r m ((hrows r).1 hr) hp
        have := hmax _ ((hrows _).2 hd) rfl
        simp only [prodRow_depth, seedRow_depth] at this
        omega
      simp only [applyRows_norow hno, seedRow, localSafe, localSafeNH, hc, and_self]
  | prod r p hr hp =>
    -- the deepest row of `n` is the child of a row `r` of its creator, and `r` is the creator's deepest (`MAX(depth)`)
    obtain ⟨p1, _, p3, _⟩ := mem_stepProducts.1 hp
    have hpn : p = n := eq_of_nodup_map hk p1 hn hbk
    subst hpn
    obtain ⟨c, hc, hck, hcs, hch, hchNH⟩ := derives_node hr
    have hsc : stepCreator s p = some c := stepCreator_of hk hc hcs (by rw [hck]; exact p3)
    obtain ⟨bc, hbc, hbck, hmaxc, f1, f2⟩ := applyRows_row ((hrows r).2 hr) hck.symm
    have hdbc := (hrows bc).1 hbc
    have hp' : p ∈ stepProducts s bc.key := by rw [hbck, hck]; exact hp
    have hd := Derives.prod bc p hdbc hp'
    have h1 := hmax _ ((hrows _).2 hd) rfl
    have h2 := hmaxc r ((hrows r).2 hr) hck.symm
    simp only [prodRow_depth] at h1
    have heq : bc = r := derives_unique hk hdbc hr (by rw [hbck, hck]) (by omega)
    subst heq
    rw [hsc]
    simp only [f1, f2]
    exact ⟨hch, hchNH⟩

theorem norow_of_untouched {s : KState} (hk : KeysUnique s) (hs : NoSelfStep s) {rows : List SafeRow}
    (hr : allRows s = some rows) {n : Node} (hn : n ∈ s.nodes) (hst : n.key.kind = .step) (ht : ¬ Touched s n) :
    ∀ r ∈ rows, r.key ≠ n.key :=
  fun r hr' hrk => ht ((row_iff_touched hk hs hr hn hst).1 ⟨r, hr', hrk⟩)

theorem writeBack_untouched {s : KState} (hk : KeysUnique s) (hs : NoSelfStep s) {rows : List SafeRow}
    (hr : allRows s = some rows) {n : Node} (hn : n ∈ s.nodes) (hst : n.key.kind = .step)
    (ht : ¬ Touched s n) : (BothLocal (writeBack s rows) (writeRow rows n) ↔ BothLocal s n) := by
  rw [bothLocal_writeBack_iff, applyRows_norow (norow_of_untouched hk hs hr hn hst ht)]
  cases hc : stepCreator s n with
  | none => exact (bothLocal_none hc).symm
  | some c =>
    obtain ⟨c1, c2, _⟩ := stepCreator_some hc
    simp only [applyRows_norow (norow_of_untouched hk hs hr c1 c2 fun ⟨a, ha, h⟩ => ht ⟨a, ha, .up hc h⟩)]
    exact (bothLocal_some hc).symm

theorem updateMetaSafe_frame {s s' : KState} (h : s.updateMetaSafe = .ok s') : SafeFrame s s' :=
  have hm := updateMetaSafe_rowMap h
  ⟨hm.deps, hm.toBeDeleted, hm.nodes⟩

theorem updateMetaSafe_flags {s s' : KState} (h : s.updateMetaSafe = .ok s') :
    ∀ n ∈ s'.nodes, n.key.kind = .step → n.checkSafe = false := by
  rcases updateMetaSafe_ok h with ⟨he, rfl⟩ | ⟨rows, _, rfl⟩
  · intro n hn hst
    cases hf : n.checkSafe with
    | false => rfl
    | true =>
      have := mem_flagged.2 ⟨hn, hst, hf⟩
      rw [he] at this; cases this
  · intro n' hn' hst
    obtain ⟨n, hn, rfl⟩ := mem_writeBack.1 hn'
    rw [writeRow_key] at hst
    unfold writeRow clearFlag
    rw [structView_key (structView_of_eraseSafe (eraseSafe_applyRows rows n))]
    simp only [hst, decide_true, if_true]

theorem updateMetaSafe_correct_iff {s s' : KState} (hk : KeysUnique s) (hs : NoSelfStep s)
    (h : s.updateMetaSafe = .ok s') : SafeConsistent s' ↔ CacheInvSafeW s := by
  rcases updateMetaSafe_ok h with ⟨he, rfl⟩ | ⟨rows, hr, rfl⟩
  · constructor
    · intro hc n hn hst _; exact hc n hn hst
    · intro hc n hn hst
      refine hc n hn hst ?_
      rintro ⟨a, ha, _⟩
      rw [he] at ha; cases ha
  · constructor
    · intro hc n hn hst ht
      exact (writeBack_untouched hk hs hr hn hst ht).1
        (hc (writeRow rows n) (mem_writeBack.2 ⟨n, hn, rfl⟩) (by rw [writeRow_key]; exact hst))
    · intro hc n' hn' hst
      obtain ⟨n, hn, rfl⟩ := mem_writeBack.1 hn'
      rw [writeRow_key] at hst
      by_cases ht : Touched s n
      · exact writeBack_touched hk hs hr hn hst ht
      · exact (writeBack_untouched hk hs hr hn hst ht).2 (hc n hn hst ht)

theorem updateMetaSafe_correct {s s' : KState} (hk : KeysUnique s) (hs : NoSelfStep s) (hc : CacheInvSafeW s)
    (h : s.updateMetaSafe = .ok s') : SafeConsistent s' :=
  (updateMetaSafe_correct_iff hk hs h).2 hc

theorem updateMetaSafe_correct' {s s' : KState} (hk : KeysUnique s) (hs : NoSelfStep s) (hc : CacheInvSafe s)
    (h : s.updateMetaSafe = .ok s') : SafeConsistent s' :=
  updateMetaSafe_correct hk hs hc.weak h

theorem updateMetaSafe_keeps {s s' : KState} (hk : KeysUnique s) (hs : NoSelfStep s)
    (h : s.updateMetaSafe = .ok s') {n : Node} (hn : n ∈ s.nodes) (hst : n.key.kind = .step) (ht : ¬ Touched s n) :
    ∃ n' ∈ s'.nodes, n'.key = n.key ∧ n'.safe = n.safe ∧ n'.safeNH = n.safeNH := by
  rcases updateMetaSafe_ok h with ⟨_, rfl⟩ | ⟨rows, hr, rfl⟩
  · exact ⟨n, hn, rfl, rfl, rfl⟩
  · refine ⟨writeRow rows n, mem_writeBack.2 ⟨n, hn, rfl⟩, writeRow_key rows n, ?_⟩
    have := writeRow_safe rows n
    rwa [applyRows_norow (norow_of_untouched hk hs hr hn hst ht)] at this

theorem updateMetaSafe_nonstep {s s' : KState} (h : s.updateMetaSafe = .ok s') {n : Node}
    (hn : n ∈ s.nodes) (hst : n.key.kind ≠ .step) : n ∈ s'.nodes := by
  rcases updateMetaSafe_ok h with ⟨_, rfl⟩ | ⟨rows, hr, rfl⟩
  · exact hn
  · have hrows := allRows_iff hr
    have hno : ∀ r ∈ rows, r.key ≠ n.key := by
      intro r hr' hrk
      obtain ⟨c, _, hck, hcs, _⟩ := derives_node ((hrows r).1 hr')
      rw [hck, hrk] at hcs
      exact hst hcs
    refine mem_writeBack.2 ⟨n, hn, ?_⟩
    unfold writeRow clearFlag
    rw [applyRows_norow hno]
    simp only [hst, decide_false, Bool.false_eq_true, if_false]

theorem noSelfStep_of_wf {s : KState} (h : StepCreatorWF s) : NoSelfStep s := by
  intro n hn hst hc
  cases hf : s.find? n.key with
  | none => exact absurd rfl (key_ne_of_find?_none hf hn)
  | some n' =>
    have hsc : stepCreator s n = some n' := (stepCreator_eq_find hc hst).trans hf
    exact wf_irrefl h n.key ⟨n, n', hn, rfl, hst, hsc, find_key hf⟩

/-- The first `fuel` recursive step creators of a row, nearest first. -/
def ups (s : KState) : Nat → Node → List Node
  | 0, _ => []
  | fuel + 1, n =>
    match stepCreator s n with
    | some c => c :: ups s fuel c
    | none => []

def safeSpecAux (s : KState) : Nat → Node → Bool
  | 0, _ => true
  | fuel + 1, n =>
    match stepCreator s n with
    | some c => safeSpecAux s fuel c && c.sstate.active && c.holding == 0
    | none => true

def safeNHSpecAux (s : KState) : Nat → Node → Bool
  | 0, _ => true
  | fuel + 1, n =>
    match stepCreator s n with
    | some c => safeNHSpecAux s fuel c && c.sstate.active
    | none => true

/-- Specification of `_safe`: every recursive step creator is RUNNING or SUCCEEDED and holds
nothing (a chain of creators has at most `#rows` members). -/
def safeSpec (s : KState) (n : Node) : Bool := safeSpecAux s s.nodes.length n

/-- Specification of `_safe_ignoring_hold`: every recursive step creator is RUNNING or SUCCEEDED. -/
def safeNHSpec (s : KState) (n : Node) : Bool := safeNHSpecAux s s.nodes.length n

theorem chainAux_ups (s : KState) (ok : Node → Bool) (aux : Nat → Node → Bool) (h0 : ∀ n, aux 0 n = true)
    (hs : ∀ f n, aux (f + 1) n = match stepCreator s n with
      | some c => aux f c && ok c
      | none => true) :
    ∀ f n, aux f n = (ups s f n).all ok := by
  intro f
  induction f with
  | zero => exact fun n => h0 n
  | succ f ih =>
    intro n
    rw [hs]
    unfold ups
    cases stepCreator s n with
    | none => rfl
    | some c => simp only [List.all_cons, ih c, Bool.and_comm]

theorem safeSpecAux_ups (s : KState) (fuel : Nat) (n : Node) :
    safeSpecAux s fuel n = (ups s fuel n).all fun c => c.sstate.active && c.holding == 0 :=
  chainAux_ups s _ (safeSpecAux s) (fun _ => rfl)
    (fun f n => by rw [safeSpecAux]; cases stepCreator s n <;> simp only [Bool.and_assoc]) fuel n

theorem safeNHSpecAux_ups (s : KState) (fuel : Nat) (n : Node) :
    safeNHSpecAux s fuel n = (ups s fuel n).all fun c => c.sstate.active :=
  chainAux_ups s _ (safeNHSpecAux s) (fun _ => rfl) (fun f n => by rw [safeNHSpecAux]) fuel n

theorem ups_length_le (s : KState) (fuel : Nat) (n : Node) : (ups s fuel n).length ≤ fuel := by
  induction fuel generalizing n with
  | zero => exact Nat.le_refl _
  | succ f ih =>
    unfold ups
    cases stepCreator s n with
    | none => exact Nat.zero_le _
    | some c => simp only [List.length_cons]; have := ih c; omega

theorem ups_stable (s : KState) : ∀ (f : Nat) (n : Node), (ups s f n).length < f → ∀ g, f ≤ g → ups s g n = ups s f n := by
  intro f
  induction f with
  | zero => intro n h; cases h
  | succ f ih =>
    intro n h g hg
    obtain ⟨g', rfl⟩ : ∃ g', g = g' + 1 := ⟨g - 1, by omega⟩
    unfold ups at h ⊢
    cases hc : stepCreator s n with
    | none => rfl
    | some c =>
      simp only [hc, List.length_cons] at h
      simp only
      rw [ih c (by omega) g' (by omega)]

/-- The relation along which `FILL_SAFE_UPDATE` descends: `k` is below `c`. -/
def Under (s : KState) (k c : Key) : Prop := Relation.TransGen (StepLink s) c k

theorem under_trans {s : KState} (a b c : Key) (h1 : Under s a b) (h2 : Under s b c) : Under s a c :=
  Relation.TransGen.trans h2 h1

theorem under_irrefl {s : KState} (hwf : StepCreatorWF s) (k : Key) : ¬ Under s k k := wf_irrefl hwf.transGen k

theorem ups_deep {s : KState} : ∀ (f : Nat) (n : Node), n ∈ s.nodes → n.key.kind = .step →
    Deep (Under s) (s.nodes.map (·.key)) (ups s f n).length n.key := by
  intro f
  induction f with
  | zero => exact fun n hn _ => .zero (List.mem_map.2 ⟨n, hn, rfl⟩)
  | succ f ih =>
    intro n hn hst
    unfold ups
    cases hc : stepCreator s n with
    | none => exact .zero (List.mem_map.2 ⟨n, hn, rfl⟩)
    | some c =>
      obtain ⟨c1, c2, _⟩ := stepCreator_some hc
      exact (ih c c1 c2).succ under_trans (.single ⟨n, c, hn, rfl, hst, hc, rfl⟩) (List.mem_map.2 ⟨n, hn, rfl⟩)

theorem ups_bound {s : KState} (hwf : StepCreatorWF s) (f : Nat) {n : Node} (hn : n ∈ s.nodes)
    (hst : n.key.kind = .step) : (ups s f n).length + 1 ≤ s.nodes.length := by
  have := (ups_deep f n hn hst).lt (under_irrefl hwf)
  rwa [List.length_map] at this

theorem ups_succ_eq {s : KState} (hwf : StepCreatorWF s) {n : Node} (hn : n ∈ s.nodes) (hst : n.key.kind = .step) :
    ups s (s.nodes.length + 1) n = ups s s.nodes.length n := by
  have := ups_bound hwf s.nodes.length hn hst
  exact ups_stable s _ n (by omega) _ (by omega)

theorem safeSpec_local {s : KState} (hwf : StepCreatorWF s) {n : Node} (hn : n ∈ s.nodes) (hst : n.key.kind = .step) :
    safeSpec s n = match stepCreator s n with
      | some c => safeSpec s c && c.sstate.active && c.holding == 0
      | none => true := by
  have h1 : safeSpec s n = safeSpecAux s (s.nodes.length + 1) n := by
    unfold safeSpec
    rw [safeSpecAux_ups, safeSpecAux_ups, ups_succ_eq hwf hn hst]
  rw [h1]
  rfl

theorem safeNHSpec_local {s : KState} (hwf : StepCreatorWF s) {n : Node} (hn : n ∈ s.nodes) (hst : n.key.kind = .step) :
    safeNHSpec s n = match stepCreator s n with
      | some c => safeNHSpec s c && c.sstate.active
      | none => true := by
  have h1 : safeNHSpec s n = safeNHSpecAux s (s.nodes.length + 1) n := by
    unfold safeNHSpec
    rw [safeNHSpecAux_ups, safeNHSpecAux_ups, ups_succ_eq hwf hn hst]
  rw [h1]
  rfl

theorem stepCreator_induction {s : KState} (hwf : StepCreatorWF s) (P : Node → Prop)
    (step : ∀ n ∈ s.nodes, n.key.kind = .step → (∀ c, stepCreator s n = some c → P c) → P n) :
    ∀ n ∈ s.nodes, n.key.kind = .step → P n := by
  have key : ∀ k : Key, ∀ n ∈ s.nodes, n.key = k → n.key.kind = .step → P n := by
    intro k
    refine hwf.induction (C := fun k => ∀ n ∈ s.nodes, n.key = k → n.key.kind = .step → P n) k ?_
    intro k ih n hn hk hst
    refine step n hn hst ?_
    intro c hc
    obtain ⟨c1, c2, _⟩ := stepCreator_some hc
    exact ih c.key ⟨n, c, hn, hk, hk ▸ hst, hc, rfl⟩ c c1 rfl c2
  intro n hn hst
  exact key n.key n hn rfl hst

theorem safeConsistent_unique {s : KState} (hwf : StepCreatorWF s) (hc : SafeConsistent s) :
    ∀ n ∈ s.nodes, n.key.kind = .step → n.safe = safeSpec s n ∧ n.safeNH = safeNHSpec s n := by
  refine stepCreator_induction hwf _ ?_
  intro n hn hst ih
  obtain ⟨h1, h2⟩ := hc n hn hst
  unfold SafeLocal localSafe at h1
  unfold SafeNHLocal localSafeNH at h2
  rw [h1, h2, safeSpec_local hwf hn hst, safeNHSpec_local hwf hn hst]
  cases hsc : stepCreator s n with
  | none => exact ⟨rfl, rfl⟩
  | some c =>
    obtain ⟨e1, e2⟩ := ih c hsc
    simp only [e1, e2, and_self]

theorem mem_ups_iff {s : KState} (hwf : StepCreatorWF s) (a : Node) :
    ∀ n ∈ s.nodes, n.key.kind = .step → (a ∈ ups s s.nodes.length n ↔ StrictAnc s a n) := by
  refine stepCreator_induction hwf _ ?_
  intro n hn hst ih
  rw [← ups_succ_eq hwf hn hst]
  unfold ups StrictAnc
  cases hsc : stepCreator s n with
  | none => exact ⟨nofun, fun ⟨_, hc, _⟩ => nomatch hc⟩
  | some c =>
    rw [List.mem_cons, ih c hsc]
    constructor
    · rintro (rfl | ⟨c', hc', h⟩)
      · exact ⟨_, rfl, .refl _⟩
      · exact ⟨c, rfl, .up hc' h⟩
    · rintro ⟨_, hc, h⟩
      cases hc
      cases h with
      | refl => exact .inl rfl
      | up hc' h => exact .inr ⟨_, hc', h⟩

theorem safeSpec_iff {s : KState} (hwf : StepCreatorWF s) :
    ∀ n ∈ s.nodes, n.key.kind = .step →
      ((safeSpec s n = true ↔ ∀ a, StrictAnc s a n → a.sstate.active = true ∧ a.holding = 0) ∧
       (safeNHSpec s n = true ↔ ∀ a, StrictAnc s a n → a.sstate.active = true)) := by
  intro n hn hst
  unfold safeSpec safeNHSpec
  rw [safeSpecAux_ups, safeNHSpecAux_ups]
  simp only [List.all_eq_true, mem_ups_iff hwf _ n hn hst, Bool.and_eq_true, beq_iff_eq, and_self]

/-- The recursion of `FILL_SAFE_UPDATE` ends within `#rows + 1` rounds: the rows of round `d` head chains of
`d` creator links. -/
theorem allRows_terminates {s : KState} (hk : KeysUnique s) (hwf : StepCreatorWF s) : ∃ rows, allRows s = some rows := by
  have hnode : ∀ {r}, Derives s r → r.key ∈ s.nodes.map (·.key) := fun h => by
    obtain ⟨c, hc, hck, _⟩ := derives_node h
    exact List.mem_map.2 ⟨c, hc, hck⟩
  refine (go_loop s).terminates_deep (fun x => x.1.map (·.key)) (under_irrefl hwf) (s.nodes.map (·.key))
    (fun x => ∀ r ∈ x.1, Derives s r) (fun x h hnil => by rw [List.map_eq_nil_iff.1 hnil] at h; cases h) ?_
    (x := ((flagged s).map (seedRow s), (flagged s).map (seedRow s))) (r := 0) ?_ ?_ (by rw [List.length_map]; omega)
  · intro d x hx hd _
    dsimp only at hx hd ⊢
    have hall : ∀ q ∈ expandRows s x.1, Derives s q ∧ Deep (Under s) (s.nodes.map (·.key)) (d + 1) q.key := by
      intro q hq
      obtain ⟨r, hr, p, hp, rfl⟩ := mem_expandRows.1 hq
      have hdq := Derives.prod r p (hx r hr) hp
      obtain ⟨p1, p2, p3, _⟩ := mem_stepProducts.1 hp
      obtain ⟨c, hc, hck, hcs, _⟩ := derives_node (hx r hr)
      have hsc : stepCreator s p = some c := stepCreator_of hk hc hcs (by rw [hck]; exact p3)
      exact ⟨hdq, (hd r.key (List.mem_map.2 ⟨r, hr, rfl⟩)).succ under_trans
        (.single ⟨p, c, p1, rfl, p2, hsc, hck⟩) (hnode hdq)⟩
    refine ⟨fun q hq => (hall q hq).1, fun k hk' => ?_⟩
    obtain ⟨q, hq', rfl⟩ := List.mem_map.1 hk'
    exact (hall q hq').2
  · intro q hq
    obtain ⟨n, hn, rfl⟩ := List.mem_map.1 hq
    exact .seed n hn
  · intro k hk'
    obtain ⟨q, hq, rfl⟩ := List.mem_map.1 hk'
    obtain ⟨n, hn, rfl⟩ := List.mem_map.1 hq
    exact .zero (hnode (.seed n hn))

theorem updateMetaSafe_no_hang {s : KState} (hk : KeysUnique s) (hwf : StepCreatorWF s) :
    ∃ s', s.updateMetaSafe = .ok s' := by
  rw [updateMetaSafe_eq]
  split
  · exact ⟨s, rfl⟩
  · obtain ⟨rows, hr⟩ := allRows_terminates hk hwf
    rw [hr]
    exact ⟨writeBack s rows, rfl⟩

theorem updateMetaSafe_spec {s : KState} (hk : KeysUnique s) (hwf : StepCreatorWF s) (hc : CacheInvSafeW s) :
    ∃ s', s.updateMetaSafe = .ok s' ∧ SafeFrame s s' ∧
      (∀ n ∈ s'.nodes, n.key.kind = .step → n.checkSafe = false ∧ SafeLocal s' n ∧ SafeNHLocal s' n) := by
  obtain ⟨s', h⟩ := updateMetaSafe_no_hang hk hwf
  have hcons := updateMetaSafe_correct hk (noSelfStep_of_wf hwf) hc h
  refine ⟨s', h, updateMetaSafe_frame h, ?_⟩
  intro n hn hst
  exact ⟨updateMetaSafe_flags h n hn hst, hcons n hn hst⟩

theorem updateMetaSafe_eq_spec {s s' : KState} (hk : KeysUnique s) (hwf : StepCreatorWF s) (hc : CacheInvSafeW s)
    (h : s.updateMetaSafe = .ok s') :
    ∀ n' ∈ s'.nodes, n'.key.kind = .step → n'.safe = safeSpec s' n' ∧ n'.safeNH = safeNHSpec s' n' :=
  safeConsistent_unique (rowMap_stepCreatorWF ((updateMetaSafe_rowMap h).mono (.of_blind _ fun _ => rfl)) hwf)
    (updateMetaSafe_correct hk (noSelfStep_of_wf hwf) hc h)

/-- What dispatch may rely on: a step that `SELECT_NEXT_STEP` accepts has every recursive step creator RUNNING or
SUCCEEDED and holding nothing, or it has a recorded hash (it is only checked, not run) and every recursive step
creator is RUNNING or SUCCEEDED. -/
theorem eligible_creators {s : KState} {cfg : KConfig} (hwf : StepCreatorWF s) (hc : SafeConsistent s)
    {n : Node} (hn : n ∈ s.nodes) (h : s.eligible cfg n = true) :
    (∀ a, StrictAnc s a n → a.sstate.active = true ∧ a.holding = 0) ∨
    (n.hasHash = true ∧ ∀ a, StrictAnc s a n → a.sstate.active = true) := by
  obtain ⟨hst, _, _, _, _, _, _, hs, _⟩ := (eligible_iff s cfg n).1 h
  obtain ⟨u1, u2⟩ := safeConsistent_unique hwf hc n hn hst
  obtain ⟨i1, i2⟩ := safeSpec_iff hwf n hn hst
  rcases hs with hs | ⟨hh, hs⟩
  · exact .inl (i1.1 (u1 ▸ hs))
  · exact .inr ⟨hh, i2.1 (u2 ▸ hs)⟩

theorem bothLocalB_iff {s : KState} {n : Node} : bothLocalB s n = true ↔ BothLocal s n := by
  unfold bothLocalB BothLocal SafeLocal SafeNHLocal
  simp only [Bool.and_eq_true, beq_iff_eq]

def safeConsistentB (s : KState) : Bool :=
  s.nodes.all fun n => !decide (n.key.kind = .step) || bothLocalB s n

theorem safeConsistentB_iff {s : KState} : safeConsistentB s = true ↔ SafeConsistent s := by
  simp only [safeConsistentB, SafeConsistent, List.all_eq_true, bnot_or_iff, decide_eq_true_eq, bothLocalB_iff]

def cacheInvSafeB (s : KState) : Bool :=
  s.nodes.all fun n => !decide (n.key.kind = .step) || n.checkSafe || bothLocalB s n

theorem cacheInvSafeB_iff {s : KState} : cacheInvSafeB s = true ↔ CacheInvSafe s := by
  simp only [cacheInvSafeB, CacheInvSafe, List.all_eq_true, Bool.or_assoc, bnot_or_iff]
  simp only [decide_eq_true_eq, Bool.or_eq_true, bothLocalB_iff]
  refine forall_congr' fun n => forall_congr' fun _ => forall_congr' fun _ => ?_
  cases n.checkSafe <;> simp

theorem cacheInvSafeWB_iff {s : KState} (hk : KeysUnique s) (hwf : StepCreatorWF s) :
    cacheInvSafeWB s = true ↔ CacheInvSafeW s := by
  have hs := noSelfStep_of_wf hwf
  obtain ⟨rows, hr⟩ := allRows_terminates hk hwf
  unfold cacheInvSafeWB CacheInvSafeW
  rw [hr]
  simp only [List.all_eq_true, Bool.or_eq_true, Bool.not_eq_true', decide_eq_false_iff_not, bothLocalB_iff,
    List.any_eq_true, decide_eq_true_eq]
  refine forall_congr' fun n => forall_congr' fun hn => ?_
  by_cases hst : n.key.kind = .step
  · rw [row_iff_touched hk hs hr hn hst]
    refine ⟨fun h _ ht => h.elim (fun h => h.elim (absurd hst) (absurd · ht)) id, fun h => ?_⟩
    by_cases ht : Touched s n
    · exact .inl (.inr ht)
    · exact .inr (h hst ht)
  · exact ⟨fun _ h => absurd h hst, fun _ => .inl (.inl hst)⟩

/-- `rank` falls along every step-creator link: a certificate of `StepCreatorWF` that evaluates. -/
def rankedB (s : KState) (rank : Key → Nat) : Bool :=
  s.nodes.all fun n =>
    match stepCreator s n with
    | some c => decide (rank c.key < rank n.key)
    | none => true

theorem stepCreatorWF_of_rank {s : KState} (rank : Key → Nat) (h : rankedB s rank = true) : StepCreatorWF s := by
  refine Subrelation.wf ?_ (InvImage.wf rank Nat.lt_wfRel.wf)
  intro c k hl
  obtain ⟨n, cn, hn, hk, _, hsc, hck⟩ := hl
  unfold rankedB at h
  have := List.all_eq_true.1 h n hn
  rw [hsc] at this
  simp only [decide_eq_true_eq] at this
  show rank c < rank k
  rw [← hk, ← hck]; exact this

/-- The three hypotheses of the `_update_meta_safe` theorems on a literal state, in one evaluation. -/
theorem safeW_checked {s : KState} (rank : Key → Nat)
    (h : (decide (KeysUnique s) && rankedB s rank && cacheInvSafeWB s) = true) :
    KeysUnique s ∧ StepCreatorWF s ∧ CacheInvSafeW s := by
  simp only [Bool.and_eq_true, decide_eq_true_eq] at h
  have hwf := stepCreatorWF_of_rank rank h.1.2
  exact ⟨h.1.1, hwf, (cacheInvSafeWB_iff h.1.1 hwf).1 h.2⟩

instance (s : KState) : Decidable (SafeConsistent s) := decidable_of_iff _ safeConsistentB_iff
instance (s : KState) : Decidable (CacheInvSafe s) := decidable_of_iff _ cacheInvSafeB_iff

/-! ## The repaired defect, on the model

`FILL_SAFE_UPDATE` once resolved duplicate rows with `MIN(depth)`.  The variant below differs from
the model in that choice only. -/

def pickMin (best : Option SafeRow) (r : SafeRow) : Option SafeRow :=
  match best with
  | none => some r
  | some b => if r.depth < b.depth then some r else some b

def bestRowMin (rows : List SafeRow) (k : Key) : Option SafeRow :=
  (rows.filter (·.key = k)).foldl pickMin none

def applyRowsMin (rows : List SafeRow) (n : Node) : Node :=
  if rows.any (·.key = n.key) then
    match bestRowMin rows n.key with
    | some r => { n with safe := r.safe, safeNH := r.safeNH }
    | none => n
  else n

/-- `_update_meta_safe` with `MIN(depth)` in place of `MAX(depth)`. -/
def updateMetaSafeMin (s : KState) : M KState :=
  if (flagged s).isEmpty then pure s
  else match allRows s with
    | none => throw .hang
    | some rows => pure { s with nodes := s.nodes.map fun n => clearFlag (applyRowsMin rows n) }

/-- `a` (RUNNING again, hence flagged) creates `b` (SUCCEEDED, not flagged, `_safe = 0` cached from
the time when `a` was not active) creates `c` (flagged in the same refresh). -/
def defectWitness : KState :=
  { nodes := [
      { key := rootKey, creator := some rootKey },
      { key := stepKey "a", creator := some rootKey, sstate := .running, checkSafe := true, safe := true, safeNH := true },
      { key := stepKey "b", creator := some (stepKey "a"), sstate := .succeeded, safe := false, safeNH := false },
      { key := stepKey "c", creator := some (stepKey "b"), sstate := .pending, checkSafe := true, safe := false,
        safeNH := false }] }

def witnessRank (k : Key) : Nat :=
  if k = stepKey "a" then 0 else if k = stepKey "b" then 1 else 2

theorem defectWitness_keys : KeysUnique defectWitness := by decide +kernel

theorem defectWitness_wf : StepCreatorWF defectWitness :=
  stepCreatorWF_of_rank witnessRank (by decide +kernel)

/-- The witness obeys the flag discipline in its weakest form, not in the first form: `b` is
neither flagged nor locally correct, but it is below the flagged `a`.  (That is the state the trigger
`step_flag_check_safe` leaves: a state change flags the step itself, not its products.) -/
theorem defectWitness_discipline : CacheInvSafeW defectWitness ∧ ¬ CacheInvSafe defectWitness :=
  ⟨(cacheInvSafeWB_iff defectWitness_keys defectWitness_wf).1 (by decide +kernel), by decide +kernel⟩

/-- `trace` has two rows for `c`: its own seed (depth 0, from the stale cache of `b`) and the row
derived from the seed of `a` (depth 2). -/
theorem defectWitness_duplicates :
    (allRows defectWitness).map (fun rows => (rows.filter (·.key = stepKey "c")).map fun r => (r.depth, r.safe, r.safeNH)) =
      some [(0, false, false), (2, true, true)] := by decide +kernel

/-- With `MAX(depth)` (the model, the repaired code) all local equations hold afterwards ... -/
theorem defectWitness_max :
    ∃ s', defectWitness.updateMetaSafe = .ok s' ∧ SafeConsistent s' ∧
      s'.nodes.map (fun n => (n.safe, n.safeNH, n.checkSafe)) =
        [(false, false, false), (true, true, false), (true, true, false), (true, true, false)] :=
  okAnd_dec (by decide +kernel)

/-- ... with `MIN(depth)` the step `c` keeps the value derived from the stale cache of `b`: `_safe = 0`
although its only step creators `b` and `a` are SUCCEEDED and RUNNING and hold nothing, and no flag is
left to repair it. -/
theorem defectWitness_min :
    ∃ s', updateMetaSafeMin defectWitness = .ok s' ∧ ¬ SafeConsistent s' ∧
      (∀ n ∈ s'.nodes, n.checkSafe = false) ∧
      s'.nodes.map (fun n => (n.safe, n.safeNH)) = [(false, false), (true, true), (true, true), (false, false)] :=
  okAnd_dec (by decide +kernel)

/-! Non-vacuity: the hypotheses of the main theorems are met by a state with work to do. -/

example : ∃ s', defectWitness.updateMetaSafe = .ok s' ∧ SafeFrame defectWitness s' ∧
    (∀ n ∈ s'.nodes, n.key.kind = .step → n.checkSafe = false ∧ SafeLocal s' n ∧ SafeNHLocal s' n) :=
  updateMetaSafe_spec defectWitness_keys defectWitness_wf defectWitness_discipline.1

example : (flagged defectWitness).length = 2 := by decide +kernel

end StepupModel.K.MetaSafe
