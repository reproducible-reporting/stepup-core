import StepupModel.Lemmas.Reach
/-!
# Creator links have no cycle after every history, detached rows included

`Lemmas/Reach.lean` shows `ForestWF` after every history: the local invariant of
`_check_consistency` and well-founded creator links among *attached* rows.  This file adds the
detached rows: `Sk.TreeAcy` (`Sk.Tree` of `Lemmas/Reach.lean` and `Sk.Acy` of `Lemmas/ReachLinks.lean`) is kept by the seven
rewrites of the kernel, `reattach` under its guard (`skStableG_treeAcy`), hence by every request and
every history (`Lemmas/ReachLift.lean`): `creatorAcyclic_reachable`.  The guard is needed:
`acy_not_skStable` re-attaches a detached row below its own detached product.
-/
namespace StepupModel.K
open Sk

def Sk.TreeAcy (l : List Tri) : Prop := Sk.Tree l ∧ Sk.Acy l

theorem not_below_of_guard {l : List Tri} (hok : Sk.OK l) (ha : Sk.Acy l) {k c : Key} {ck : Option Key}
    (hrow : (k, ck, true) ∈ l) (hkind : creatorKindOk k.kind c.kind = true) (hg : Sk.createdBy l k c = false) :
    ¬ Sk.Below (Sk.Link l) k c := by
  intro hb
  have := createdBy_complete hok.nodup ha (kindOk_not_root hkind) ⟨_, hrow, rfl⟩ hb
  rw [hg] at this; cases this

theorem skStableG_treeAcy : SkStableG Sk.TreeAcy where
  ok _ h := h.1.1
  detachAtt l k ck D hq hk hrow hD :=
    ⟨skStable_tree.detachAtt l k ck D hq.1 hk hrow hD, hq.2.of_gwf (gwf_detachAtt (fun _ _ => trivial) · k D)⟩
  detachDet l k ck hq hrow := ⟨skStable_tree.detachDet l k ck hq.1 hrow, hq.2.of_gwf (gwf_detachDet · k)⟩
  reattach l k ck c d D hq hrow hck hhas hkind hd hg hD :=
    ⟨skStable_tree.reattach l k ck c d D hq.1 hrow hck hhas hkind hd hD,
      acy_reattach hq.2 (not_below_of_guard hq.1.1 hq.2 hrow hkind hg) d D⟩
  recycle l k ck newc d hq hrow hfits hkind :=
    ⟨skStable_tree.recycle l k ck newc d hq.1 hrow hfits hkind, hq.2.of_gwf (gwf_recycle · hfits)⟩
  append l k newc d hq hfresh hk hd :=
    ⟨skStable_tree.append l k newc d hq.1 hfresh hk hd,
      hq.2.of_gwf (gwf_append · hq.1.1.exist hfresh (fun c hc => (hk c hc).1))⟩
  hand l tk hs hq htk hkind hfile hatt :=
    ⟨skStable_tree.hand l tk hs hq.1 htk hkind hfile hatt, hq.2.of_gwf (gwf_hand · hq.1.2.2 hkind hfile)⟩
  filter l D hq hdet hleaf := ⟨skStable_tree.filter l D hq.1 hdet hleaf, hq.2.of_gwf (gwf_filter · _)⟩

theorem init_acy : Sk.Acy KState.init.skel := by
  refine WellFounded.intro fun x => Acc.intro x fun a ⟨hk, d, hm⟩ => ?_
  rw [init_skel, List.mem_singleton] at hm
  exact absurd (congrArg (·.1.kind) hm) hk

theorem init_treeAcy : Sk.TreeAcy KState.init.skel := ⟨init_tree, init_acy⟩

/-- Over all rows, attached or not; rows of kind root are exempt because the root is its own creator. -/
def CreatorAcyclic (s : KState) : Prop :=
  WellFounded fun c k => k.kind ≠ .root ∧ ∃ n ∈ s.nodes, n.key = k ∧ n.creator = some c

theorem creatorAcyclic_iff (s : KState) : CreatorAcyclic s ↔ Sk.Acy s.skel := by
  unfold CreatorAcyclic Sk.Acy
  have : (fun c k => k.kind ≠ Kind.root ∧ ∃ n ∈ s.nodes, n.key = k ∧ n.creator = some c) = Sk.Link s.skel := by
    funext c k
    unfold Sk.Link KState.skel
    apply propext
    constructor
    · rintro ⟨hk, n, hn, rfl, hc⟩
      refine ⟨hk, n.detached, List.mem_map.2 ⟨n, hn, ?_⟩⟩
      unfold Node.tri; rw [hc]
    · rintro ⟨hk, d, hm⟩
      obtain ⟨n, hn, he⟩ := List.mem_map.1 hm
      unfold Node.tri at he
      simp only [Prod.mk.injEq] at he
      exact ⟨hk, n, hn, he.1, he.2.1⟩
  rw [this]

def ForestAcy (s : KState) : Prop := ForestWF s ∧ CreatorAcyclic s

theorem forestAcy_iff (s : KState) : ForestAcy s ↔ PQ Sk.TreeAcy s := by
  unfold ForestAcy PQ Sk.TreeAcy
  rw [forestWF_iff, creatorAcyclic_iff]
  exact Iff.rfl

theorem init_forestAcy : ForestAcy KState.init := (forestAcy_iff _).2 init_treeAcy

theorem forestAcy_eq : ForestAcy = PQ Sk.TreeAcy := funext fun s => propext (forestAcy_iff s)

theorem forestAcy_inv : ExecInv (fun _ _ => True) ForestAcy := forestAcy_eq ▸ skStableG_treeAcy.execInv

theorem step_forestAcy (cfg : KConfig) (r : Req) (s : KState) (hp : ForestAcy s) : ForestAcy (s.step cfg r) :=
  forestAcy_inv.step cfg r s trivial hp

theorem forestAcy_reachable (h : List (KConfig × Req)) : ForestAcy (KState.init.run h) :=
  forestAcy_inv.run' h _ init_forestAcy

theorem creatorAcyclic_reachable (h : List (KConfig × Req)) : CreatorAcyclic (KState.init.run h) :=
  (forestAcy_reachable h).2

theorem reattach_forestAcy (k c : Key) : Preserves ForestAcy (fun s => s.reattach k c) :=
  forestAcy_eq ▸ fun s s' => skStableG_treeAcy.toV.reattach_preserves k c s s' trivial

def acyWitness : List Tri :=
  [(rootKey, some rootKey, false), (stepKey "x", none, true), (stepKey "y", some (stepKey "x"), true)]

/-- Without the guard `reattach` does not keep the forest acyclic: no predicate that implies `Sk.Acy`
and holds of `acyWitness` is a `SkStable` (`Lemmas/ReachLift.lean`). -/
theorem acy_not_skStable (Q : List Tri → Prop) (hq : Q acyWitness) (himp : ∀ l, Q l → Sk.Acy l) : ¬ SkStable Q := by
  intro L
  have hx : (stepKey "x", (none : Option Key), true) ∈ acyWitness := by decide
  have hy : (stepKey "y", some (stepKey "x"), true) ∈ acyWitness := by decide
  -- re-attach `x` below its own product `y`; both stay detached
  have hdec (z : Key) : Decidable (Desc (setRow (stepKey "x") (some (stepKey "y")) true acyWitness) (stepKey "x") z) :=
    Classical.propDecidable _
  have h := L.reattach acyWitness (stepKey "x") none (stepKey "y") true (fun z => decide (Desc _ (stepKey "x") z))
    hq hx (by decide) ⟨_, hy, rfl⟩ (by decide)
    ⟨fun h => (nomatch h), fun ha => absurd ha (by unfold Att; decide)⟩ (fun z => decide_eq_true_iff)
  exact wf_irrefl (himp _ h).transGen (stepKey "x")
    (.tail (.single ⟨by decide, _, mem_setD_of_mem _ true (mem_setRow_of_ne (some (stepKey "y")) true hy (by decide))⟩)
      ⟨by decide, _, mem_setD_of_mem _ true (mem_setRow_self (some (stepKey "y")) true ⟨_, hx, rfl⟩)⟩)

end StepupModel.K
