import StepupModel.Lemmas.ReachDesc
import StepupModel.Lemmas.ReachLinks
import StepupModel.Lemmas.Guards
import StepupModel.Lemmas.WorkflowChain
/-!
# Lifting a predicate of the creator forest through every kernel request

`SkStableG Q` lists what a predicate `Q` of the list of `(key, creator, detached)` triples has to
survive: the seven ways the kernel rewrites the creator forest (the fields of `SkStable`), each under the
guards the code provides at that point.  The operations that do not write `creator`/`detached` are covered by
the frame lemma of `Lemmas/ReachFrame.lean`.  `detach` of the root needs no side condition: the CHECKs of the
`node` table (`creatorAllowed`) reject the write, so the request is rejected as a whole.

`SkStable Q` is the same list without the guard `Trellis.raise_if_created_by` of `Node.reattach`
(`Sk.createdBy l k c = false`) among the hypotheses of the `reattach` leaf.  A predicate that implies
"creator links have no cycle" can only be a `SkStableG` (re-attaching a detached row below one of its
own detached products closes a cycle: the defect F11).

What the leaves know of the key `k` they write: `creatorKindOk k.kind c.kind` only when a creator is given (`recycle` and
`append` with `newc = none` say nothing of `k.kind`), and `k ≠ rootKey` in `detachAtt` only.  Nothing on the triples says
that a key of kind `root` is `rootKey` (only `Struct.roots`, `Lemmas/DisciplineStruct.lean`, on states), so a `Q` about
self-created rows exempts `t.1 = rootKey` among the attached rows (`AttachedWF`, `Sk.ARw`) or `t.1.kind = .root` among
all rows (`CreatorAcyclic`, `Sk.Acy`).

`SkStableV D Rr Q` is the same list with what the code has checked of the *values* at each rewrite (a predicate that
speaks of labels needs it: `Own.ownV`, `Lemmas/Ownership.lean`).  The walk through the kernel operations is proved
for it; a `SkStableG` is the instance that ignores the extra knowledge (`SkStableG.toV`).

Names: `skel_op` (`Lemmas/ReachFrame.lean`, `Lemmas/ReachDesc.lean`) is an equation for `(op s).skel`; `op_skel` (here)
reads a lookup on `s.skel` (`creatorOf_skel`, `createdBy_skel`) or says what an accepted call of `op` has done to the forest
together with what the code has checked on the way, under `Sk.Nodup` or `Sk.OK` (`deletePass_skel` next to `skel_deletePass`).
-/
namespace StepupModel.K
open Sk

structure SkStable (Q : List Tri → Prop) : Prop where
  /-- `Q` contains the local invariant of the creator forest -/
  ok : ∀ l, Q l → Sk.OK l
  /-- `Node.detach` of an attached row: the link is cut, the flag goes to the recursive products -/
  detachAtt : ∀ (l : List Tri) (k ck : Key) (D : Key → Bool), Q l → k ≠ rootKey → (k, some ck, false) ∈ l →
    (∀ x, D x = true ↔ Desc (setRow k none true l) k x) → Q (setD D true (setRow k none true l))
  /-- `Node.detach` of a detached row: the link is cut -/
  detachDet : ∀ (l : List Tri) (k : Key) (ck : Option Key), Q l → (k, ck, true) ∈ l → Q (setRow k none true l)
  /-- `Node.reattach` of a detached row to an existing creator of an accepted kind: the row and its
  recursive products get the flag of the creator -/
  reattach : ∀ (l : List Tri) (k : Key) (ck : Option Key) (c : Key) (d : Bool) (D : Key → Bool), Q l →
    (k, ck, true) ∈ l → c ≠ k → Has l c → creatorKindOk k.kind c.kind = true → (d = false ↔ Att l c) →
    (∀ x, D x = true ↔ Desc (setRow k (some c) d l) k x) → Q (setD D d (setRow k (some c) d l))
  /-- the recycling branch of `Trellis.create`: new creator and flag, old products cut loose -/
  recycle : ∀ (l : List Tri) (k : Key) (ck newc : Option Key) (d : Bool), Q l → (k, ck, true) ∈ l →
    FitsRow l k newc d → (∀ c, newc = some c → creatorKindOk k.kind c.kind = true) →
    Q (cut k (setRow k newc d l))
  /-- the fresh branch of `Trellis.create` -/
  append : ∀ (l : List Tri) (k : Key) (newc : Option Key) (d : Bool), Q l → ¬ Has l k →
    (∀ c, newc = some c → Has l c ∧ creatorKindOk k.kind c.kind = true) →
    (d = false ↔ ∃ c, newc = some c ∧ Att l c) → Q (l ++ [(k, newc, d)])
  /-- `register_static_tree` takes over attached files for its attached tree -/
  hand : ∀ (l : List Tri) (tk : Key) (hs : List Key), Q l → Att l tk → tk.kind = .st →
    (∀ h ∈ hs, h.kind = .file) → (∀ t ∈ l, t.1 ∈ hs → t.2.2 = false) → Q (hand tk hs l)
  /-- one pass of `Trellis.delete_detached`: detached rows without products go -/
  filter : ∀ (l : List Tri) (D : Key → Bool), Q l → (∀ t ∈ l, D t.1 = true → t.2.2 = true) →
    (∀ t ∈ l, D t.1 = true → ∀ u ∈ l, u.2.1 = some t.1 → u.1 = t.1) → Q (l.filter fun t => !D t.1)

/-- A predicate of the creator forest, read on a state. -/
def PQ (Q : List Tri → Prop) (s : KState) : Prop := Q s.skel

/-- The fields of `SkStable` (documented there), `reattach` with the guard among its hypotheses. -/
structure SkStableG (Q : List Tri → Prop) : Prop where
  ok : ∀ l, Q l → Sk.OK l
  detachAtt : ∀ (l : List Tri) (k ck : Key) (D : Key → Bool), Q l → k ≠ rootKey → (k, some ck, false) ∈ l →
    (∀ x, D x = true ↔ Desc (setRow k none true l) k x) → Q (setD D true (setRow k none true l))
  detachDet : ∀ (l : List Tri) (k : Key) (ck : Option Key), Q l → (k, ck, true) ∈ l → Q (setRow k none true l)
  /-- `Node.reattach` of a detached row to an existing creator of an accepted kind that is neither the
  row itself nor one of its recursive products (`raise_if_created_by`): the row and its recursive
  products get the flag of the creator -/
  reattach : ∀ (l : List Tri) (k : Key) (ck : Option Key) (c : Key) (d : Bool) (D : Key → Bool), Q l →
    (k, ck, true) ∈ l → c ≠ k → Has l c → creatorKindOk k.kind c.kind = true → (d = false ↔ Att l c) →
    Sk.createdBy l k c = false →
    (∀ x, D x = true ↔ Desc (setRow k (some c) d l) k x) → Q (setD D d (setRow k (some c) d l))
  recycle : ∀ (l : List Tri) (k : Key) (ck newc : Option Key) (d : Bool), Q l → (k, ck, true) ∈ l →
    FitsRow l k newc d → (∀ c, newc = some c → creatorKindOk k.kind c.kind = true) →
    Q (cut k (setRow k newc d l))
  append : ∀ (l : List Tri) (k : Key) (newc : Option Key) (d : Bool), Q l → ¬ Has l k →
    (∀ c, newc = some c → Has l c ∧ creatorKindOk k.kind c.kind = true) →
    (d = false ↔ ∃ c, newc = some c ∧ Att l c) → Q (l ++ [(k, newc, d)])
  hand : ∀ (l : List Tri) (tk : Key) (hs : List Key), Q l → Att l tk → tk.kind = .st →
    (∀ h ∈ hs, h.kind = .file) → (∀ t ∈ l, t.1 ∈ hs → t.2.2 = false) → Q (hand tk hs l)
  filter : ∀ (l : List Tri) (D : Key → Bool), Q l → (∀ t ∈ l, D t.1 = true → t.2.2 = true) →
    (∀ t ∈ l, D t.1 = true → ∀ u ∈ l, u.2.1 = some t.1 → u.1 = t.1) → Q (l.filter fun t => !D t.1)

theorem SkStable.toG {Q : List Tri → Prop} (L : SkStable Q) : SkStableG Q :=
  { L with reattach := fun l k ck c d D hq hrow hck hhas hkind hd _ hD => L.reattach l k ck c d D hq hrow hck hhas hkind hd hD }

theorem creatorOf_skel (s : KState) (k : Key) : (s.find? k).bind (·.creator) = Sk.creatorOf s.skel k := by
  unfold KState.find? Sk.creatorOf KState.skel
  rw [List.find?_map]
  show _ = ((List.find? (fun n => decide (n.key = k)) s.nodes).map Node.tri).bind _
  cases List.find? (fun n => decide (n.key = k)) s.nodes <;> rfl

theorem createdByGo_skel (s : KState) (k : Key) (fuel : Nat) (cur : Key) :
    KState.createdBy.go s k fuel cur = Sk.createdByGo s.skel k fuel cur := by
  induction fuel generalizing cur with
  | zero => rfl
  | succ f ih =>
    unfold KState.createdBy.go Sk.createdByGo
    rw [creatorOf_skel]
    cases Sk.creatorOf s.skel cur with
    | none => rfl
    | some p => dsimp only; rw [ih p]

theorem createdBy_skel (s : KState) (k c : Key) : s.createdBy k c = Sk.createdBy s.skel k c := by
  unfold KState.createdBy Sk.createdBy
  rw [createdByGo_skel]
  unfold KState.skel
  rw [List.length_map]

theorem pq_of_skel {Q : List Tri → Prop} {s s' : KState} (h : s'.skel = s.skel) (hp : PQ Q s) : PQ Q s' :=
  (congrArg Q h).mpr hp

theorem SkStable.skel_eq_of_frame {f : KState → M KState} (hF : ∀ X, Sk.Nodup X → Preserves (fun s => s.skel = X) f)
    {s s' : KState} (hn : Sk.Nodup s.skel) (h : f s = .ok s') : s'.skel = s.skel :=
  hF s.skel hn s s' rfl h

theorem detachFlags_skel {s s' : KState} (k : Key) (hn : Sk.Nodup s.skel) (h : s.detachFlags k = .ok s') :
    s'.skel = s.skel :=
  (frameL_skel s.skel hn).toW.detachFlags_preserves rfl k s s' rfl h

theorem lostProduct_skel {s s' : KState} (old : Option Key) (hn : Sk.Nodup s.skel) (h : s.lostProduct old = .ok s') :
    s'.skel = s.skel :=
  (frameL_skel s.skel hn).toW.lostProduct_preserves rfl old s s' rfl h

theorem flagIfStep_skel {s s' : KState} (k : Key) (hn : Sk.Nodup s.skel) (h : s.flagIfStep k = .ok s') :
    s'.skel = s.skel :=
  (frameL_skel s.skel hn).toW.flagIfStep_preserves rfl k s s' rfl h

theorem detachCore_skel {s s' : KState} {k : Key} {n : Node} (hf : s.find? k = some n)
    (h : s.detachCore k n = .ok s') :
    (n.creator = none ∧ s'.skel = s.skel) ∨
    (∃ ck, n.creator = some ck ∧ n.detached = true ∧ s'.skel = setRow k none true s.skel) ∨
    (∃ ck D, n.creator = some ck ∧ n.detached = false ∧ k ≠ rootKey ∧
      (∀ x, D x = true ↔ Desc (setRow k none true s.skel) k x) ∧
      s'.skel = setD D true (setRow k none true s.skel)) := by
  rcases detachCore_ok h with ⟨hc, rfl⟩ | ⟨hc, s1, h1, rfl⟩
  · exact .inl ⟨hc, rfl⟩
  · obtain ⟨ck, hck⟩ := Option.isSome_iff_exists.1 hc
    obtain ⟨hs1, hall⟩ := skel_setCreator h1
    refine .inr ?_
    cases hd : n.detached with
    | true => exact .inl ⟨ck, hck, rfl, hs1⟩
    | false =>
      refine .inr ⟨ck, fun x => (s1.descendants k).contains x, hck, rfl,
        fun hk => (creatorAllowed_none hall).2 (hk ▸ rfl), fun x => ?_, ?_⟩
      · rw [descendants_contains, hs1]
      · rw [← hs1]; exact skel_setDetachedRec s1 k true

theorem detach_det_skel {s s' : KState} {k : Key} {c : Option Key} (hn : Sk.Nodup s.skel)
    (hrow : (k, c, true) ∈ s.skel) (h : s.detach k = .ok s') : s'.skel = setRow k none true s.skel := by
  obtain ⟨n, s1, hf, h1, h⟩ := detach_ok h
  have hrow' := find?_row hf
  obtain ⟨hcr, hdet⟩ : n.creator = c ∧ n.detached = true := by
    have := Sk.uniq hn hrow' hrow rfl
    exact ⟨congrArg (·.2.1) this, congrArg (·.2.2) this⟩
  have hs1 : s1.skel = setRow k none true s.skel := by
    rcases detachCore_skel hf h1 with ⟨hc, h2⟩ | ⟨ck, _, _, h2⟩ | ⟨ck, D, _, hd, _, _, _⟩
    · rw [h2]
      refine (map_id_of _ fun t ht => ?_).symm
      by_cases htk : t.1 = k
      · rw [if_pos htk, Sk.uniq hn ht hrow htk, ← hcr, hc]
      · exact if_neg htk
    · exact h2
    · rw [hdet] at hd; cases hd
  rw [detachFlags_skel k (hs1 ▸ nodup_setRow k none true hn) h, hs1]

theorem foldlM_detach_det_skel (ps : List Node) (u u' : KState) (hn : Sk.Nodup u.skel)
    (hdet : ∀ p ∈ ps, ∃ c, (p.key, c, true) ∈ u.skel)
    (h : ps.foldlM (fun s p => s.detach p.key) u = .ok u') :
    u'.skel = u.skel.map (fun t => if (ps.map (·.key)).contains t.1 then (t.1, none, true) else t) := by
  rw [← foldl_map_rows (fun t => (t.1, none, true)) (fun _ => rfl) (fun _ => rfl)]
  induction ps generalizing u with
  | nil => cases h; rfl
  | cons p ps ih =>
    rw [List.foldlM_cons] at h
    obtain ⟨u1, hx, h⟩ := bind_ok_inv h
    obtain ⟨c, hc⟩ := hdet p List.mem_cons_self
    have hu1 : u1.skel = setRow p.key none true u.skel := detach_det_skel hn hc hx
    have hdet1 : ∀ q ∈ ps, ∃ c, (q.key, c, true) ∈ u1.skel := by
      intro q hq
      obtain ⟨c', hc'⟩ := hdet q (List.mem_cons_of_mem _ hq)
      rw [hu1]
      by_cases hqp : q.key = p.key
      · rw [hqp]; exact ⟨none, mem_setRow_self none true ⟨_, hc, rfl⟩⟩
      · exact ⟨c', mem_setRow_of_ne none true hc' hqp⟩
    rw [ih u1 (hu1 ▸ nodup_setRow _ none true hn) hdet1 h, hu1, setRow_eq_map]
    rfl

theorem detachProducts_skel {u u' : KState} {k : Key} (hn : Sk.Nodup u.skel)
    (hdet : ∀ t ∈ u.skel, t.2.1 = some k → t.1 ≠ k → t.2.2 = true)
    (h : u.detachProducts k = .ok u') : u'.skel = cut k u.skel := by
  unfold KState.detachProducts at h
  rw [foldlM_detach_det_skel (u.products k) u u' hn ?_ h]
  · refine List.map_congr_left fun t ht => ?_
    have hiff := List.contains_iff_mem.trans (products_keys_skel hn k ht)
    by_cases hc : t.2.1 = some k ∧ t.1 ≠ k
    · rw [if_pos (hiff.2 hc), if_pos hc]
    · rw [if_neg (mt hiff.1 hc), if_neg hc]
  · intro p hp
    obtain ⟨hp1, hp2, hp3⟩ := mem_products_iff.1 hp
    exact ⟨p.creator, hdet _ (mem_skel_of_mem hp1) hp2 hp3 ▸ mem_skel_of_mem hp1⟩

/-- The root's own rule in `creatorAllowed` does not apply: the root row is never detached. -/
theorem allowed_some_of_detached {s : KState} (hok : Sk.OK s.skel) {k c : Key} {ck : Option Key} {d : Bool}
    (hrow : (k, ck, true) ∈ s.skel) (hall : s.creatorAllowed k (some c) d = true) (hd : d = false ↔ Att s.skel c) :
    c ≠ k ∧ Has s.skel c ∧ creatorKindOk k.kind c.kind = true := by
  rcases creatorAllowed_some hall with ⟨_, hck, hdf⟩ | ⟨_, h1, ⟨_, hcn⟩, h3⟩
  · exact absurd (hck ▸ hd.1 hdf) (not_att_of_detached hok hrow)
  · exact ⟨h1, find?_some_has hcn, h3⟩

theorem reattach_skel {s s' : KState} {k c : Key} (hok : Sk.OK s.skel) (h : s.reattach k c = .ok s') :
    ∃ (ck : Option Key) (d : Bool) (D : Key → Bool), (k, ck, true) ∈ s.skel ∧ c ≠ k ∧ Has s.skel c ∧
      creatorKindOk k.kind c.kind = true ∧ (d = false ↔ Att s.skel c) ∧ Sk.createdBy s.skel k c = false ∧
      (∀ x, D x = true ↔ Desc (setRow k (some c) d s.skel) k x) ∧
      s'.skel = setD D d (setRow k (some c) d s.skel) := by
  obtain ⟨n, hf, hd, hg, h⟩ := reattach_ok h
  obtain ⟨s1, s2, h1, h2, h3⟩ := reattachCore_ok h
  have hn := hok.nodup
  have hrow := find?_row hf
  rw [hd] at hrow
  obtain ⟨hs1, hall⟩ := skel_setCreator h1
  obtain ⟨hck, hhas, hkind⟩ := allowed_some_of_detached hok hrow hall (isDetached_false_iff hn c)
  have hn1 : Sk.Nodup s1.skel := hs1 ▸ nodup_setRow _ _ _ hn
  have hs2 : s2.skel = setRow k (some c) (s.isDetached c) s.skel := (lostProduct_skel _ hn1 h2).trans hs1
  have hn3 : Sk.Nodup (s2.setDetachedRec k (s.isDetached c)).skel := by
    rw [skel_setDetachedRec, hs2]; exact nodup_map _ (setD_key _ _) (nodup_setRow _ _ _ hn)
  refine ⟨_, s.isDetached c, fun x => (s2.descendants k).contains x, hrow, hck, hhas, hkind, isDetached_false_iff hn c,
    createdBy_skel s k c ▸ hg, fun x => ?_, ?_⟩
  · rw [descendants_contains, hs2]
  · rw [flagIfStep_skel k hn3 h3, skel_setDetachedRec, hs2]

theorem deletePass_skel {s : KState} {r : KState × List Key × Bool} (hn : Sk.Nodup s.skel) (h : s.deletePass = .ok r) :
    ∃ D : Key → Bool, (∀ t ∈ s.skel, D t.1 = true → t.2.2 = true) ∧
      (∀ t ∈ s.skel, D t.1 = true → ∀ u ∈ s.skel, u.2.1 = some t.1 → u.1 = t.1) ∧
      r.1.skel = s.skel.filter fun t => !D t.1 := by
  obtain ⟨s', cs, b⟩ := r
  refine ⟨fun x => (s.cands.map (·.key)).contains x, fun t ht hD => ?_, fun t ht hD u hu huc => ?_, skel_deletePass h⟩
  · rw [List.contains_iff_mem, List.mem_map] at hD
    obtain ⟨a, ha, hak⟩ := hD
    obtain ⟨ham, _, hdet, _⟩ := mem_cands s a ha
    have := Sk.uniq hn (mem_skel_of_mem ham) ht hak
    rw [← this]; exact hdet
  · rw [List.contains_iff_mem, List.mem_map] at hD
    obtain ⟨a, ha, hak⟩ := hD
    obtain ⟨m, hm, rfl⟩ := List.mem_map.1 hu
    refine Decidable.byContradiction fun hne => ?_
    exact mem_cands_products s a ha m.core (List.mem_map.2 ⟨m, hm, rfl⟩)
      ⟨show m.creator = some a.key from hak ▸ huc, show m.key ≠ a.key from hak ▸ hne⟩

/-- What `Trellis.create` does to the creator forest: a fresh row, or a recycled one. -/
def Sk.CreateSpec (l l' : List Tri) (k : Key) (creator : Option Key) (d : Bool) : Prop :=
  (d = false ↔ ∃ c, creator = some c ∧ Att l c) ∧
  (∀ c, creator = some c → Has l c ∧ creatorKindOk k.kind c.kind = true) ∧
  ((¬ Has l k ∧ l' = l ++ [(k, creator, d)]) ∨
   (∃ ck, (k, ck, true) ∈ l ∧ FitsRow l k creator d ∧ l' = cut k (setRow k creator d l)))

theorem fitsRow_of_allowed {s : KState} (hok : Sk.OK s.skel) {k : Key} {ck creator : Option Key}
    (hrow : (k, ck, true) ∈ s.skel) (hall : s.creatorAllowed k creator (s.creatorDetached creator) = true) :
    FitsRow s.skel k creator (s.creatorDetached creator) ∧
      (∀ c, creator = some c → Has s.skel c ∧ creatorKindOk k.kind c.kind = true) := by
  have hn := hok.nodup
  have key : ∀ c, creator = some c → c ≠ k ∧ Has s.skel c ∧ creatorKindOk k.kind c.kind = true := by
    intro c hc
    subst hc
    exact allowed_some_of_detached hok hrow hall (isDetached_false_iff hn c)
  exact ⟨⟨fun c hc => ⟨(key c hc).1, (key c hc).2.1⟩, creatorDetached_false_iff hn creator⟩,
    fun c hc => ⟨(key c hc).2.1, (key c hc).2.2⟩⟩

theorem createSpec_of_recycleCore {s s' : KState} {k : Key} {n : Node} {creator : Option Key} {init : Init}
    (hi : InitOK init) (hok : Sk.OK s.skel) (hf : s.find? k = some n) (hd : n.detached = true)
    (h : s.recycleCore k n creator init = .ok s') :
    CreateSpec s.skel s'.skel k creator (s.creatorDetached creator) := by
  have hn := hok.nodup
  have hrow := find?_row hf
  rw [hd] at hrow
  obtain ⟨s1, s2, s3, h1, h2, h3, h⟩ := recycleCore_ok h
  obtain ⟨hs1, hall⟩ := skel_setCreator h1
  obtain ⟨hfits, hkind⟩ := fitsRow_of_allowed hok hrow hall
  have hn1 : Sk.Nodup s1.skel := hs1 ▸ nodup_setRow _ _ _ hn
  have hsd : (s2.deleteDeps fun dp => decide (dp.snk = k)).skel = setRow k creator (s.creatorDetached creator) s.skel := by
    rw [skel_deleteDeps, lostProduct_skel _ hn1 h2, hs1]
  have hs3 : s3.skel = cut k (setRow k creator (s.creatorDetached creator) s.skel) := by
    rw [← hsd]
    refine detachProducts_skel (hsd ▸ hs1 ▸ hn1) ?_ h3
    rw [hsd]
    intro t ht hc hne
    rcases mem_setRow ht with ⟨rfl, _⟩ | ⟨hm, _⟩
    · exact absurd rfl hne
    · exact products_detached hok hrow t hm hc hne
  have hn3 : Sk.Nodup s3.skel := hs3 ▸ nodup_map _ (cut_key k) (nodup_setRow _ _ _ hn)
  have hs' : s'.skel = s3.skel := (frameL_skel s3.skel hn3).initRow_preserves k init true hi s3 s' rfl h
  exact ⟨hfits.2, hkind, Or.inr ⟨_, hrow, hfits, by rw [hs', hs3]⟩⟩

theorem createSpec_of_create {s s' : KState} {k : Key} {creator : Option Key} {init : Init}
    (hi : InitOK init) (hok : Sk.OK s.skel) (h : s.create k creator init = .ok s') :
    CreateSpec s.skel s'.skel k creator (s.creatorDetached creator) := by
  have hn := hok.nodup
  rcases create_ok h with ⟨n, hf, hd, _, h⟩ | ⟨hf, hins, h⟩
  · exact createSpec_of_recycleCore hi hok hf hd h
  · have hna : Sk.Nodup (s.appendNode k creator).skel :=
      (skNodup_iff _).2 (stable_keysNodup.appendNode s k creator hf hins ((skNodup_iff s).1 hn))
    have hs' : s'.skel = (s.appendNode k creator).skel :=
      (frameL_skel _ hna).initRow_preserves k init false hi _ s' rfl h
    refine ⟨creatorDetached_false_iff hn creator, fun c hc => ?_,
      Or.inl ⟨(find?_none_iff s k).1 hf, by rw [hs', skel_appendNode]⟩⟩
    subst hc
    exact insertAllowed_some hins

theorem Sk.CreateSpec.row {l l' : List Tri} {k : Key} {creator : Option Key} {d : Bool} (hex : Exist l)
    (h : CreateSpec l l' k creator d) (hne : creator ≠ some k) {t : Tri} (ht : t ∈ l') :
    (t.1 = k → t.2.1 = creator) ∧ t.2.1 ≠ some k := by
  rcases h.2.2 with ⟨hfresh, rfl⟩ | ⟨_, _, _, rfl⟩
  · rcases List.mem_append.1 ht with hx | hx
    · exact ⟨fun hk => absurd ⟨t, hx, hk⟩ hfresh, fun hc => hfresh (hex t hx k hc)⟩
    · cases List.mem_singleton.1 hx
      exact ⟨fun _ => rfl, hne⟩
  · exact ⟨(mem_cut_setRow ht).1, fun hc => hne ((mem_cut_setRow ht).2 hc)⟩

theorem Sk.att_of_createSpec {l l' : List Tri} (hok : Sk.OK l) {k : Key} {creator : Option Key} {d : Bool}
    (h : CreateSpec l l' k creator d) :
    (∀ x, x ≠ k → (Att l' x ↔ Att l x)) ∧ (Att l' k ↔ ∃ c, creator = some c ∧ Att l c) := by
  obtain ⟨hd, hk, h3⟩ := h
  rcases h3 with ⟨hfresh, rfl⟩ | ⟨ck, hrow, hfits, rfl⟩
  · refine ⟨fun x hx => att_append_ne creator d hx, ?_⟩
    rw [← hd]
    unfold Att
    constructor
    · rintro ⟨t, ht, htk, htd⟩
      simp only [List.mem_append, List.mem_singleton] at ht
      rcases ht with ht | rfl
      · exact absurd ⟨t, ht, htk⟩ hfresh
      · exact htd
    · intro hd'
      exact ⟨(k, creator, d), List.mem_append_right _ (List.mem_singleton.2 rfl), rfl, hd'⟩
  · obtain ⟨_, h2, h3⟩ := ok_recycle hok hrow hfits
    exact ⟨h2, by rw [← hd]; exact h3⟩

/-- `_find_owning_static_tree p = None`, on the triples. -/
def Sk.NoTreeAbove (l : List Tri) (p : String) : Prop :=
  ∀ t ∈ l, t.1.kind = .st → t.2.2 = false → p.startsWith t.1.label = false

/-- What `treeGuard creator path = .ok (some hs)` has established, on the triples. -/
structure Sk.TreeGuard (l : List Tri) (creator : Key) (path : String) (hs : List Key) : Prop where
  rows : ∀ h ∈ hs, h.kind = .file ∧ (h, some creator, false) ∈ l ∧ h.label.startsWith path = true
  all : ∀ t ∈ l, t.1.kind = .file → t.2.2 = false → t.1.label.startsWith path = true → t.1 ∈ hs
  above : Sk.NoTreeAbove l path
  below : ∀ t ∈ l, t.1.kind = .st → t.2.2 = false → t.1.label.startsWith path = false

theorem noTreeAbove_sk {s : KState} {p : String}
    (h : ∀ t ∈ s.nodes, t.key.kind = .st → t.detached = false → p.startsWith t.key.label = false) :
    Sk.NoTreeAbove s.skel p := by
  intro t ht hk hd
  obtain ⟨n, hn, rfl⟩ := List.mem_map.1 ht
  exact h n hn hk hd

theorem treeGuard_sk {s : KState} {creator : Key} {path : String} {hs : List Key}
    (h : s.treeGuard creator path = .ok (some hs)) : Sk.TreeGuard s.skel creator path hs := by
  obtain ⟨hmem, hall, ho, hbelow⟩ := treeGuard_ok_some h
  refine ⟨fun k hk => ?_, fun t ht hk hd hp => ?_, noTreeAbove_sk (owningTree_ok_none ho), fun t ht hk hd => ?_⟩
  · obtain ⟨n, hn, rfl, hkind, hdet, hpre, _, hcr⟩ := hmem k hk
    have := mem_skel_of_mem hn
    rw [Node.tri, hdet, hcr] at this
    exact ⟨hkind, this, hpre⟩
  · obtain ⟨n, hn, rfl⟩ := List.mem_map.1 ht
    exact hall n hn hk hd hp
  · obtain ⟨n, hn, rfl⟩ := List.mem_map.1 ht
    exact hbelow n hn hk hd

/-- The seven rewrites of `SkStableG`, each with what the code has checked of the *values* where it performs it: the
file row of `_declare_file` and of an adoption comes with the answer of `_find_owning_static_tree`, the tree row and
the hand-over of `register_static_tree` with everything `treeGuard` has established.  `D c p`: the declarer `c` may
declare the path `p` (granted by the request; an owning tree and a new tree have it: `ofTree`); `Rr l k c`: the side
condition of re-attaching `k` below `c`.  A `SkStableG` needs none of this (`SkStableG.toV`). -/
structure SkStableV (D : Key → String → Prop) (Rr : List Tri → Key → Key → Prop) (Q : List Tri → Prop) : Prop where
  ok : ∀ l, Q l → Sk.OK l
  detachAtt : ∀ (l : List Tri) (k ck : Key) (D' : Key → Bool), Q l → k ≠ rootKey → (k, some ck, false) ∈ l →
    (∀ x, D' x = true ↔ Desc (setRow k none true l) k x) → Q (setD D' true (setRow k none true l))
  detachDet : ∀ (l : List Tri) (k : Key) (ck : Option Key), Q l → (k, ck, true) ∈ l → Q (setRow k none true l)
  reattach : ∀ (l : List Tri) (k : Key) (ck : Option Key) (c : Key) (d : Bool) (D' : Key → Bool), Q l →
    (k, ck, true) ∈ l → c ≠ k → Has l c → creatorKindOk k.kind c.kind = true → (d = false ↔ Att l c) →
    Sk.createdBy l k c = false → Rr l k c →
    (∀ x, D' x = true ↔ Desc (setRow k (some c) d l) k x) → Q (setD D' d (setRow k (some c) d l))
  /-- `Trellis.create` of a step row, or of a row without creator -/
  createFree : ∀ (l l' : List Tri) (k : Key) (newc : Option Key) (d : Bool), Q l → CreateSpec l l' k newc d →
    (k.kind = .step ∨ newc = none) → Q l'
  /-- `Trellis.create` of a file row for a declarer, after the guards of `_declare_file` -/
  createFile : ∀ (l l' : List Tri) (p : String) (c : Key) (d : Bool), Q l → CreateSpec l l' (fileKey p) (some c) d →
    D c p → (c.kind ≠ .st → Sk.NoTreeAbove l p) → Q l'
  /-- the tree row and the hand-over of `register_static_tree`, after `treeGuard` -/
  treeHand : ∀ (l l1 : List Tri) (creator : Key) (path : String) (hs : List Key) (d : Bool), Q l →
    CreateSpec l l1 (treeKey path) (some creator) d → Sk.TreeGuard l creator path hs → Q (hand (treeKey path) hs l1)
  filter : ∀ (l : List Tri) (D' : Key → Bool), Q l → (∀ t ∈ l, D' t.1 = true → t.2.2 = true) →
    (∀ t ∈ l, D' t.1 = true → ∀ u ∈ l, u.2.1 = some t.1 → u.1 = t.1) → Q (l.filter fun t => !D' t.1)
  ofTree : ∀ (t : Key) (p : String), t.kind = .st → p.startsWith t.label = true → D t p

namespace SkStableG
variable {Q : List Tri → Prop}

theorem q_of_createSpec (L : SkStableG Q) {l l' : List Tri} {k : Key} {creator : Option Key} {d : Bool}
    (hq : Q l) (h : CreateSpec l l' k creator d) : Q l' := by
  obtain ⟨hd, hk, h3⟩ := h
  rcases h3 with ⟨hfresh, rfl⟩ | ⟨ck, hrow, hfits, rfl⟩
  · exact L.append l k creator d hq hfresh hk hd
  · exact L.recycle l k ck creator d hq hrow hfits (fun c hc => (hk c hc).2)

theorem create_preserves (L : SkStableG Q) (k : Key) (creator : Option Key) (init : Init) (hi : InitOK init) :
    Preserves (PQ Q) (fun s => s.create k creator init) :=
  fun _ _ hp h => L.q_of_createSpec hp (createSpec_of_create hi (L.ok _ hp) h)

theorem toV (L : SkStableG Q) : SkStableV (fun _ _ => True) (fun _ _ _ => True) Q :=
  { L with
    reattach := fun l k ck c d D' hq hrow hck hhas hkind hd hg _ hD => L.reattach l k ck c d D' hq hrow hck hhas hkind hd hg hD
    createFree := fun l l' k newc d hq h _ => L.q_of_createSpec hq h
    createFile := fun l l' p c d hq h _ _ => L.q_of_createSpec hq h
    ofTree := fun _ _ _ _ => trivial
    treeHand := fun l l1 creator path hs d hq hspec hg => by
      have hq1 : Q l1 := L.q_of_createSpec hq hspec
      cases hs with
      | nil => rw [hand_nil]; exact hq1
      | cons h0 hs0 =>
        have hok := L.ok _ hq
        obtain ⟨hatt_ne, hatt_k⟩ := att_of_createSpec hok hspec
        -- the rows handed over are attached files of `creator`, so `creator` is attached
        have hcreator : Att l creator := by
          obtain ⟨hkind, hrow, _⟩ := hg.rows h0 List.mem_cons_self
          exact att_creator hok.nodup hok.loc hrow (fun hr => by rw [hr] at hkind; cases hkind) ⟨_, hrow, rfl, rfl⟩
        refine L.hand _ _ _ hq1 (hatt_k.2 ⟨creator, rfl, hcreator⟩) rfl (fun h hh => (hg.rows h hh).1) ?_
        intro t ht hth
        obtain ⟨hkind, hrow, _⟩ := hg.rows t.1 hth
        have hne : t.1 ≠ treeKey path := by intro he; rw [he] at hkind; cases hkind
        exact (att_iff_of_mem (L.ok _ hq1).nodup ht).1 ((hatt_ne t.1 hne).2 ⟨_, hrow, rfl, rfl⟩) }

end SkStableG

namespace SkStableV
variable {D : Key → String → Prop} {Rr : List Tri → Key → Key → Prop} {Q : List Tri → Prop}

theorem nodup (L : SkStableV D Rr Q) {s : KState} (hp : PQ Q s) : Sk.Nodup s.skel := (L.ok _ hp).nodup

theorem toFrame (L : SkStableV D Rr Q) : FrameL (PQ Q) :=
  frameL_of_skel (fun _ hp => L.nodup hp) (fun _ _ h hp => pq_of_skel h hp)

theorem detach_preserves (L : SkStableV D Rr Q) (k : Key) : Preserves (PQ Q) (fun s => s.detach k) := by
  intro s s' hp h
  obtain ⟨n, s1, hf, h1, h2⟩ := detach_ok h
  refine L.toFrame.toW.detachFlags_preserves rfl k s1 s' ?_ h2
  unfold PQ at *
  have hrow := find?_row hf
  rcases detachCore_skel hf h1 with ⟨_, e⟩ | ⟨ck, hc, hd, e⟩ | ⟨ck, D', hc, hd, hk, hD, e⟩
  · rw [e]; exact hp
  · rw [e]; rw [hd] at hrow; exact L.detachDet _ k _ hp hrow
  · rw [e]; rw [hc, hd] at hrow; exact L.detachAtt _ k ck D' hp hk hrow hD

theorem reattach_preserves (L : SkStableV D Rr Q) (k c : Key) (s s' : KState) (hR : Rr s.skel k c) (hp : PQ Q s)
    (h : s.reattach k c = .ok s') : PQ Q s' := by
  obtain ⟨ck, d, D', hrow, hck, hhas, hkind, hd, hg, hD, e⟩ := reattach_skel (L.ok _ hp) h
  exact (congrArg Q e).mpr (L.reattach _ k ck c d D' hp hrow hck hhas hkind hd hg hR hD)

theorem createFree_preserves (L : SkStableV D Rr Q) (k : Key) (creator : Option Key) (init : Init) (hi : InitOK init)
    (hk : k.kind = .step ∨ creator = none) : Preserves (PQ Q) (fun s => s.create k creator init) :=
  fun _ _ hp h => L.createFree _ _ k creator _ hp (createSpec_of_create hi (L.ok _ hp) h) hk

theorem createFile_preserves (L : SkStableV D Rr Q) (p : String) (c : Key) (st : FileState) (hi : NoHashState st)
    (hD : D c p) (s s' : KState) (ha : c.kind ≠ .st → Sk.NoTreeAbove s.skel p) (hp : PQ Q s)
    (h : s.create (fileKey p) (some c) (.file st) = .ok s') : PQ Q s' :=
  L.createFile _ _ p c _ hp (createSpec_of_create (init := .file st) hi (L.ok _ hp) h) hD ha

theorem treeCreateHandOver_pq (L : SkStableV D Rr Q) {s s1 : KState} {creator : Key} {path : String} {hs : List Key}
    (hp : PQ Q s) (hg : s.treeGuard creator path = .ok (some hs))
    (h1 : s.create (treeKey path) (some creator) .tree = .ok s1) : PQ Q (s1.handOver (treeKey path) hs) := by
  unfold PQ
  rw [skel_handOver]
  exact L.treeHand _ _ creator path hs _ hp (createSpec_of_create (init := .tree) trivial (L.ok _ hp) h1) (treeGuard_sk hg)

theorem deletePass_preserves (L : SkStableV D Rr Q) (s : KState) (r : KState × List Key × Bool) (hp : PQ Q s)
    (h : s.deletePass = .ok r) : PQ Q r.1 := by
  obtain ⟨D', h1, h2, e⟩ := deletePass_skel (L.nodup hp) h
  exact (congrArg Q e).mpr (L.filter _ D' hp h1 h2)

theorem declareFile_preserves (L : SkStableV D Rr Q) (cfg : KConfig) (creator : Key) (p : String) (st : FileState)
    (hD : D creator p) : Preserves (PQ Q) (fun s => s.declareFile cfg creator p st) := by
  intro s s' hp h
  obtain ⟨s1, hg, h1, h⟩ := declareFile_ok h
  obtain ⟨hd, _, ht, _⟩ := declareFileGuard_ok hg
  exact volatileSinkCheck_ok h ▸ L.createFile_preserves p creator st (declarable_noHash hd) hD s s1
    (fun hk => noTreeAbove_sk (owningTree_ok_none (ht hk))) hp h1

theorem toCall (L : SkStableV D Rr Q) :
    CallL (fun c p _ => D c p) (fun s sk c => Rr s.skel sk c) (fun _ _ => True) (PQ Q) where
  payload s p f hf := L.toFrame.cache s p f hf.payloadOnly.cacheOnly
  setDynamic := L.toFrame.toW.setDynamic rfl
  insertDep a b _ s s' _ := L.toFrame.insertDep_preserves a b s s'
  declareStatic cfg c p hD := L.declareFile_preserves cfg c p .unconfirmed hD
  declareProduct cfg step p st _ hD s _ hp h :=
    preserves_bind (L.declareFile_preserves cfg step p st hD)
      (L.toFrame.toW.addSourceChecked_preserves _ _ (depW_of (by decide) _)) s _ hp h
  adopt s s' p t ht hp h := L.createFile_preserves p t .unconfirmed (.inr (.inl rfl))
    (L.ofTree t p (owningTree_ok_some ht).1 (owningTree_ok_some ht).2) s s' (fun hk => absurd (owningTree_ok_some ht).1 hk) hp h
  placeholder _ := L.createFree_preserves _ none (.file .undeclared) (.inl rfl) (.inr rfl)
  createStep _ _ i _ := L.createFree_preserves _ _ (.step i) trivial (.inl rfl)
  stepExtras _ _ _ := L.toFrame.setStepExtras
  recycleStep _ c d n s s' hR hp h := by
    obtain ⟨s1, h1, h⟩ := bind_ok_inv h
    obtain ⟨s3, h3, h⟩ := bind_ok_inv h
    cases h
    exact L.toFrame.setStepExtras _ _ _
      (L.toFrame.toW.afterRecycle_preserves (by decide) _ d n s1 s3 (L.reattach_preserves _ c s s1 hR hp h1) h3)
  treeCreateHandOver := L.treeCreateHandOver_pq
  ofTree _ p t h := L.ofTree t p (owningTree_ok_some h).1 (owningTree_ok_some h).2
  ofUnder _ path p h := L.ofTree (treeKey path) p rfl (mem_detachedFilesUnder h)

/-- `hr`: the request grants what the leaves `createFile` and `reattach` ask (`D`, `Rr`). -/
theorem exec (L : SkStableV D Rr Q) (cfg : KConfig) (r : Req) (s : KState) (res : KState × String)
    (hr : CallOK (fun c p _ => D c p) (fun s sk c => Rr s.skel sk c) (fun _ _ => True) s r)
    (hp : PQ Q s) (h : s.exec cfg r = .ok res) : PQ Q res.1 :=
  exec_of_frame_call L.toFrame.toW (by decide) L.toCall L.detach_preserves L.deletePass_preserves cfg r s res hr
    (fun _ _ _ _ _ _ _ _ _ _ => trivial) (fun _ _ => trivial) (fun _ _ => trivial) hp h

end SkStableV

namespace SkStableG
variable {Q : List Tri → Prop}

theorem detach_preserves (L : SkStableG Q) (k : Key) : Preserves (PQ Q) (fun s => s.detach k) := L.toV.detach_preserves k

theorem detachProducts_preserves (L : SkStableG Q) (k : Key) : Preserves (PQ Q) (fun s => s.detachProducts k) :=
  fun s => detachAll_of L.detach_preserves (s.products k) s

theorem toCall (L : SkStableG Q) : CallL (fun _ _ _ => True) (fun _ _ _ => True) (fun _ _ => True) (PQ Q) := L.toV.toCall

theorem deleteDetached_preserves (L : SkStableG Q) : Preserves (PQ Q) (fun s => s.deleteDetached) :=
  L.toV.toFrame.toW.deleteDetached_of_detach rfl L.detach_preserves L.toV.deletePass_preserves

end SkStableG

theorem SkStableG.execInv {Q : List Tri → Prop} (L : SkStableG Q) : ExecInv (fun _ _ => True) (PQ Q) :=
  fun cfg r s res _ hp h => L.toV.exec cfg r s res (callOK_trivial s r) hp h

namespace SkStable
variable {Q : List Tri → Prop}

theorem detachProducts_preserves (L : SkStable Q) (k : Key) : Preserves (PQ Q) (fun s => s.detachProducts k) :=
  L.toG.detachProducts_preserves k

end SkStable

end StepupModel.K
