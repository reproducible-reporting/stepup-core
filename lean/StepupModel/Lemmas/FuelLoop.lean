/-!
# Fuelled loops

The refresh loops of the scheduler model (`KState.updateMetaSafe.go`, `KState.afterLoop`) and the walk over the step
subtree (`KState.stepSubtree.go`) are
`while ¬ done x do x := next x; return out x` with a fuel counter: `none` when the fuel runs out.
What such a loop returns is proved once here, from an invariant of the body; that it returns
something, from a bound on the number of rounds.
-/
namespace StepupModel

structure FuelLoop {σ τ : Type} (f : Nat → σ → Option τ) (done : σ → Bool) (next : σ → σ) (out : σ → τ) : Prop where
  zero : ∀ x, f 0 x = if done x then some (out x) else none
  succ : ∀ n x, f (n + 1) x = if done x then some (out x) else f n (next x)

namespace FuelLoop
variable {σ τ : Type} {f : Nat → σ → Option τ} {done : σ → Bool} {next : σ → σ} {out : σ → τ}

theorem result (L : FuelLoop f done next out) (I : σ → Prop) (hnext : ∀ x, I x → done x = false → I (next x))
    {n : Nat} {x : σ} {y : τ} (hx : I x) (h : f n x = some y) : ∃ z, I z ∧ done z = true ∧ y = out z := by
  induction n generalizing x with
  | zero =>
    rw [L.zero] at h
    cases hd : done x with
    | true => rw [hd] at h; exact ⟨x, hx, hd, (Option.some.inj h).symm⟩
    | false => rw [hd] at h; cases h
  | succ n ih =>
    rw [L.succ] at h
    cases hd : done x with
    | true => rw [hd] at h; exact ⟨x, hx, hd, (Option.some.inj h).symm⟩
    | false => rw [hd] at h; exact ih (hnext x hx hd) h

/-- `I r x`: the state `x` can be reached in round `r`; `N` bounds the number of rounds. -/
theorem terminates (L : FuelLoop f done next out) (I : Nat → σ → Prop) (N : Nat)
    (hnext : ∀ r x, I r x → done x = false → I (r + 1) (next x)) (hbound : ∀ r x, I r x → done x = false → r < N)
    {n r : Nat} {x : σ} (hx : I r x) (hn : N ≤ r + n) : ∃ y, f n x = some y := by
  induction n generalizing r x with
  | zero =>
    rw [L.zero]
    cases hd : done x with
    | true => exact ⟨_, rfl⟩
    | false => have := hbound r x hx hd; omega
  | succ n ih =>
    rw [L.succ]
    cases hd : done x with
    | true => exact ⟨_, rfl⟩
    | false => exact ih (hnext r x hx hd) (by omega)

end FuelLoop

/-- `k` heads a chain of `r` further members of `keys`, each `R`-related to all that follow it.  For a
transitive irreflexive `R` there are `r + 1` different members on it, so `r < #keys`: the reason why
every walk of the model along creator links or dependency paths ends within `#rows` rounds. -/
def Deep {κ : Type} (R : κ → κ → Prop) (keys : List κ) (r : Nat) (k : κ) : Prop :=
  ∃ c : List κ, c.length = r ∧ (k :: c).Pairwise R ∧ ∀ x ∈ k :: c, x ∈ keys

namespace Deep
variable {κ : Type} {R : κ → κ → Prop} {keys : List κ}

theorem zero {k : κ} (hk : k ∈ keys) : Deep R keys 0 k :=
  ⟨[], rfl, List.pairwise_singleton _ _, fun x hx => by rw [List.mem_singleton.1 hx]; exact hk⟩

theorem succ (htrans : ∀ a b c, R a b → R b c → R a c) {r : Nat} {k k' : κ} (h : Deep R keys r k) (hR : R k' k)
    (hk : k' ∈ keys) : Deep R keys (r + 1) k' := by
  obtain ⟨c, hc, hp, hsub⟩ := h
  refine ⟨k :: c, by rw [List.length_cons, hc], List.pairwise_cons.2 ⟨fun x hx => ?_, hp⟩, fun x hx => ?_⟩
  · rcases List.mem_cons.1 hx with rfl | hx
    · exact hR
    · exact htrans _ _ _ hR ((List.pairwise_cons.1 hp).1 x hx)
  · rcases List.mem_cons.1 hx with rfl | hx
    · exact hk
    · exact hsub x hx

theorem lt (hirr : ∀ a, ¬ R a a) {r : Nat} {k : κ} (h : Deep R keys r k) : r < keys.length := by
  obtain ⟨c, hc, hp, hsub⟩ := h
  have := List.Nodup.length_le_of_subset (hp.imp fun {a b} (p : R a b) (hab : a = b) => hirr a (hab ▸ p)) hsub
  rw [List.length_cons, hc] at this
  exact this

end Deep

theorem FuelLoop.terminates_deep {σ τ κ : Type} {f : Nat → σ → Option τ} {done : σ → Bool} {next : σ → σ} {out : σ → τ}
    (L : FuelLoop f done next out) (front : σ → List κ) {R : κ → κ → Prop} (hirr : ∀ a, ¬ R a a) (keys : List κ)
    (I : σ → Prop) (hne : ∀ x, done x = false → front x ≠ [])
    (hnext : ∀ r x, I x → (∀ k ∈ front x, Deep R keys r k) → done x = false →
      I (next x) ∧ ∀ k ∈ front (next x), Deep R keys (r + 1) k)
    {n r : Nat} {x : σ} (hx : I x) (hd : ∀ k ∈ front x, Deep R keys r k) (hn : keys.length ≤ r + n) :
    ∃ y, f n x = some y :=
  L.terminates (fun r x => I x ∧ ∀ k ∈ front x, Deep R keys r k) keys.length
    (fun r x hx hdone => hnext r x hx.1 hx.2 hdone)
    (fun r x hx hdone => by
      cases hf : front x with
      | nil => exact absurd hf (hne x hdone)
      | cons k _ => exact (hx.2 k (hf ▸ List.mem_cons_self)).lt hirr)
    ⟨hx, hd⟩ hn

inductive Walk {α : Type} (seeds : List α) (Rel : α → α → Prop) : α → Prop
  | seed {x : α} : x ∈ seeds → Walk seeds Rel x
  | next {y x : α} : Walk seeds Rel y → Rel y x → Walk seeds Rel x

/-- A `UNION ALL` recursion over (frontier, rows so far), as `KState.stepSubtree.go` and `KState.updateMetaSafe.go`
run it.  The invariant: all rows are reached, the seeds are among them, and a row is in the frontier or has its
successors among them. -/
theorem FuelLoop.frontier {α : Type} {go : Nat → List α → List α → Option (List α)} {expand : List α → List α}
    (L : FuelLoop (fun fuel (x : List α × List α) => go fuel x.1 x.2) (·.1.isEmpty)
      (fun x => (expand x.1, x.2 ++ expand x.1)) (·.2))
    {Rel : α → α → Prop} (hexp : ∀ fr x, x ∈ expand fr ↔ ∃ y ∈ fr, Rel y x)
    {fuel : Nat} {seeds ks : List α} (h : go fuel seeds seeds = some ks) (x : α) : x ∈ ks ↔ Walk seeds Rel x := by
  obtain ⟨z, ⟨_, hacc, hseeds, hclosed⟩, hdone, rfl⟩ := L.result
    (fun z => (∀ r ∈ z.1, Walk seeds Rel r) ∧ (∀ r ∈ z.2, Walk seeds Rel r) ∧ (∀ r ∈ seeds, r ∈ z.2) ∧
      ∀ r ∈ z.2, r ∈ z.1 ∨ ∀ q, Rel r q → q ∈ z.2)
    (by
      intro z ⟨h1, h2, h3, h4⟩ _
      have hnext : ∀ q ∈ expand z.1, Walk seeds Rel q := fun q hq =>
        have ⟨r, hr, hrq⟩ := (hexp _ q).1 hq
        .next (h1 r hr) hrq
      refine ⟨hnext, fun r hr => (List.mem_append.1 hr).elim (h2 r) (hnext r),
        fun r hr => List.mem_append.2 (.inl (h3 r hr)), fun r hr => ?_⟩
      rcases List.mem_append.1 hr with hr | hr
      · refine .inr fun q hq => List.mem_append.2 ?_
        rcases h4 r hr with h | h
        · exact .inr ((hexp _ q).2 ⟨r, h, hq⟩)
        · exact .inl (h q hq)
      · exact .inl hr)
    (x := (seeds, seeds)) ⟨fun _ => .seed, fun _ => .seed, fun _ hr => hr, fun _ hr => .inl hr⟩ h
  have hnil : z.1 = [] := List.isEmpty_iff.1 hdone
  refine ⟨hacc x, fun hw => ?_⟩
  induction hw with
  | seed hs => exact hseeds _ hs
  | next _ hr ih => exact ((hclosed _ ih).resolve_left (by rw [hnil]; exact List.not_mem_nil)) _ hr

end StepupModel
