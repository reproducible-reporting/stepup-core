import StepupModel.Lemmas.MetaAfter
/-!
# The `define use` situation

The state on which the strict flag discipline `CacheInvAfter` fails and the weak one, `CacheInvAfterW`,
under which `Lemmas/MetaAfter.lean` proves its results, holds.
-/
namespace StepupModel.K.MetaAfter

/-- `gen → d/c.txt` was consistent and unflagged; then `use` was defined with input `d/c.txt`: the
new edge flags its endpoint `use` only.  `gen` is unflagged and its local equation fails (it now has
the DEFAULT consumer `use`). -/
def useState : KState :=
  { nodes := [
      { key := rootKey, creator := some rootKey },
      { key := stepKey "gen", creator := some rootKey, need := .optional, impliedNeed := .optional, tail := 1,
        checkAfter := false },
      { key := fileKey "d/c.txt", creator := some (stepKey "gen"), fstate := .built, fhash := some 1 },
      { key := stepKey "use", creator := some rootKey, need := .default, checkAfter := true }],
    deps := [
      { src := stepKey "gen", snk := fileKey "d/c.txt" }, { src := fileKey "d/c.txt", snk := stepKey "use" }] }

/-- The run repairs `gen` in its second round. -/
example : KeysUnique useState ∧ Acyclic useState ∧ ¬ CacheInvAfter useState {} ∧ CacheInvAfterW useState {} ∧
    ((useState.updateMetaAfter {}).toOption.map exCols) =
      some [("gen", .default, 2, false), ("use", .default, 1, false)] := by
  decide +kernel

/-- The weak discipline is needed too: `staleState` violates it as well. -/
example : ¬ CacheInvAfterW staleState {} := by
  decide +kernel

end StepupModel.K.MetaAfter
