import StepupModel.Lemmas.DisciplineCreate
import StepupModel.Lemmas.ReachLift
import StepupModel.Lemmas.SoftCall
/-!
# The flag discipline through the declaring requests and `delete_detached`

`TI cfg s`, the three invariants together: the weak flag discipline, the structural invariant `Struct` and the
creator forest `Forest` (`Lemmas/Reach.lean`).  The leaves are `Trellis.create`, `Node.reattach`,
`INSERT INTO dependency` and the soft writes; the composites thread the side conditions these need
through the declaring requests (`Mono`: no row is lost, so the endpoints of a new dependency row exist;
`Declared`: a file that gets an edge from a step is owned by it).  This context, about keys that the
request itself creates, is what keeps `TI` from being an instance of `Lemmas/WorkflowChain.lean`.

`Workflow.delete_detached` detaches the unused files of the attached static trees (`Node.detach` of
files whose creator is a tree: no step has an edge into them) and then removes, pass by pass, the
detached rows without products and without outgoing dependency rows.  Removing such a row deletes its
incoming dependency rows first (the trigger flags their sources); the row itself is read by no local
equation, because it is detached.
-/
namespace StepupModel.K.Discipline
open StepupModel.K.MetaAfter StepupModel.K.Sk

structure TI (cfg : KConfig) (s : KState) : Prop where
  disc : CacheInvAfterW s cfg
  st : Struct s
  fo : Forest s

def Has (s : KState) (x : Key) : Prop := (s.find? x).isSome = true

theorem has_of_optRel {R : Node → Node → Prop} {s s' : KState} {x : Key} (h : OptRel R (s.find? x) (s'.find? x))
    (hx : Has s x) : Has s' x := (optRel_isSome h).trans hx

theorem has_soft {s s' : KState} (h : SoftRel s s') {x : Key} (hx : Has s x) : Has s' x := has_of_optRel (h.find? x) hx

def Mono (s s' : KState) : Prop := ∀ x, Has s x → Has s' x

theorem Mono.refl (s : KState) : Mono s s := fun _ h => h

theorem Mono.trans {a b c : KState} (h1 : Mono a b) (h2 : Mono b c) : Mono a c := fun x hx => h2 x (h1 x hx)

theorem CInv.mono {k : Key} {creator : Option Key} {s s' : KState} (h : CInv k creator s s') : Mono s s' := by
  intro x hx
  by_cases hxk : x = k
  · exact hxk ▸ h.has
  · exact has_of_optRel (h.keep.find x hxk) hx

theorem TI.soft {cfg : KConfig} {s s' : KState} (h : TI cfg s) (hr : SoftRel s s') : TI cfg s' :=
  ⟨cacheInvW_soft cfg hr h.disc, struct_of_rel hr.struct h.st, forest_of_skel (skel_of_soft hr) h.fo⟩

theorem TI.of_soft {cfg : KConfig} {s s' : KState} {f : KState → M KState} (hf : ∀ t, Preserves (SP t) f)
    (h : TI cfg s) (hs : f s = .ok s') : TI cfg s' ∧ SoftRel s s' :=
  have hr := softRel_of_sp hf h.st.keys hs
  ⟨h.soft hr, hr⟩

theorem SoftRel.mono {s s' : KState} (h : SoftRel s s') : Mono s s' := fun _ => has_soft h

theorem TI.payload {cfg : KConfig} {s : KState} (h : TI cfg s) (k : Key) {f : Node → Node} (hf : PayloadOnly f) :
    TI cfg (s.modify k f) ∧ Mono s (s.modify k f) :=
  have hr := softRel_modify s k (softFn_quiet (softQuiet_of_payload hf))
  ⟨h.soft hr, hr.mono⟩

theorem TI.create_cinv {cfg : KConfig} {s s' : KState} {k : Key} {creator : Option Key} {init : Init} (h : TI cfg s)
    (hi : InitOK init) (hkind : InitKind k init) (hkroot : k.kind ≠ .root)
    (hc : s.create k creator init = .ok s') :
    TI cfg s' ∧ CInv k creator s s' ∧
      (∀ st, init = .file st → (st = .planned ∨ st = .volatile) →
        ∀ nk, s'.find? k = some nk → nk.fstate.role? ≠ some .static) := by
  obtain ⟨hci, _, hrole, _⟩ := create_spec h.st hc
  exact ⟨⟨cacheInvW_of_wd (create_wd h.st h.fo hkind hc (wd_of_cacheInvW _ h.disc)), create_struct h.st hi hkroot hc,
    create_forest k creator init hi s s' h.fo hc⟩, hci, hrole⟩

theorem TI.create {cfg : KConfig} {s s' : KState} {k : Key} {creator : Option Key} {init : Init} (h : TI cfg s)
    (hi : InitOK init) (hkind : InitKind k init) (hkroot : k.kind ≠ .root)
    (hc : s.create k creator init = .ok s') :
    TI cfg s' ∧ (∀ x, Has s x → Has s' x) ∧ Has s' k ∧
      (∀ nk, s'.find? k = some nk → nk.creator = creator ∨ nk.creator = none) ∧
      (∀ st, init = .file st → (st = .planned ∨ st = .volatile) →
        ∀ nk, s'.find? k = some nk → nk.fstate.role? ≠ some .static) :=
  have ⟨hT, hci, hrole⟩ := h.create_cinv hi hkind hkroot hc
  ⟨hT, hci.mono, hci.has, hci.cr, hrole⟩

theorem Struct.addDep {s : KState} (hS : Struct s) {a b : Key} (hkind : depKindOk a.kind b.kind = true) (ha : Has s a)
    (hb : Has s b) (hown : a.kind = .step → ∀ f, s.find? b = some f →
      (∀ c, f.creator = some c → c = a) ∧ f.fstate.role? ≠ some .static) :
    Struct { s with deps := s.deps ++ [({ src := a, snk := b } : Dep)] } :=
  ⟨hS.keys, List.forall_mem_append.2 ⟨hS.own, List.forall_mem_singleton.2 hown⟩, hS.kinds, hS.root,
    List.forall_mem_append.2 ⟨hS.dkinds, List.forall_mem_singleton.2 hkind⟩,
    List.forall_mem_append.2 ⟨hS.closed, List.forall_mem_singleton.2 ⟨ha, hb⟩⟩, hS.roots⟩

theorem TI.insertDep {cfg : KConfig} {s s' : KState} {a b : Key} (h : TI cfg s) (ha : Has s a) (hb : Has s b)
    (hown : a.kind = .step → ∀ f, s.find? b = some f →
      (∀ c, f.creator = some c → c = a) ∧ f.fstate.role? ≠ some .static)
    (hc : s.insertDep a b = .ok s') : TI cfg s' ∧ (∀ x, Has s x → Has s' x) := by
  obtain ⟨_, hkind, rfl⟩ := insertDep_ok hc
  have hfl := flagDepEndpoints_rel { s with deps := s.deps ++ [({ src := a, snk := b } : Dep)] } a b
  exact ⟨⟨cacheInvW_of_wd (insertDep_wd hc (wd_of_cacheInvW _ h.disc)), struct_of_rel hfl.struct (h.st.addDep hkind ha hb hown),
    forest_of_skel (skel_of_soft hfl) (forest_of_skel rfl h.fo)⟩, fun x hx => has_soft hfl hx⟩

/-- What is known of the row of a file that has just been declared for `creator`: what `TI.insertDep` asks of the
sink of an edge from a step (`declareProducts_ti`). -/
structure Declared (s : KState) (creator : Option Key) (k : Key) (st : FileState) : Prop where
  has : Has s k
  owner : ∀ nk, s.find? k = some nk → nk.creator = creator ∨ nk.creator = none
  notStatic : (st = .planned ∨ st = .volatile) → ∀ nk, s.find? k = some nk → nk.fstate.role? ≠ some .static

theorem fileKey_kind (p : String) : (fileKey p).kind = .file := rfl

theorem stepKey_kind (l : String) : (stepKey l).kind = .step := rfl

theorem treeKey_kind (l : String) : (treeKey l).kind = .st := rfl

theorem TI.createFile {cfg : KConfig} {s s' : KState} {p : String} {creator : Option Key} {st : FileState} (h : TI cfg s)
    (hst : NoHashState st) (hc : s.create (fileKey p) creator (.file st) = .ok s') :
    TI cfg s' ∧ Mono s s' ∧ Declared s' creator (fileKey p) st := by
  obtain ⟨hT, hm, hh, hcr, hrole⟩ := h.create (init := .file st) hst
    (by show (fileKey p).kind ≠ .step; rw [fileKey_kind]; intro hh; cases hh)
    (by rw [fileKey_kind]; intro hh; cases hh) hc
  exact ⟨hT, hm, hh, hcr, fun hs => hrole st rfl hs⟩

theorem declareFile_ti {cfg : KConfig} {s s' : KState} {creator : Key} {p : String} {st : FileState} (h : TI cfg s)
    (hc : s.declareFile cfg creator p st = .ok s') :
    TI cfg s' ∧ Mono s s' ∧ Declared s' (some creator) (fileKey p) st := by
  obtain ⟨s1, hg, h1, h2⟩ := declareFile_ok hc
  exact volatileSinkCheck_ok h2 ▸ h.createFile (declarable_noHash (declareFileGuard_ok hg).1) h1

theorem declareStaticFiles_ti {cfg : KConfig} {s : KState} {creator : Key} {paths : List String} {r : KState × List String}
    (h : TI cfg s) (hc : s.declareStaticFiles cfg creator paths = .ok r) : TI cfg r.1 ∧ Mono s r.1 := by
  obtain ⟨todo, _, ha, _⟩ := declareStaticFiles_ok hc
  refine foldlM_keeps (fun t => TI cfg t ∧ Mono s t) _ todo (fun a x b _ ⟨ha, hma⟩ hb => ?_) s r.1 ⟨h, Mono.refl s⟩ ha
  obtain ⟨hT, hm, _⟩ := declareFile_ti ha hb
  exact ⟨hT, hma.trans hm⟩

theorem resolveNode_ti {cfg : KConfig} {s : KState} {path : String} {r : KState × FileState × Bool}
    (h : TI cfg s) (hc : s.resolveNode cfg path = .ok r) : TI cfg r.1 ∧ Mono s r.1 ∧ Has r.1 (fileKey path) := by
  have created : ∀ {c st}, NoHashState st → s.create (fileKey path) c (.file st) = .ok r.1 →
      TI cfg r.1 ∧ Mono s r.1 ∧ Has r.1 (fileKey path) := fun hst h1 =>
    have ⟨hT, hm, hd⟩ := h.createFile hst h1
    ⟨hT, hm, hd.has⟩
  rcases resolveNode_ok hc with ⟨t, _, _, _, h1, _⟩ | ⟨_, h1, _⟩ | ⟨n, hf, _, _, rfl⟩
  · exact created (.inr (.inl rfl)) h1
  · exact created (.inl rfl) h1
  · exact ⟨h, Mono.refl s, by unfold Has; rw [hf]; rfl⟩

theorem resolveAll_ti {cfg : KConfig} {s : KState} {step : Key} {paths : List String} {rn : Bool} {r : KState × List Supply}
    (h : TI cfg s) (hc : s.resolveAll cfg step paths rn = .ok r) :
    TI cfg r.1 ∧ Mono s r.1 ∧ ∀ i ∈ r.2, Has r.1 i.file ∧ i.file.kind = .file := by
  refine foldlM_keeps (fun (a : KState × List Supply) => TI cfg a.1 ∧ Mono s a.1 ∧ ∀ i ∈ a.2, Has a.1 i.file ∧ i.file.kind = .file)
    _ paths (fun a x b _ ⟨ha, hma, hia⟩ hb => ?_) (s, []) r ⟨h, Mono.refl s, fun _ hi => nomatch hi⟩ hc
  obtain ⟨c, hc', hb⟩ := bind_ok_inv hb
  cases pure_ok_iff.1 hb
  obtain ⟨st, det, h1, _, hi⟩ := resolveSupply_ok hc'
  obtain ⟨hT, hm, hh⟩ := resolveNode_ti ha h1
  refine ⟨hT, hma.trans hm, fun j hj => ?_⟩
  rcases List.mem_append.1 hj with hj | hj
  · exact ⟨hm _ (hia j hj).1, (hia j hj).2⟩
  · cases List.mem_singleton.1 hj
    rw [hi]
    exact ⟨hh, rfl⟩

theorem supplyFiles_ti {cfg : KConfig} {s : KState} {step : Key} {paths : List String} {rn : Bool} {r : KState × List Supply}
    (h : TI cfg s) (hstep : Has s step) (hc : s.supplyFiles cfg step paths rn = .ok r) : TI cfg r.1 ∧ Mono s r.1 := by
  obtain ⟨s1, ha, _, h2⟩ := supplyFiles_ok hc
  obtain ⟨hT, hm, hia⟩ := resolveAll_ti h ha
  have := foldlM_keeps (fun t => TI cfg t ∧ Mono s1 t) (fun (st : KState) (i : Supply) => st.insertDep i.file step)
    _ (fun st i st' hi ⟨hst, hm'⟩ hd => ?_) s1 r.1 ⟨hT, Mono.refl _⟩ h2
  · exact ⟨this.1, hm.trans this.2⟩
  · have hi' := hia i (List.mem_filter.1 hi).1
    obtain ⟨hT', hm''⟩ := hst.insertDep (hm' _ hi'.1) (hm' _ (hm _ hstep)) (fun hk => by rw [hi'.2] at hk; cases hk) hd
    exact ⟨hT', hm'.trans hm''⟩

theorem declareProducts_ti {cfg : KConfig} {step : Key} (ps : List String) {st : FileState}
    (hst : st = .planned ∨ st = .volatile) :
    ∀ s s' : KState, TI cfg s → Has s step → s.declareProducts cfg step ps st = .ok s' → TI cfg s' ∧ Mono s s' := by
  intro s s' h hstep hc
  refine foldlM_keeps (fun t => TI cfg t ∧ Mono s t) (fun (acc : KState) (p : String) => acc.declareProduct cfg step p st)
    ps (fun a p b _ ⟨ha, hma⟩ hb => ?_) s s' ⟨h, Mono.refl s⟩ hc
  obtain ⟨s1, h1, _, hb⟩ := declareProduct_ok hb
  obtain ⟨hT1, hm1, hh, hcr, hrole⟩ := declareFile_ti ha h1
  have hown : step.kind = .step → ∀ f, s1.find? (fileKey p) = some f →
      (∀ c, f.creator = some c → c = step) ∧ f.fstate.role? ≠ some .static := by
    refine fun _ f hf => ⟨fun c hcc => ?_, hrole hst f hf⟩
    rcases hcr f hf with hx | hx
    · rw [hx] at hcc; cases hcc; rfl
    · rw [hx] at hcc; cases hcc
  obtain ⟨hT, hm⟩ := hT1.insertDep (hm1 _ (hma _ hstep)) hh hown hb
  exact ⟨hT, hma.trans (hm1.trans hm)⟩

theorem reattach_flags_self {s s' : KState} {k c : Key} (hkstep : k.kind = .step)
    (h : s.reattach k c = .ok s') : ∀ n' ∈ s'.nodes, n'.key = k → n'.checkAfter = true := by
  obtain ⟨n, _, _, _, h⟩ := reattach_ok h
  obtain ⟨s1, s2, _, _, h3⟩ := reattachCore_ok h
  obtain ⟨_, h3⟩ := (flagIfStep_ok h3).resolve_left fun h => h.1 hkstep
  exact fun n' hn' hk' => (flagChecksWithProducts_self h3 hkstep n' hn' hk').2

theorem TI.reattach {cfg : KConfig} {s s' : KState} {k c : Key} (h : TI cfg s) (hkstep : k.kind = .step)
    (hc : s.reattach k c = .ok s') :
    TI cfg s' ∧ Mono s s' ∧ ∀ n' ∈ s'.nodes, n'.key = k → n'.checkAfter = true := by
  obtain ⟨hci, _, _⟩ := reattach_spec h.st hkstep hc
  exact ⟨⟨cacheInvW_of_wd (reattach_wd h.st h.fo hkstep hc (wd_of_cacheInvW _ h.disc)), reattach_struct h.st hkstep hc,
    reattach_forest k c s s' h.fo hc⟩, hci.mono,
    reattach_flags_self hkstep hc⟩

theorem recycleStep_ti {cfg : KConfig} {s s' : KState} {sk creator : Key} {d : StepDecl} {n : Node} (h : TI cfg s)
    (hk : sk.kind = .step) (hc : s.recycleStep sk creator d n = .ok s') : TI cfg s' ∧ Mono s s' := by
  obtain ⟨s1, s3, h1, h3, rfl⟩ := recycleStep_ok hc
  obtain ⟨hT1, hm1, hfl⟩ := h.reattach hk h1
  -- `Step.after_recycle` rewrites the declared need of a row that `Step.reattach` has just flagged
  have hrel : SoftRel s1 (s1.modify sk fun n => { n with need := d.need, shell := d.shell }) :=
    softRel_mapNodes s1 _ fun m hm => by
      split
      · rename_i hmk; exact ⟨rfl, rfl, ⟨rfl, rfl⟩, id, .inl (hfl m hm hmk)⟩
      · exact SoftRow.refl m
  have h3' : TI cfg s3 ∧ Mono s1 s3 := by
    rcases afterRecycle_ok h3 with ⟨_, h3⟩ | ⟨_, rfl⟩
    · obtain ⟨hT, hr⟩ :=
        (hT1.soft hrel).of_soft (fun t => (SP.leaves t).toW.markStepPending'_preserves (by decide) sk) h3
      exact ⟨hT, hrel.mono.trans hr.mono⟩
    · exact ⟨hT1.soft hrel, hrel.mono⟩
  obtain ⟨hT, hm⟩ := h3'.1.payload sk (f := fun n => { n with resources := d.resources, overrides := d.overrides })
    fun _ => ⟨rfl, id⟩
  exact ⟨hT, hm1.trans (h3'.2.trans hm)⟩

theorem createStep_ti {cfg : KConfig} {s : KState} {sk creator : Key} {d : StepDecl} {r : KState × List String}
    (h : TI cfg s) (hk : sk.kind = .step) (hc : s.createStep cfg sk creator d = .ok r) : TI cfg r.1 ∧ Mono s r.1 := by
  obtain ⟨s1, s3, infos, s5, h1, h3, h5, h6⟩ := createStep_ok hc
  obtain ⟨hT1, hm1, hh1, _, _⟩ := h.create (init := .step { need := d.need, shell := d.shell, safe := d.safe })
    trivial trivial (by rw [hk]; exact fun e => nomatch e) h1
  obtain ⟨hT2, hm2⟩ := hT1.payload sk (f := fun n => { n with resources := d.resources, overrides := d.overrides })
    fun _ => ⟨rfl, id⟩
  obtain ⟨hT3, hm3⟩ := supplyFiles_ti hT2 (hm2 _ hh1) h3
  obtain ⟨hT4, hm4⟩ := hT3.payload sk (f := fun n => addEnvDeps cfg n d.env) (payloadOnly_foldl
    (fun (n : Node) name => { n with envs := (n.envs.filter (·.1 ≠ name)) ++ [(name, envValue cfg name, false)] })
    (fun _ _ => ⟨rfl, id⟩) d.env)
  have hh4 := hm4 _ (hm3 _ (hm2 _ hh1))
  obtain ⟨hT5, hm5⟩ := declareProducts_ti d.out (.inl rfl) _ s5 hT4 hh4 h5
  obtain ⟨hT6, hm6⟩ := declareProducts_ti d.vol (.inr rfl) _ r.1 hT5 (hm5 _ hh4) h6
  exact ⟨hT6, Mono.trans hm1 (hm2.trans (hm3.trans (hm4.trans (hm5.trans hm6))))⟩

theorem defineStep_ti {cfg : KConfig} {s : KState} {creator : Key} {d : StepDecl} {r : KState × List String}
    (h : TI cfg s) (hc : s.defineStep cfg creator d = .ok r) : TI cfg r.1 ∧ Mono s r.1 := by
  obtain ⟨label, _, ⟨n, _, _, _, hc⟩ | ⟨_, hc⟩⟩ := defineStep_ok hc
  · exact recycleStep_ti h rfl hc
  · exact createStep_ti h rfl hc

theorem Struct.mapDeps {s : KState} (hS : Struct s) (g : Dep → Dep) (hg : ∀ d, (g d).src = d.src ∧ (g d).snk = d.snk) :
    Struct { s with deps := s.deps.map g } :=
  ⟨hS.keys, List.forall_mem_map.2 fun d hd => by rw [(hg d).1, (hg d).2]; exact hS.own d hd, hS.kinds, hS.root,
    List.forall_mem_map.2 fun d hd => by rw [(hg d).1, (hg d).2]; exact hS.dkinds d hd,
    List.forall_mem_map.2 fun d hd => by rw [(hg d).1, (hg d).2]; exact hS.closed d hd, hS.roots⟩

theorem TI.mapDeps {cfg : KConfig} {s : KState} (h : TI cfg s) (g : Dep → Dep)
    (hg : ∀ d, (g d).src = d.src ∧ (g d).snk = d.snk) : TI cfg { s with deps := s.deps.map g } :=
  ⟨cacheInvW_of_wd (wd_mapDeps g hg (wd_of_cacheInvW _ h.disc)), h.st.mapDeps g hg, forest_of_skel rfl h.fo⟩

theorem markDynamic_ti {cfg : KConfig} (edges : List (Key × Key)) :
    ∀ s : KState, TI cfg s → TI cfg (s.markDynamic edges) ∧ Mono s (s.markDynamic edges) := by
  unfold KState.markDynamic
  induction edges with
  | nil => exact fun s h => ⟨h, Mono.refl s⟩
  | cons e es ih =>
    intro s h
    have h1 := h.mapDeps (fun (d : Dep) => if d.src = e.1 ∧ d.snk = e.2 then { d with dyn := true } else d)
      (fun d => by split <;> exact ⟨rfl, rfl⟩)
    obtain ⟨h2, m2⟩ := h1.payload e.2 (f := fun n => if n.key.kind = .step then { n with checkReady := true } else n)
      (fun n => by
        dsimp only
        split
        · exact ⟨rfl, fun _ => rfl⟩
        · exact ⟨rfl, id⟩)
    obtain ⟨h3, m3⟩ := ih _ h2
    exact ⟨h3, Mono.trans (fun _ hx => m2 _ hx) m3⟩

theorem amendEnv_rel (s : KState) (cfg : KConfig) (step : Key) (env : List String) : SoftRel s (s.amendEnv cfg step env) :=
  softRel_modify s step (softFn_quiet (softQuiet_of_payload (payloadOnly_foldl
    (fun (n : Node) name => if n.overrides.any (·.1 = name) ∨ n.envs.any (·.1 = name) then n
      else { n with envs := n.envs ++ [(name, envValue cfg name, true)] })
    (fun _ n => by dsimp only; split <;> exact ⟨rfl, id⟩) env)))

theorem amendStep_ti {cfg : KConfig} {s : KState} {step : Key} {inp env out vol : List String} {conc : List Key}
    {r : KState × AmendResult} (h : TI cfg s) (hstep : Has s step)
    (hc : s.amendStep cfg step inp env out vol conc = .ok r) : TI cfg r.1 ∧ Mono s r.1 := by
  obtain ⟨s1, infos, out', vol', s3, s4, _, ha, _, _, _, _, h3, h4, rfl⟩ := amendStep_ok hc
  obtain ⟨hT1, hm1⟩ := supplyFiles_ti h hstep ha
  have hr2 := amendEnv_rel s1 cfg step env
  have hh2 := hr2.mono _ (hm1 _ hstep)
  obtain ⟨hT3, hm3⟩ := declareProducts_ti out' (.inl rfl) _ s3 (hT1.soft hr2) hh2 h3
  obtain ⟨hT4, hm4⟩ := declareProducts_ti vol' (.inr rfl) _ s4 hT3 (hm3 _ hh2) h4
  obtain ⟨hT5, hm5⟩ := markDynamic_ti (cfg := cfg) _ s4 hT4
  exact ⟨hT5, hm1.trans (hr2.mono.trans (hm3.trans (hm4.trans hm5)))⟩

/-- The forest after the hand-over is a hypothesis: it comes from `treeCreateHandOver_pq` (`Lemmas/ReachLift.lean`),
which is about `create` and the hand-over together. -/
theorem handOver_ti {cfg : KConfig} {s1 : KState} {tk : Key} {hs : List Key} (h : TI cfg s1)
    (hstatic : ∀ k ∈ hs, ∀ n, s1.find? k = some n → n.key.kind = .file ∧ n.fstate.role? = some .static)
    (hfo : Forest (s1.handOver tk hs)) : TI cfg (s1.handOver tk hs) ∧ Mono s1 (s1.handOver tk hs) := by
  have hS := h.st
  rw [handOver_nodes] at hfo ⊢
  have hall : All₂ (fun a b : Node => b.key = a.key ∧ (a.key ∉ hs → StructRow a b)) s1.nodes
      (s1.nodes.map fun n => if n.key ∈ hs then { n with creator := some tk } else n) :=
    all₂_map _ _ fun n _ => by
      by_cases hin : n.key ∈ hs
      · rw [if_pos hin]; exact ⟨rfl, fun h => absurd hin h⟩
      · rw [if_neg hin]; exact ⟨rfl, fun _ => StructRow.refl n⟩
  have hfind := fun x => find?_all₂ (fun _ _ h => h.1) x hall
  have hneutral : AfterNeutral fun n : Node => if n.key ∈ hs then { n with creator := some tk } else n := by
    intro n
    dsimp only
    split <;> exact ⟨rfl, rfl, rfl, rfl⟩
  have hhas : Mono s1 { s1 with nodes := s1.nodes.map fun n => if n.key ∈ hs then { n with creator := some tk } else n } :=
    fun x hx => has_of_optRel (hfind x) hx
  refine ⟨⟨hneutral.cacheInvW h.disc, ?_, hfo⟩, hhas⟩
  -- the rows that are handed over are static files: `Struct` asks nothing of them
  have hfile : ∀ n ∈ s1.nodes, n.key ∈ hs → n.key.kind = .file ∧ n.fstate.role? = some .static :=
    fun n hn hin => hstatic n.key hin n (find?_of_mem hS.keys hn)
  refine struct_transfer (· ∈ hs) hS (keysUnique_of_all₂ (fun _ _ h => h.1) hall hS.keys)
    (.of_all₂ (fun _ _ h => h.1) (fun _ _ h => h.2) hall) (fun _ h => h) (fun n' hn' hX hr => ?_)
    (fun d hd hsrc hX f' hf' => ?_) (fun nk hnk hX hs' => ?_)
    (fun d hd x hx _ => hhas x (hx.elim (fun e => e ▸ (hS.closed d hd).1) (fun e => e ▸ (hS.closed d hd).2)))
  · obtain ⟨n, hn, q⟩ := all₂_mem_right hall n' hn'
    rw [q.1] at hX hr
    rw [(hfile n hn hX).1] at hr; cases hr
  · unfold KState.find? at hf'
    obtain ⟨f, hf, _⟩ := optRel_right (hf' ▸ hfind d.snk)
    exact absurd (hfile f (find_mem (s := s1) hf) (by rw [find_key (s := s1) hf]; exact hX)).2 (hS.own d hd hsrc f hf).2
  · obtain ⟨n, hn, q⟩ := all₂_mem_right hall nk hnk
    rw [q.1] at hX hs'
    rw [(hfile n hn hX).1] at hs'; cases hs'

theorem registerStaticTree_ti {cfg : KConfig} {s : KState} {creator : Key} {path : String} {r : KState × List String}
    (h : TI cfg s) (hc : s.registerStaticTree cfg creator path = .ok r) : TI cfg r.1 ∧ Mono s r.1 := by
  obtain ⟨_, rfl⟩ | ⟨hs, s1, hg, h1, hc⟩ := registerStaticTree_ok hc
  · exact ⟨h, Mono.refl s⟩
  · obtain ⟨hT1, hci, _⟩ := h.create_cinv (init := .tree) trivial (k := treeKey (addSlash path)) (fun e => nomatch e) (fun e => nomatch e) h1
    have hm1 := hci.mono
    have hstatic : ∀ k ∈ hs, ∀ n, s1.find? k = some n → n.key.kind = .file ∧ n.fstate.role? = some .static := by
      intro k hk n hn
      obtain ⟨n0, hn0, hk0, hkind0, hrole0⟩ := treeGuard_static hg k hk
      have hne : k ≠ treeKey (addSlash path) := by
        intro he
        rw [hk0, he, treeKey_kind] at hkind0; cases hkind0
      have hrel := hci.keep.find k hne
      rw [hn, ← hk0, find?_of_mem h.st.keys hn0] at hrel
      exact ⟨by rw [hrel.1]; exact hkind0, by rw [hrel.2.1]; exact hrole0⟩
    have hfo : Forest (s1.handOver (treeKey (addSlash path)) hs) :=
      forest_eq ▸ skStable_ok.toG.toV.treeCreateHandOver_pq (forest_eq ▸ h.fo) hg h1
    obtain ⟨hT2, hm2⟩ := handOver_ti hT1 hstatic hfo
    obtain ⟨hT3, hm3⟩ := declareStaticFiles_ti hT2 hc
    exact ⟨hT3, Mono.trans hm1 (Mono.trans hm2 hm3)⟩

theorem declareStaticRequest_ti {cfg : KConfig} {s : KState} {creator : Key} {trees files : List String}
    {patterns : List (String × List String)} {r : KState × List String} (h : TI cfg s)
    (hc : s.declareStaticRequest cfg creator trees files patterns = .ok r) : TI cfg r.1 ∧ Mono s r.1 := by
  obtain ⟨a1, a2, h1, h2, h3, _⟩ := declareStaticRequest_ok hc
  obtain ⟨hT1, hm1⟩ : TI cfg a1.1 ∧ Mono s a1.1 :=
    foldlM_keeps (fun (a : KState × List String) => TI cfg a.1 ∧ Mono s a.1) _ trees (fun a x b _ ⟨ha, hma⟩ hb => by
      obtain ⟨c, hc', hb⟩ := bind_ok_inv hb
      obtain ⟨hT, hm⟩ := registerStaticTree_ti ha hc'
      exact pure_ok_iff.1 hb ▸ ⟨hT, hma.trans hm⟩) (s, []) a1 ⟨h, Mono.refl s⟩ h1
  obtain ⟨hT2, hm2⟩ := declareStaticFiles_ti hT1 h2
  obtain ⟨hT3, hm3⟩ : TI cfg r.1 ∧ Mono a2.1 r.1 :=
    foldlM_keeps (fun t => TI cfg t ∧ Mono a2.1 t) _ patterns (fun a x b _ ⟨ha, hma⟩ hb => by
      obtain ⟨hT, hr⟩ := ha.of_soft (fun t => (SP.leaves t).toW.registerNglob_preserves rfl creator x.1 x.2) hb
      exact ⟨hT, hma.trans hr.mono⟩) a2.1 r.1 ⟨hT2, Mono.refl _⟩ h3
  exact ⟨hT3, hm1.trans (hm2.trans hm3)⟩

theorem cacheInvW_remove {s : KState} {cfg : KConfig} {k : Key} (hc : CacheInvAfterW s cfg) (hdeps : ∀ d ∈ s.deps, d.snk ≠ k) :
    CacheInvAfterW ({ s with nodes := s.nodes.filter (·.key ≠ k) } : KState) cfg := by
  refine cacheInvW_of_wd (wd_pay (s := s) (X := (· = k)) (Gone := NoEdge) (New := NoEdge)
    (.ofRows (fun _ _ => Iff.rfl) ((Outside.remove (X := (· = k)) (fun _ => rfl) s rfl).of_eq AfterRow.refl))
    (wd_of_cacheInvW _ hc) ?_)
  rintro n hn _ _ ((ht | ⟨_, rfl, _, dp, hdm, _, hsnk⟩ | ⟨_, rfl, _, f, _, dp, hdm, _, hsnk⟩) | hg | hn')
  · exact absurd ht (by simpa using (List.mem_filter.1 hn).2)
  · exact absurd hsnk (hdeps dp hdm)
  · exact absurd hsnk (hdeps dp hdm)
  · exact absurd hg not_dueGone_noEdge
  · exact absurd hn' not_dueNew_noEdge

theorem deletePass_cacheInvW_struct {cfg : KConfig} {s : KState} {r : KState × List Key × Bool} (hw : CacheInvAfterW s cfg)
    (hS : Struct s) (h : s.deletePass = .ok r) : CacheInvAfterW r.1 cfg ∧ Struct r.1 :=
  deletePass_ind (P := fun t => CacheInvAfterW t cfg ∧ Struct t)
    (fun s0 n b hp0 hn _ hco hb => by
      obtain ⟨hnm, _, hndet, _⟩ := mem_cands s0 n hn
      refine ⟨cacheInvW_of_wd (wd_deleteDeps _ (wd_of_cacheInvW _ hb.1) ?_), struct_of_rel (structRel_deleteDeps b _) hb.2⟩
      -- the incoming dependency rows: none of them ends in an attached step (the row of the sink is the candidate)
      intro x hx _ _ ⟨d, hdm, hp, ⟨m, hm, hmk, hmd⟩, _⟩
      exfalso
      obtain ⟨m0, hm0, hc0⟩ := List.mem_map.1 (hco _ (mem_cores (find_mem hm)))
      have hk : m0.key = n.key := (congrArg (·.1) hc0).trans ((find_key hm).trans (of_decide_eq_true hp))
      have hd0 : m0.detached = m.detached := congrArg (·.2.2.1) hc0
      rw [eq_of_nodup_map hp0.2.keys hm0 hnm hk, hndet, hmd] at hd0
      cases hd0)
    (fun t p hh hp =>
      have hr : SoftRel t (t.queueDelete p hh) := softRel_of_eq rfl rfl
      ⟨cacheInvW_soft cfg hr hp.1, struct_of_rel hr.struct hp.2⟩)
    (fun t k hd _ hp => ⟨cacheInvW_remove hp.1 fun d hd' => (hd d hd').1, struct_remove hp.2 hd⟩)
    s r ⟨hw, hS⟩ h

theorem deleteDetachedBase_cacheInvW_struct {cfg : KConfig} {s s' : KState} (hw : CacheInvAfterW s cfg) (hS : Struct s)
    (h : s.deleteDetachedBase = .ok s') : CacheInvAfterW s' cfg ∧ Struct s' :=
  deleteDetachedBase_of_pass (P := fun t => CacheInvAfterW t cfg ∧ Struct t) (fun _ _ hp h => deletePass_cacheInvW_struct hp.1 hp.2 h)
    (fun t k hp => ⟨cacheInvW_soft cfg (deleteHash_rel t k) hp.1, struct_of_rel (deleteHash_rel t k).struct hp.2⟩)
    s s' ⟨hw, hS⟩ h

theorem treeOuter_rinv {cfg : KConfig} {s0 : KState} {t : Node} (ht : t.key.kind = .st) (st : KState)
    (r : ForInStep KState) (hI : RInv cfg s0 st) (h : treeOuter t st = .ok r) : RInv cfg s0 r.value := by
  have : RInv cfg st r.value := by
    refine treeOuter_ind (C := RInv cfg st) (fun f hf b u hb hu => hb.detach ?_ hu) hI.rebase h
    -- the creator of `f`, when it still has one, is the tree
    intro _ n' c hf' hc' hck _
    obtain ⟨hfm, hfc⟩ := List.mem_filter.1 hf
    simp only [decide_eq_true_eq, Bool.decide_and, Bool.and_eq_true] at hfc
    have hrel := hb.rel.find? f.key
    rw [find?_of_mem hI.st.keys hfm, hf'] at hrel
    cases hfc.1.symm.trans (StructRow.creator_of hrel hc')
    rw [ht] at hck; cases hck
  exact ⟨this.st, this.disc, hI.rel.trans this.rel⟩

theorem deleteDetached_ti {cfg : KConfig} {s s' : KState} (h : TI cfg s) (hc : s.deleteDetached = .ok s') : TI cfg s' := by
  have hfo : Forest s' :=
    deleteDetached_forest s s' h.fo hc
  rw [deleteDetached_eq] at hc
  obtain ⟨st, h1, hc⟩ := bind_ok_inv hc
  have hr : RInv cfg s st := by
    refine forIn_except_inv _ treeOuter (fun u => RInv cfg s u) s st ⟨h.st, h.disc, StructRel.refl s⟩
      (fun t ht b r' hb hf => treeOuter_rinv ?_ b r' hb hf) h1
    have := (List.mem_filter.1 ht).2
    simp only [decide_eq_true_eq, Bool.decide_and, Bool.and_eq_true] at this
    exact this.1
  have hds := deleteDetachedBase_cacheInvW_struct hr.disc hr.st hc
  exact ⟨hds.1, hds.2, hfo⟩

end StepupModel.K.Discipline
