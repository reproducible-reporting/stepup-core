import StepupModel.Lemmas.EverOutput
import StepupModel.Lemmas.SuccOutputs
/-!
# C08 ownership, clause (O5): an attached product is created by a step and built by that step only

`ProductsOwned` is the clause of `koracles.ownership_invariants` word for word: for every attached file row in a
product state (role OUTPUT or VOLATILE) with an existing creator: the creator is a step, and the list of the
sources of kind step of the edges into the file is `[creator]`.  It splits into three statements:

* `ProductByStep` (the creator is a step): after every history whose `amend` requests are not addressed to a
  static tree (`Ever.AmendsSteps`), from the invariant of `Lemmas/EverOutput.lean`;
* `ProducersAreCreator` (every step that has an edge into the file is its creator): after every history that
  satisfies the guard `SuccOut.HistOKS` of the I4 development, whose invariant `J` has exactly this clause
  ("the creator of the sink of an edge is the source of the edge or nobody", `Lemmas/SuccOutputsBase.lean`);
* `CreatorProduces` (the edge `creator -> file` exists, once): "once" holds after every history, unconditionally
  (`depsUnique_after_every_history`, `creatorProduces_of_exists`); "exists" is an invariant of its own, kept under one
  side condition on `reset_for_rerun` (`OwnE.creatorProduces_after_every_history`, `Lemmas/OwnershipEdge.lean`).

`productsOwned_of_parts` assembles the oracle's clause from the three.
-/
namespace StepupModel.K.Own
open StepupModel.K StepupModel.K.Ever StepupModel.K.MetaAfter

/-- The sources of kind step of the edges into `k`, in row order (`producers` of the oracle). -/
def producers (s : KState) (k : Key) : List Key :=
  ((s.deps.filter fun d => d.snk = k ∧ d.src.kind = .step).map (·.src))

/-- (O5): an attached product with an existing creator is created by a step, and its only step source is its
creator. -/
def ProductsOwned (s : KState) : Prop :=
  ∀ f ∈ s.nodes, f.key.kind = .file → f.detached = false → IsProduct f.fstate →
    ∀ c, f.creator = some c → s.has c = true → c.kind = .step ∧ producers s f.key = [c]

instance (s : KState) : Decidable (ProductsOwned s) := by unfold ProductsOwned; exact inferInstance

def ProductByStep (s : KState) : Prop :=
  ∀ f ∈ s.nodes, f.key.kind = .file → f.detached = false → IsProduct f.fstate → ∀ c, f.creator = some c → c.kind = .step

def ProducersAreCreator (s : KState) : Prop :=
  ∀ f ∈ s.nodes, f.key.kind = .file → f.detached = false → IsProduct f.fstate → ∀ c, f.creator = some c →
    ∀ d ∈ s.deps, d.snk = f.key → d.src.kind = .step → d.src = c

def CreatorProduces (s : KState) : Prop :=
  ∀ f ∈ s.nodes, f.key.kind = .file → f.detached = false → IsProduct f.fstate → ∀ c, f.creator = some c →
    (s.deps.filter fun d => d.snk = f.key ∧ d.src = c).length = 1

instance (s : KState) : Decidable (ProductByStep s) := by unfold ProductByStep; exact inferInstance
instance (s : KState) : Decidable (ProducersAreCreator s) := by unfold ProducersAreCreator; exact inferInstance
instance (s : KState) : Decidable (CreatorProduces s) := by unfold CreatorProduces; exact inferInstance

theorem productsOwned_of_parts {s : KState} (h1 : ProductByStep s) (h2 : ProducersAreCreator s)
    (h3 : CreatorProduces s) : ProductsOwned s := by
  intro f hf hk hd hp c hc _
  have hcs := h1 f hf hk hd hp c hc
  refine ⟨hcs, ?_⟩
  unfold producers
  have heq : (s.deps.filter fun d => decide (d.snk = f.key ∧ d.src.kind = .step)) =
      s.deps.filter fun d => decide (d.snk = f.key ∧ d.src = c) := by
    refine List.filter_congr fun d hd' => ?_
    by_cases hsnk : d.snk = f.key
    · by_cases hsrc : d.src = c
      · simp [hsnk, hsrc, hcs]
      · have : ¬ d.src.kind = .step := fun hk' => hsrc (h2 f hf hk hd hp c hc d hd' hsnk hk')
        simp [hsnk, hsrc, this]
    · simp [hsnk]
  rw [heq]
  refine (List.map_eq_replicate_iff.2 fun d hd' => ?_).trans (by rw [h3 f hf hk hd hp c hc]; rfl)
  have := (List.mem_filter.1 hd').2
  simp only [decide_eq_true_eq] at this
  exact this.2

theorem productByStep_after_every_history (h : List (KConfig × Req)) (ha : AmendsSteps h) :
    ProductByStep (KState.init.run h) :=
  fun f hf hk _ hp c hc => (reachable_inv_steps h ha).own f hf hk trivial hp c hc

/-- The clause is independent of the step states; the guard `SuccOut.HistOKS` is the price of reusing the invariant
of the I4 development. -/
theorem producersAreCreator_after_every_history (h : List (KConfig × Req)) (hg : SuccOut.HistOKS KState.init h) :
    ProducersAreCreator (KState.init.run h) := by
  intro f hf hk _ _ c hc d hd hsnk _
  have hJ := SuccOut.reachable_JK h hg
  obtain ⟨f', hf', hown, _, _⟩ := hJ.1.1 d hd (hsnk ▸ hk) trivial
  have hfind : (KState.init.run h).find? d.snk = some f := hsnk ▸ find?_of_mem hJ.keys hf
  rw [hfind] at hf'
  cases hf'
  rcases hown with ho | ho
  · rw [ho] at hc; cases hc
  · rw [ho] at hc; exact Option.some.inj hc


def Dep.pair (d : Dep) : Key × Key := (d.src, d.snk)

def DepsUnique (s : KState) : Prop := (s.deps.map Dep.pair).Nodup

/-- `UNIQUE(source, sink)`: only `INSERT INTO dependency` adds a pair, and it has looked for it. -/
theorem stable_depsUnique : StableC DepsUnique := by
  refine StableC.ofDeps (fun l => (l.map Dep.pair).Nodup) ?_ ?_ ?_
  · intro l src snk _ hno _ hp
    rw [List.map_append, List.nodup_append]
    refine ⟨hp, by simp, fun a ha b hb hab => ?_⟩
    obtain ⟨d, hd, hdp⟩ := List.mem_map.1 ha
    obtain ⟨h1, h2⟩ := Prod.mk.inj (hdp.trans (hab.trans (List.mem_singleton.1 hb)))
    have : (l.any fun d => d.src = src ∧ d.snk = snk) = true := List.any_eq_true.2 ⟨d, hd, decide_eq_true ⟨h1, h2⟩⟩
    rw [hno] at this; cases this
  · exact fun l p hp => List.Nodup.sublist (List.Sublist.map _ List.filter_sublist) hp
  · intro l src snk dyn hp
    have : (l.map fun (d : Dep) => if d.src = src ∧ d.snk = snk then { d with dyn := dyn } else d).map Dep.pair
        = l.map Dep.pair := by
      rw [List.map_map]
      exact List.map_congr_left fun d _ => by show Dep.pair (if _ then _ else _) = _; split <;> rfl
    rw [this]; exact hp

theorem depsUnique_after_every_history (h : List (KConfig × Req)) : DepsUnique (KState.init.run h) :=
  stable_depsUnique.execInv'.run' h _ (by unfold DepsUnique KState.init; simp)

theorem creatorProduces_of_exists {s : KState} (hu : DepsUnique s)
    (hex : ∀ f ∈ s.nodes, f.key.kind = .file → f.detached = false → IsProduct f.fstate → ∀ c, f.creator = some c →
      s.hasDep c f.key = true) : CreatorProduces s := by
  intro f hf hk hd hp c hc
  obtain ⟨d, hd1, hd2⟩ := List.any_eq_true.1 (hex f hf hk hd hp c hc)
  have hd2 := of_decide_eq_true hd2
  obtain ⟨l, hl⟩ : ∃ l, l = s.deps.filter fun d => decide (d.snk = f.key ∧ d.src = c) := ⟨_, rfl⟩
  rw [← hl]
  have hmem : d ∈ l := hl ▸ List.mem_filter.2 ⟨hd1, decide_eq_true ⟨hd2.2, hd2.1⟩⟩
  -- pairwise different rows that all carry the pair `(c, f.key)`: at most one
  have hrep : l.map Dep.pair = List.replicate l.length (c, f.key) := List.map_eq_replicate_iff.2 fun e he => by
    rw [hl] at he
    have := of_decide_eq_true (List.mem_filter.1 he).2
    exact Prod.ext this.2 this.1
  have hnd : (l.map Dep.pair).Nodup := hl ▸ List.Nodup.sublist (List.Sublist.map _ List.filter_sublist) hu
  exact Nat.le_antisymm (List.nodup_replicate.1 (hrep ▸ hnd)) (List.length_pos_of_mem hmem)

#print axioms depsUnique_after_every_history
#print axioms productByStep_after_every_history
#print axioms producersAreCreator_after_every_history
#print axioms productsOwned_of_parts

end StepupModel.K.Own
