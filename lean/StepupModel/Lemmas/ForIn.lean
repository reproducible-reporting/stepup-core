/-!
# Invariant rules for `for` loops in the `Except` monad

The kernel model writes the loops of the Python code as `for x in l do ...` with mutable
variables.  There is one induction (`forIn_except_rest`: an invariant indexed by the elements still
to come, and what holds at a `break`); the other rules are instances of it.
-/
namespace StepupModel

/-- `I post b`: the state is `b` when the elements `post` are still to be processed; `Q` holds of
the state an iteration breaks with. -/
theorem forIn_except_rest {α β ε : Type} (f : α → β → Except ε (ForInStep β))
    (I : List α → β → Prop) (Q : β → Prop)
    (hstep : ∀ a post b r', I (a :: post) b → f a b = .ok r' →
      match r' with
      | .yield b' => I post b'
      | .done b' => Q b')
    (l : List α) (init r : β) (h0 : I l init) (h : forIn l init f = .ok r) : Q r ∨ I [] r := by
  induction l generalizing init with
  | nil => cases h; exact Or.inr h0
  | cons a as ih =>
    rw [List.forIn_cons] at h
    cases hf : f a init with
    | error e => rw [hf] at h; cases h
    | ok st =>
      rw [hf] at h
      have hst := hstep a as init st h0 hf
      cases st with
      | done b => cases h; exact Or.inl hst
      | yield b => exact ih b hst h

theorem forIn_except_inv {α β ε : Type} (l : List α) (f : α → β → Except ε (ForInStep β))
    (I : β → Prop) (init r : β) (h0 : I init)
    (hstep : ∀ a ∈ l, ∀ b r', I b → f a b = .ok r' → I r'.value)
    (h : forIn l init f = .ok r) : I r := by
  have := forIn_except_rest f (fun post b => (∀ a ∈ post, a ∈ l) ∧ I b) I
    (fun a post b r' hb hf => by
      have hr := hstep a (hb.1 a List.mem_cons_self) b r' hb.2 hf
      cases r' with
      | yield b' => exact ⟨fun x hx => hb.1 x (List.mem_cons_of_mem a hx), hr⟩
      | done b' => exact hr)
    l init r ⟨fun _ ha => ha, h0⟩ h
  exact this.elim id And.right

theorem forIn_except_inv_prefix {α β ε : Type} (l : List α) (f : α → β → Except ε (ForInStep β))
    (I : List α → β → Prop) (init r : β) (h0 : I [] init)
    (hstep : ∀ pre a b r', I pre b → f a b = .ok r' → ∃ b', r' = .yield b' ∧ I (pre ++ [a]) b')
    (h : forIn l init f = .ok r) : I l r := by
  have := forIn_except_rest f (fun post b => ∃ pre, pre ++ post = l ∧ I pre b) (fun _ => False)
    (fun a post b r' ⟨pre, hl, hb⟩ hf => by
      obtain ⟨b', rfl, hI⟩ := hstep pre a b r' hb hf
      exact ⟨pre ++ [a], by rw [List.append_assoc]; exact hl, hI⟩)
    l init r ⟨[], rfl, h0⟩ h
  obtain ⟨pre, hl, hI⟩ := this.resolve_left id
  rw [List.append_nil] at hl
  exact hl ▸ hI

theorem forIn_except_ok {α β ε : Type} (l : List α) (f : α → β → Except ε (ForInStep β)) (init : β)
    (hstep : ∀ a ∈ l, ∀ b, ∃ r, f a b = .ok r) : ∃ r, forIn l init f = .ok r := by
  induction l generalizing init with
  | nil => exact ⟨init, rfl⟩
  | cons a as ih =>
    rw [List.forIn_cons]
    obtain ⟨r, hr⟩ := hstep a List.mem_cons_self init
    cases r with
    | done b => exact ⟨b, by simp [hr, bind, Except.bind, pure, Except.pure]⟩
    | yield b =>
      obtain ⟨r', hr'⟩ := ih b (fun a' ha' => hstep a' (List.mem_cons_of_mem _ ha'))
      exact ⟨r', by simp [hr, bind, Except.bind, hr']⟩

end StepupModel
