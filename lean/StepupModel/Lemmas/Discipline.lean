import StepupModel.Lemmas.DisciplineRequests
import StepupModel.Lemmas.DisciplineRetarget
/-!
# The flag discipline of `_update_meta_after` over requests and histories

`CacheInvAfterW s cfg` (`Lemmas/MetaAfter.lean`): an attached step that is not flagged `_check_after`
satisfies its local equation or has a flagged attached consumer.  It is the hypothesis of the worklist
theorems; here it is shown to hold after every accepted request and every history, for a fixed pair of target sets
(`reconcile_targets` under an unchanged configuration only raises flags), hence `_update_meta_after` is correct on
every reachable state (`Props.C10.cached_need_agrees_after_every_history`).  Across a change of the target sets the
invariants are carried by the plain soft requests of a restart (`exec_plainSoft_ti`) and by `reconcile_targets`
(`Lemmas/DisciplineRetarget.lean`, `Props.C10.reconcile_carries_discipline_to_new_targets`).

The file goes by what is carried.  `Disc cfg` (one row per key and the discipline) suffices for the requests whose
writes are soft and the two that run `KState.updateMeta` (the three refreshes at the head of
`Scheduler.pop_next_job`): `exec_soft_disc`.  `DS cfg` (the discipline and `Struct`) suffices
for all requests but the declaring ones and `delete_detached` (`ReqOK`): `exec_ds`, and over histories
`run_ds_relative` (`HistRel`), `run_ds` (`HistOK`) and `reachable_updateMetaAfter_correct`.  These are results of
their own, under weaker invariants; `exec_ti` takes those requests from `exec_ds` and adds `Forest` for the rest.
The history theorem for all requests is `reachable_ti` (`run_ti`; invariant `TI cfg`) under `HistOK'`: the target sets
of `cfg` throughout and `ReqOK'`, three side conditions.  `ReqOK` is `False` on every declaring request and on
`delete_detached`, so `HistOK` admits no history that declares a step or a file.
In lemma names `disc` stands for `Disc`, `cacheInvW` for the discipline alone; the fields `TI.disc` and `RInv.disc`
are the discipline alone.
-/
namespace StepupModel.K.Discipline
open StepupModel.K.MetaAfter StepupModel.Generated StepupModel.K.Sk

def Disc (cfg : KConfig) (s : KState) : Prop := KeysUnique s ∧ CacheInvAfterW s cfg

theorem Disc.soft {cfg : KConfig} {s s' : KState} (h : Disc cfg s) (hr : SoftRel s s') : Disc cfg s' :=
  ⟨hr.keysUnique h.1, cacheInvW_soft cfg hr h.2⟩

theorem afterValues_cfg_congr (s : KState) {cfg cfg' : KConfig} (h1 : cfg'.targets = cfg.targets)
    (h2 : cfg'.targetDirs = cfg.targetDirs) (n : Node) : s.afterValues cfg' n = s.afterValues cfg n := by
  unfold KState.afterValues
  simp only [h1, h2]

theorem disc_cfg_congr {s : KState} {cfg cfg' : KConfig} (h1 : cfg'.targets = cfg.targets)
    (h2 : cfg'.targetDirs = cfg.targetDirs) (h : Disc cfg s) : Disc cfg' s := by
  refine ⟨h.1, fun n hn hs hd hf => ?_⟩
  rcases h.2 n hn hs hd hf with hl | hx
  · left
    unfold AfterLocal at hl ⊢
    rw [afterValues_cfg_congr s h1 h2]; exact hl
  · exact .inr hx

theorem disc_init (cfg : KConfig) : Disc cfg KState.init := by
  refine ⟨by unfold KeysUnique; decide, ?_⟩
  intro n hn hs
  simp only [KState.init, List.mem_singleton] at hn
  subst hn
  cases hs

theorem disc_of_consistent {s : KState} {cfg : KConfig} (hk : KeysUnique s) (h : AfterConsistent s cfg) : Disc cfg s :=
  ⟨hk, fun n hn h1 h2 _ => .inl (h n hn h1 h2)⟩

theorem updateMeta_disc (cfg : KConfig) : Preserves (Disc cfg) (fun s => s.updateMeta cfg) := by
  intro s s' hp h
  obtain ⟨hc, _, hk⟩ := updateMeta_correct_weak s s' cfg hp.1 hp.2 h
  exact disc_of_consistent hk hc

theorem updateMetaAfter_disc (cfg : KConfig) : Preserves (Disc cfg) (fun s => s.updateMetaAfter cfg) := by
  intro s s' hp h
  obtain ⟨hc, _, hv⟩ := updateMetaAfter_correct_weak s s' cfg hp.1 hp.2 h
  exact disc_of_consistent (keysUnique_frame hv hp.1) hc

theorem popNext_soft {s s' : KState} {cfg : KConfig} {choice : Option Key} {d : Dispatch}
    (h : s.popNext cfg choice = .ok (s', d)) :
    ∃ su, s.updateMeta cfg = .ok su ∧ (KeysUnique su → SoftRel su s') := by
  obtain ⟨su, hu, hc⟩ := popNext_ok h
  refine ⟨su, hu, fun hk => ?_⟩
  rcases hc with ⟨_, rfl, _⟩ | ⟨k, n, _, _, _, _, _, _, hs, _⟩
  · exact SoftRel.refl _
  · exact softRel_of_sp (fun _ => setStepState_soft k _ false) hk hs

theorem popNext_disc (cfg : KConfig) (choice : Option Key) (s s' : KState) (d : Dispatch)
    (hp : Disc cfg s) (h : s.popNext cfg choice = .ok (s', d)) : Disc cfg s' := by
  obtain ⟨su, hu, hr⟩ := popNext_soft h
  have hpu := updateMeta_disc cfg s su hp hu
  exact hpu.soft (hr hpu.1)

/-- The requests whose writes are soft, plus the two that run `updateMeta`. -/
def isSoftReq : Req → Bool
  | .nglob .. | .hashes .. | .pop .. | .updateMeta | .completed _ (some _) _ | .setState .. | .deleteHash ..
  | .markPending .. | .hold .. | .release .. | .revertOptional | .clearQueue | .resetInterrupted | .rescanEnv
  | .reconcile | .checkConsistency => true
  | _ => false

theorem softReq_cases {r : Req} (hr : isSoftReq r = true) :
    (∃ c, r = .pop c) ∨ r = .updateMeta ∨ plainSoftReq r = true ∨ r = .reconcile := by
  cases r with
  | completed k nh wd =>
    cases nh with
    | none => cases hr
    | some _ => exact .inr (.inr (.inl rfl))
  | pop c => exact .inl ⟨c, rfl⟩
  | updateMeta => exact .inr (.inl rfl)
  | reconcile => exact .inr (.inr (.inr rfl))
  | _ => first | exact .inr (.inr (.inl rfl)) | cases hr

theorem exec_soft_disc (cfg : KConfig) (r : Req) (hr : isSoftReq r = true) (s : KState) (res : KState × String)
    (hp : Disc cfg s) (h : s.exec cfg r = .ok res) : Disc cfg res.1 := by
  rcases softReq_cases hr with ⟨c, rfl⟩ | rfl | hr
  · obtain ⟨a, ha, e⟩ := pairOut_ok h; exact e ▸ popNext_disc cfg c s a.1 a.2 hp ha
  · exact updateMeta_disc cfg s _ hp (unitOut_ok h)
  · exact hp.soft (exec_plainSoft_rel cfg r hr s res hp.1 h)

def DS (cfg : KConfig) (s : KState) : Prop := CacheInvAfterW s cfg ∧ Struct s

theorem DS.disc {cfg : KConfig} {s : KState} (h : DS cfg s) : Disc cfg s := ⟨h.2.keys, h.1⟩

theorem DS.rinv {cfg : KConfig} {s : KState} (h : DS cfg s) : RInv cfg s s := ⟨h.2, h.1, StructRel.refl s⟩

theorem ds_of_rinv {cfg : KConfig} {s s' : KState} (h : RInv cfg s s') : DS cfg s' := ⟨h.disc, h.st⟩

theorem ds_cfg_congr {s : KState} {cfg cfg' : KConfig} (h1 : cfg'.targets = cfg.targets)
    (h2 : cfg'.targetDirs = cfg.targetDirs) (h : DS cfg s) : DS cfg' s :=
  ⟨(disc_cfg_congr h1 h2 h.disc).2, h.2⟩

theorem struct_init : Struct KState.init :=
  ⟨by decide, by decide, by decide, by decide, by decide, by decide, by decide⟩

theorem ds_init (cfg : KConfig) : DS cfg KState.init := ⟨(disc_init cfg).2, struct_init⟩

theorem structRel_of_frame {s s' : KState} (h : AfterFrame s s') : StructRel s s' := by
  refine ⟨fun d hd => by rw [h.1] at hd; exact hd, ?_⟩
  refine all₂_of_map_eq eraseAfter ?_ _ _ h.2.2.symm
  intro a b hab
  have h3 : (eraseAfter a).creator = (eraseAfter b).creator := congrArg Node.creator hab
  exact ⟨(eraseAfter_key hab).symm, by rw [eraseAfter_fstate hab], .inl h3.symm⟩

theorem updateMeta_ds (cfg : KConfig) : Preserves (DS cfg) (fun s => s.updateMeta cfg) := by
  intro s s' hp h
  refine ⟨(updateMeta_disc cfg s s' hp.disc h).2, ?_⟩
  obtain ⟨s1, s2, h1, h2, rfl⟩ := updateMeta_ok h
  have r1 : StructRel s s1 := (softRel_of_sp (fun _ => updateMetaSafe_soft) hp.2.keys h1).struct
  have r2 := r1.trans (structRel_of_frame (updateMetaAfter_frame s1 s2 cfg h2))
  have hk2 : KeysUnique s2 := (struct_of_rel r2 hp.2).keys
  exact struct_of_rel (r2.trans ((SP.leaves s2).toW.updateMetaReady rfl s2 (SP.refl hk2)).2.struct) hp.2

theorem popNext_ds (cfg : KConfig) (choice : Option Key) (s s' : KState) (d : Dispatch)
    (hp : DS cfg s) (h : s.popNext cfg choice = .ok (s', d)) : DS cfg s' := by
  obtain ⟨su, hu, hr⟩ := popNext_soft h
  have hpu := updateMeta_ds cfg s su hp hu
  exact ds_of_rinv (hpu.rinv.soft (hr hpu.2.keys))

/-- `False` on the declaring requests and `delete_detached`: they need `Forest` as well and are left to `exec_ti`.
For the other two conditions see `ReqOK'`. -/
def ReqOK (s : KState) : Req → Prop
  | .define .. | .amend .. | .static .. | .tree .. | .declStatic .. | .deleteDetached => False
  | .resetRerun k => k.kind = .step
  | .detach k => FileDetachOK s k
  | _ => True

theorem exec_ds (cfg : KConfig) (r : Req) (s : KState) (res : KState × String) (hr : ReqOK s r)
    (hp : DS cfg s) (h : s.exec cfg r = .ok res) : DS cfg res.1 := by
  have soft : plainSoftReq r = true ∨ r = .reconcile → DS cfg res.1 := fun hs =>
    ds_of_rinv (hp.rinv.soft (exec_plainSoft_rel cfg r hs s res hp.2.keys h))
  cases r with
  | define c d => exact hr.elim
  | amend k inp env out vol conc => exact hr.elim
  | static c ps => exact hr.elim
  | tree c p => exact hr.elim
  | declStatic c ts fs ps => exact hr.elim
  | deleteDetached => exact hr.elim
  | resetRerun k => exact ds_of_rinv (resetForRerun_rinv hr hp.2 hp.1 (unitOut_ok h))
  | detach k => exact ds_of_rinv (hp.rinv.detach hr (unitOut_ok h))
  | pop c => obtain ⟨a, ha, e⟩ := pairOut_ok h; exact e ▸ popNext_ds cfg c s a.1 a.2 hp ha
  | updateMeta => exact updateMeta_ds cfg s _ hp (unitOut_ok h)
  | completed k nh wd =>
    cases nh with
    | some hh => exact soft (.inl rfl)
    | none =>
      obtain ⟨a, ha, e⟩ := pairOut_ok h
      rcases markCompleted_ok (s' := a.1) (b := a.2) ha with ⟨_, hc⟩ | ⟨_, hn, _⟩
      · exact e ▸ ds_of_rinv (completeFailure_rinv wd hp.2 hp.1 hc)
      · cases hn
  | reconcile => exact soft (.inr rfl)
  | _ => exact soft (.inl rfl)

theorem step_ds (cfg : KConfig) (r : Req) (s : KState) (hr : ReqOK s r) (hp : DS cfg s) : DS cfg (s.step cfg r) :=
  step_of_exec hp fun res h => exec_ds cfg r s res hr hp h

def HistOK (cfg : KConfig) : KState → List (KConfig × Req) → Prop
  | _, [] => True
  | s, cr :: rest =>
    (cr.1.targets = cfg.targets ∧ cr.1.targetDirs = cfg.targetDirs ∧ ReqOK s cr.2) ∧ HistOK cfg (s.step cr.1 cr.2) rest

def HistRel (cfg : KConfig) : KState → List (KConfig × Req) → Prop
  | _, [] => True
  | s, cr :: rest =>
    (cr.1.targets = cfg.targets ∧ cr.1.targetDirs = cfg.targetDirs ∧ (ReqOK s cr.2 ∨ DS cfg (s.step cr.1 cr.2))) ∧
      HistRel cfg (s.step cr.1 cr.2) rest

theorem run_ds_relative (cfg : KConfig) (h : List (KConfig × Req)) (s : KState) (hp : DS cfg s)
    (hh : HistRel cfg s h) : DS cfg (s.run h) := by
  refine run_of_step (H := HistRel cfg) (fun s x xs ⟨⟨ht, htd, hr⟩, hrest⟩ hp => ⟨?_, hrest⟩) h s hp hh
  rcases hr with hr | hr
  · exact ds_cfg_congr ht.symm htd.symm (step_ds x.1 x.2 s hr (ds_cfg_congr ht htd hp))
  · exact hr

theorem histRel_of_ok (cfg : KConfig) : ∀ (h : List (KConfig × Req)) (s : KState), HistOK cfg s h → HistRel cfg s h
  | [], _, _ => trivial
  | _ :: xs, _, ⟨⟨ht, htd, hr⟩, hrest⟩ => ⟨⟨ht, htd, .inl hr⟩, histRel_of_ok cfg xs _ hrest⟩

theorem run_ds (cfg : KConfig) (h : List (KConfig × Req)) (s : KState) (hp : DS cfg s) (hh : HistOK cfg s h) :
    DS cfg (s.run h) := run_ds_relative cfg h s hp (histRel_of_ok cfg h s hh)

theorem reachable_ds (cfg : KConfig) (h : List (KConfig × Req)) (hh : HistOK cfg KState.init h) :
    DS cfg (KState.init.run h) := run_ds cfg h KState.init (ds_init cfg) hh

theorem reachable_updateMetaAfter_correct (cfg : KConfig) (h : List (KConfig × Req)) (hh : HistOK cfg KState.init h) :
    ∃ s', (KState.init.run h).updateMetaAfter cfg = .ok s' ∧ AfterConsistent s' cfg ∧
      (∀ n ∈ s'.nodes, n.key.kind = .step → n.checkAfter = false) ∧ AfterFrame (KState.init.run h) s' :=
  updateMetaAfter_reachable_correct_weak h cfg (reachable_ds cfg h hh).1

theorem ti_init (cfg : KConfig) : TI cfg KState.init := ⟨(ds_init cfg).1, struct_init, init_forest⟩

theorem ti_cfg_congr {s : KState} {cfg cfg' : KConfig} (h1 : cfg'.targets = cfg.targets)
    (h2 : cfg'.targetDirs = cfg.targetDirs) (h : TI cfg s) : TI cfg' s :=
  ⟨(ds_cfg_congr h1 h2 ⟨h.disc, h.st⟩).1, h.st, h.fo⟩

/-- What `exec_ti` asks of a request.
* `amend`: the step has a row.  `amend_step` does not look the step up and `insertDep` leaves out the FOREIGN KEYs
  of the dependency table, so in the model the new dependency rows could end in no row (`Struct.closed`).
* `reset_for_rerun`: the key is a step (a method of `Step`; the request of the model carries any key).  The proof
  reads the kinds and the owner of the amended outputs off the edges from the step (`Struct.dkinds`, `Struct.own`).
* `detach`: `FileDetachOK`.  It excludes the raw `Node.detach` of an output file that still has the edge from its
  attached, unflagged producer, which is left with a stale local equation (`cxState` below,
  `Props.C10.raw_detach_of_an_output_file_negation`); not a request the director delivers. -/
def ReqOK' (s : KState) : Req → Prop
  | .amend k .. => Has s k
  | .resetRerun k => k.kind = .step
  | .detach k => FileDetachOK s k
  | _ => True

theorem exec_ti (cfg : KConfig) (r : Req) (s : KState) (res : KState × String) (hr : ReqOK' s r)
    (hp : TI cfg s) (h : s.exec cfg r = .ok res) : TI cfg res.1 := by
  have nondecl : ReqOK s r → TI cfg res.1 := fun hro =>
    have := exec_ds cfg r s res hro ⟨hp.disc, hp.st⟩ h
    ⟨this.1, this.2, forest_inv cfg r s res trivial hp.fo h⟩
  cases r with
  | deleteDetached => exact deleteDetached_ti hp (unitOut_ok h)
  | define c d => obtain ⟨a, ha, e⟩ := pairOut_ok h; exact e ▸ (defineStep_ti hp ha).1
  | amend k inp env out vol conc => obtain ⟨a, ha, e⟩ := pairOut_ok h; exact e ▸ (amendStep_ti hp hr ha).1
  | static c ps => obtain ⟨a, ha, e⟩ := pairOut_ok h; exact e ▸ (declareStaticFiles_ti hp ha).1
  | tree c p => obtain ⟨a, ha, e⟩ := pairOut_ok h; exact e ▸ (registerStaticTree_ti hp ha).1
  | declStatic c ts fs ps => obtain ⟨a, ha, e⟩ := pairOut_ok h; exact e ▸ (declareStaticRequest_ti hp ha).1
  | resetRerun k => exact nondecl hr
  | detach k => exact nondecl hr
  | _ => exact nondecl trivial

theorem step_ti (cfg : KConfig) (r : Req) (s : KState) (hr : ReqOK' s r) (hp : TI cfg s) : TI cfg (s.step cfg r) :=
  step_of_exec hp fun res h => exec_ti cfg r s res hr hp h

def HistOK' (cfg : KConfig) : KState → List (KConfig × Req) → Prop
  | _, [] => True
  | s, cr :: rest =>
    (cr.1.targets = cfg.targets ∧ cr.1.targetDirs = cfg.targetDirs ∧ ReqOK' s cr.2) ∧
      HistOK' cfg (s.step cr.1 cr.2) rest

theorem run_ti (cfg : KConfig) (h : List (KConfig × Req)) (s : KState) (hp : TI cfg s) (hh : HistOK' cfg s h) :
    TI cfg (s.run h) :=
  run_of_step (H := HistOK' cfg) (fun s x _ ⟨⟨ht, htd, hr⟩, hrest⟩ hp =>
    ⟨ti_cfg_congr ht.symm htd.symm (step_ti x.1 x.2 s hr (ti_cfg_congr ht htd hp)), hrest⟩) h s hp hh

theorem reachable_ti (cfg : KConfig) (h : List (KConfig × Req)) (hh : HistOK' cfg KState.init h) :
    TI cfg (KState.init.run h) := run_ti cfg h KState.init (ti_init cfg) hh

/-- For the requests of a restart that precede `reconcile_targets`: they run under the new configuration `cfgX`
while the invariants hold for the old target sets `cfgW`. -/
theorem exec_plainSoft_ti (cfgW cfgX : KConfig) (r : Req) (hr : plainSoftReq r = true) (s : KState)
    (res : KState × String) (hp : TI cfgW s) (h : s.exec cfgX r = .ok res) : TI cfgW res.1 :=
  hp.soft (exec_plainSoft_rel cfgX r (.inl hr) s res hp.st.keys h)

/-- The witness that `FileDetachOK` is needed (`Props.C10.raw_detach_of_an_output_file_negation`): the state after
`define plan; pop; define A (out o); update_meta` under the target `o` (the raw detach of `o` from it replays on
the implementation: `harness/witness/detach_output_file.txt`). -/
def cxState : KState :=
  { nodes := [
      { key := rootKey, creator := some rootKey },
      { key := stepKey "./plan.py", creator := some rootKey, sstate := .running, need := .plan, impliedNeed := .plan,
        safe := true, safeNH := true },
      { key := stepKey "A", creator := some (stepKey "./plan.py"), need := .default, impliedNeed := .target, tail := 1 },
      { key := fileKey "o", creator := some (stepKey "A"), fstate := .planned }],
    deps := [{ src := stepKey "A", snk := fileKey "o" }] }

def cxCfg : KConfig := { targets := ["o"] }

theorem cxState_struct : Struct cxState :=
  ⟨by decide, by decide, by decide, by decide, by decide, by decide, by decide⟩

end StepupModel.K.Discipline
