import StepupModel.K.Scheduler
import StepupModel.Lemmas.FuelLoop
/-!
The loop of `_update_meta_after` as a fuelled loop (`Lemmas/FuelLoop.lean`), and its simplest
consequence: what `applyAfterUpdates` keeps, the loop keeps.
-/
namespace StepupModel.K

theorem afterLoop_loop (cfg : KConfig) :
    FuelLoop (fun fuel (x : KState × List Key × Bool) => KState.afterLoop cfg fuel x.1 x.2.1 x.2.2)
      (·.2.1.isEmpty)
      (fun x => (x.1.applyAfterUpdates (x.1.afterUpdates cfg x.2.1 x.2.2),
        (x.1.applyAfterUpdates (x.1.afterUpdates cfg x.2.1 x.2.2)).propagateAfter
          ((x.1.afterUpdates cfg x.2.1 x.2.2).map (·.1)), false))
      (·.1) :=
  ⟨fun x => by rw [KState.afterLoop.eq_1], fun n x => by rw [KState.afterLoop.eq_2]⟩

/-- For a relation to the start state take `P := R s0`. -/
theorem afterLoop_invariant {P : KState → Prop} (hP : ∀ s u, P s → P (s.applyAfterUpdates u)) {cfg : KConfig}
    {fuel : Nat} {s s' : KState} {work : List Key} {first : Bool} (hp : P s)
    (h : KState.afterLoop cfg fuel s work first = some s') : P s' := by
  obtain ⟨x, hx, _, rfl⟩ := (afterLoop_loop cfg).result (fun x => P x.1) (fun x hx _ => hP _ _ hx)
    (x := (s, work, first)) hp h
  exact hx

end StepupModel.K
