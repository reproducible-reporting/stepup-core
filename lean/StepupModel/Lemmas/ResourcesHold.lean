import StepupModel.Lemmas.Resources
import StepupModel.Lemmas.SafeDiscipline
/-!
# C12, hold: no RUN job for a step below a holding creator

`popNext_hold` reads off what `pop_next_job` guarantees for the job it hands out from the flag discipline of
`_update_meta_safe` (`MetaSafe.CacheInvSafeW`); `hold_blocks_run_partial` and `check_bypasses_hold_partial` are
its two halves on reachable states, with the discipline as hypothesis.  `Lemmas/SafeDiscipline.lean` proves that
discipline for every history whose `define` requests with `_safe = True` name no step as creator
(`SafeDisc.HistOKS`; the director passes `_safe = True` for the boot step only).  Together: in every database
such a history reaches, a RUN job is never handed out for a step below a holding creator
(`Props.C12.held_step_is_not_started`); a job that is handed out there is a hash CHECK
(`check_bypasses_hold_of_director`).
-/
namespace StepupModel.K.Resources
open StepupModel.K
open StepupModel.K.MetaSafe

/-- A creator step that lets its products start: RUNNING or SUCCEEDED, and not inside a hold block. -/
def Lets (a : Node) : Prop := (a.sstate = .running ∨ a.sstate = .succeeded) ∧ a.holding = 0

theorem active_iff (st : StepState) : st.active = true ↔ st = .running ∨ st = .succeeded := by
  unfold StepState.active; simp

/-- **C12, hold.**  What `pop_next_job` guarantees for the job it hands out, read on the database before the
call.  A job that starts a command (`checking = false`: the step has no recorded hash) is handed out only if
every recursive step creator `Lets`: no RUN job for a step below a holding creator, in particular not before
the outermost `hold` of the declaring step is released.  A job for a step below a creator with `holding > 0`
is a hash CHECK (`checking = true`): its row becomes CHECKING, which holds no resources and runs no command. -/
theorem popNext_hold {s s' : KState} {cfg : KConfig} {k : Key} {chk run : Bool}
    (hk : KeysUnique s) (hwf : StepCreatorWF s) (hc : CacheInvSafeW s)
    (h : s.popNext cfg (some k) = .ok (s', .job k chk run)) :
    (chk = false → ∀ n ∈ s.nodes, n.key = k → ∀ a, StrictAnc s a n → Lets a) ∧
    (chk = true → (∀ n ∈ s.nodes, n.key = k → ∀ a, StrictAnc s a n → a.sstate = .running ∨ a.sstate = .succeeded) ∧
      ∀ n' ∈ s'.nodes, n'.key = k → n'.sstate = .checking) := by
  obtain ⟨su, n, _, hs, hn, hkey, hcre⟩ := popNext_job_creators hk hwf hc h
  have hback := fun (n0 : Node) hn0 (hk0 : n0.key = k) a ha =>
    strictAnc_after hk hs hn hn0 (hk0.trans hkey.symm) (a := a) ha
  refine ⟨fun hf n0 hn0 hk0 a ha => ?_, fun ht => ⟨fun n0 hn0 hk0 a ha => ?_, fun n' hn' hk' => ?_⟩⟩
  · obtain ⟨a', ha', ea⟩ := hback n0 hn0 hk0 a ha
    rcases hcre with h3 | ⟨_, ⟨_, hd⟩, _⟩
    · exact ⟨structView_sstate ea ▸ (active_iff _).1 (h3 a' ha').1, structView_holding ea ▸ (h3 a' ha').2⟩
    · cases hd; cases hf
  · obtain ⟨a', ha', ea⟩ := hback n0 hn0 hk0 a ha
    rw [structView_sstate ea]
    rcases hcre with h3 | ⟨_, _, h3⟩
    · exact (active_iff _).1 (h3 a' ha').1
    · exact (active_iff _).1 (h3 a' ha')
  · obtain ⟨su', m, _, hm, hmk, _, _, hchk, _, hw⟩ := popNext_job h
    rw [← hchk, ht, if_pos rfl] at hw
    rcases writeStepState_ok hw with ⟨hnone, _⟩ | ⟨_, m', _, hrw, rfl⟩
    · exact absurd (decide_eq_true hmk) (List.find?_eq_none.1 hnone m hm)
    · obtain ⟨x, hx, rfl⟩ := List.mem_map.1 hn'
      by_cases hxk : x.key = k
      · rw [if_pos hxk]; exact (stepRowWrite_cols hrw).2.2
      · rw [if_neg hxk] at hk'; exact absurd hk' hxk

/-- **Full statement (hold).**  After every history, `pop_next_job` sets a step RUNNING only if every
recursive step creator is RUNNING or SUCCEEDED and holds nothing.  (Not provable as it stands: it needs
the flag discipline of `_update_meta_safe`, which a `define` with `_safe = True` under a step creator
breaks, `Props.C10.define_safe_under_step_negation`.) -/
def HoldBlocksRun : Prop :=
  ∀ (h : List (KConfig × Req)) (cfg : KConfig) (k : Key) (s' : KState) (run : Bool),
    (KState.init.run h).popNext cfg (some k) = .ok (s', .job k false run) →
    ∀ n ∈ (KState.init.run h).nodes, n.key = k → ∀ a, StrictAnc (KState.init.run h) a n → Lets a

/-- **Hold, reachable states** (`_partial`: the flag discipline of `_update_meta_safe` is a hypothesis; it is a
theorem for the histories of the director, `Props.C12.held_step_is_not_started`).  One row per key and acyclic
step-creator links hold after every history. -/
theorem hold_blocks_run_partial (h : List (KConfig × Req)) (hc : CacheInvSafeW (KState.init.run h))
    {cfg : KConfig} {k : Key} {s' : KState} {run : Bool}
    (hp : (KState.init.run h).popNext cfg (some k) = .ok (s', .job k false run)) :
    ∀ n ∈ (KState.init.run h).nodes, n.key = k → ∀ a, StrictAnc (KState.init.run h) a n → Lets a :=
  (popNext_hold (keysNodup_reachable h) (stepCreatorWF_reachable h) hc hp).1 rfl

theorem check_bypasses_hold_partial (h : List (KConfig × Req)) (hc : CacheInvSafeW (KState.init.run h))
    {cfg : KConfig} {k : Key} {s' : KState} {run : Bool}
    (hp : (KState.init.run h).popNext cfg (some k) = .ok (s', .job k true run)) :
    (∀ n ∈ (KState.init.run h).nodes, n.key = k → ∀ a, StrictAnc (KState.init.run h) a n →
      a.sstate = .running ∨ a.sstate = .succeeded) ∧
    (∀ n' ∈ s'.nodes, n'.key = k → runs n' = false) := by
  obtain ⟨h1, h2⟩ := (popNext_hold (keysNodup_reachable h) (stepCreatorWF_reachable h) hc hp).2 rfl
  refine ⟨h1, fun n' hn' hk' => ?_⟩
  unfold runs
  rw [h2 n' hn' hk']
  simp

namespace Witness

/-- `runState` after `hold ./plan.py`: inside a hold block of the plan (`Step.hold` flags the subtree). -/
def heldState : KState := runState.modify plan fun n => { n with holding := 1, checkAfter := true }

def heldHashState : KState := heldState.modify stA fun n => { n with shash := some 7, hasHash := true }

def rankW (k : Key) : Nat := if k = plan then 0 else if k = stA then 1 else 2

end Witness

open Witness in
/-- `popNext_hold`, RUN job: no hold, `A` is handed out to run. -/
example : KeysUnique runState ∧ StepCreatorWF runState ∧ CacheInvSafeW runState ∧
    (match runState.popNext cfgA (some stA) with | .ok (_, .job _ false _) => true | _ => false) = true := by
  have h := safeW_checked rankW (s := runState) (by decide +kernel)
  exact ⟨h.1, h.2.1, h.2.2, by decide +kernel⟩

open Witness in
/-- Inside the hold block nothing is handed out for `A` (the dispatch answers `none`; choosing `A` is rejected). -/
example : KeysUnique heldState ∧ StepCreatorWF heldState ∧ CacheInvSafeW heldState ∧
    (match heldState.popNext cfgA none with | .ok (_, .none) => true | _ => false) = true ∧
    (match heldState.popNext cfgA (some stA) with | .ok _ => true | .error _ => false) = false := by
  have h := safeW_checked rankW (s := heldState) (by decide +kernel)
  exact ⟨h.1, h.2.1, h.2.2, by decide +kernel, by decide +kernel⟩

open Witness in
/-- Inside the hold block a step with a recorded hash is handed out, as a CHECK job. -/
example : KeysUnique heldHashState ∧ StepCreatorWF heldHashState ∧ CacheInvSafeW heldHashState ∧
    (match heldHashState.popNext cfgA (some stA) with | .ok (_, .job _ true _) => true | _ => false) = true := by
  have h := safeW_checked rankW (s := heldHashState) (by decide +kernel)
  exact ⟨h.1, h.2.1, h.2.2, by decide +kernel⟩

end StepupModel.K.Resources

namespace StepupModel.K.Resources
open StepupModel.K StepupModel.K.MetaSafe StepupModel.K.SafeDisc

theorem check_bypasses_hold_of_director (h : List (KConfig × Req)) (hh : HistOKS h)
    {cfg : KConfig} {k : Key} {s' : KState} {run : Bool}
    (hp : (KState.init.run h).popNext cfg (some k) = .ok (s', .job k true run)) :
    (∀ n ∈ (KState.init.run h).nodes, n.key = k → ∀ a, StrictAnc (KState.init.run h) a n →
      a.sstate = .running ∨ a.sstate = .succeeded) ∧
    (∀ n' ∈ s'.nodes, n'.key = k → runs n' = false) :=
  check_bypasses_hold_partial h (reachable_safeDiscipline h hh) hp

example : HistOKS [] := fun _ h => by cases h

end StepupModel.K.Resources
