import StepupModel.P.Hash
import StepupModel.Lemmas.BE
/-! Unique parsing of the `HashWords` stream (helper lemmas for C13). -/
namespace StepupModel.P.Hash

def NulFree (s : Bytes) : Prop := ∀ x ∈ s, x ≠ 0

instance (s : Bytes) : Decidable (NulFree s) := by unfold NulFree; exact inferInstance

/-- A continuation is empty or starts with the `0` byte of a type marker. -/
def Cont (r : Bytes) : Prop := r = [] ∨ ∃ t, r = 0 :: t

theorem cont_nil : Cont [] := Or.inl rfl
theorem cont_zero (t : Bytes) : Cont (0 :: t) := Or.inr ⟨t, rfl⟩

theorem nulFree_cons {a : Nat} {s : Bytes} (h : NulFree (a :: s)) : a ≠ 0 ∧ NulFree s :=
  ⟨h a (List.mem_cons_self ..), fun x hx => h x (List.mem_cons_of_mem _ hx)⟩

theorem str_split {s t r1 r2 : Bytes} (hs : NulFree s) (ht : NulFree t) (h1 : Cont r1) (h2 : Cont r2)
    (h : s ++ r1 = t ++ r2) : s = t ∧ r1 = r2 := by
  -- a continuation cannot begin like a non-empty NUL-free string
  have stop : ∀ {r : Bytes} {b : Nat} {bs x : Bytes}, Cont r → NulFree (b :: bs) → r ≠ b :: x := by
    intro r b bs x hr hb e
    rcases hr with rfl | ⟨u, rfl⟩
    · cases e
    · exact (nulFree_cons hb).1 (List.cons.inj e).1.symm
  induction s generalizing t with
  | nil =>
    cases t with
    | nil => exact ⟨rfl, h⟩
    | cons b bs => exact absurd h (stop h1 ht)
  | cons a as ih =>
    cases t with
    | nil => exact absurd h.symm (stop h2 hs)
    | cons b bs =>
      obtain ⟨hab, h⟩ := List.cons.inj h
      obtain ⟨hst, hr⟩ := ih (nulFree_cons hs).2 (nulFree_cons ht).2 h
      exact ⟨by rw [hab, hst], hr⟩

theorem fixed_split {b1 b2 r1 r2 : Bytes} (hl : b1.length = b2.length) (h : b1 ++ r1 = b2 ++ r2) :
    b1 = b2 ∧ r1 = r2 := List.append_inj h hl

theorem wStr_split {s t r1 r2 : Bytes} (hs : NulFree s) (ht : NulFree t)
    (h : wStr s ++ r1 = wStr t ++ r2) (h1 : Cont r1) (h2 : Cont r2) : s = t ∧ r1 = r2 :=
  str_split hs ht h1 h2 (List.cons.inj (List.cons.inj h).2).2

theorem wBytes_split {b1 b2 r1 r2 : Bytes} (h : wBytes b1 ++ r1 = wBytes b2 ++ r2)
    (hl : b1.length = b2.length) : b1 = b2 ∧ r1 = r2 :=
  fixed_split hl (List.cons.inj (List.cons.inj h).2).2

/-- Words of different type differ in their second byte. -/
theorem tag_ne {a b : Nat} (hab : a ≠ b) {x y : Bytes} : (0 :: a :: x : Bytes) ≠ 0 :: b :: y :=
  fun h => hab (List.cons.inj (List.cons.inj h).2).1

theorem be8_length (n : Nat) : (be8 n).length = 8 := rfl

theorem be8_eq_be (n : Nat) : be8 n = Rpc.be 8 n := by
  simp only [be8, Rpc.be, Nat.div_div_eq_div_mul, Nat.reduceMul, List.nil_append, List.cons_append]

theorem be8_inj {n m : Nat} (hn : n < 18446744073709551616) (hm : m < 18446744073709551616)
    (h : be8 n = be8 m) : n = m :=
  Rpc.be_inj (k := 8) hn hm (by rwa [← be8_eq_be, ← be8_eq_be])

/-- A digest: the 1-byte unknown marker, or 32 bytes. -/
def WFDigest (d : Bytes) : Prop := d = unknownDigest ∨ d.length = 32

theorem digestWord_unknown : digestWord unknownDigest = wNone := if_pos rfl

theorem digestWord_of_length {d : Bytes} (h : d.length = 32) : digestWord d = wBytes d :=
  if_neg fun e => by rw [e] at h; cases h

theorem digest_split {d1 d2 r1 r2 : Bytes} (h1 : WFDigest d1) (h2 : WFDigest d2)
    (h : digestWord d1 ++ r1 = digestWord d2 ++ r2) : d1 = d2 ∧ r1 = r2 := by
  rcases h1 with rfl | l1 <;> rcases h2 with rfl | l2
  · exact ⟨rfl, List.append_cancel_left h⟩
  · rw [digestWord_unknown, digestWord_of_length l2] at h; exact absurd h (tag_ne (by decide))
  · rw [digestWord_unknown, digestWord_of_length l1] at h; exact absurd h (tag_ne (by decide))
  · rw [digestWord_of_length l1, digestWord_of_length l2] at h; exact wBytes_split h (l1.trans l2.symm)

def WFFile (f : FileE) : Prop :=
  NulFree f.path ∧ f.mode < 18446744073709551616 ∧ f.size < 18446744073709551616 ∧ WFDigest f.digest

theorem encFile_append (f : FileE) (r : Bytes) : encFile f ++ r =
    wStr f.path ++ (wBytes (be8 f.mode) ++ (wBytes (be8 f.size) ++ (digestWord f.digest ++ r))) := by
  simp only [encFile, List.append_assoc]

theorem file_split {f g : FileE} {r1 r2 : Bytes} (hf : WFFile f) (hg : WFFile g)
    (h : encFile f ++ r1 = encFile g ++ r2) : f = g ∧ r1 = r2 := by
  rw [encFile_append, encFile_append] at h
  obtain ⟨hp, h⟩ := wStr_split hf.1 hg.1 h (cont_zero _) (cont_zero _)
  obtain ⟨hm, h⟩ := wBytes_split h rfl
  obtain ⟨hs, h⟩ := wBytes_split h rfl
  obtain ⟨hd, hr⟩ := digest_split hf.2.2.2 hg.2.2.2 h
  have hm := be8_inj hf.2.1 hg.2.1 hm
  have hs := be8_inj hf.2.2.1 hg.2.2.1 hs
  cases f; cases g; cases hp; cases hm; cases hs; cases hd
  exact ⟨rfl, hr⟩

/-- Injectivity of the concatenated encodings of a list that is followed by a terminator `Term`,
from unique splitting of one item (`split`) and from a terminator never looking like an item (`ne`). -/
theorem list_inj {α : Type} {enc : α → Bytes} {encs : List α → Bytes} {WF : α → Prop} {Term : Bytes → Prop}
    (nil : encs [] = []) (cons : ∀ a l, encs (a :: l) = enc a ++ encs l)
    (split : ∀ {a b r1 r2}, WF a → WF b → Cont r1 → Cont r2 → enc a ++ r1 = enc b ++ r2 → a = b ∧ r1 = r2)
    (ne : ∀ {r r' a}, Term r → WF a → r ≠ enc a ++ r')
    (cont : ∀ l {r}, Term r → Cont (encs l ++ r))
    (l1 l2 : List α) {r1 r2 : Bytes} (h1 : ∀ a ∈ l1, WF a) (h2 : ∀ a ∈ l2, WF a) (t1 : Term r1) (t2 : Term r2)
    (h : encs l1 ++ r1 = encs l2 ++ r2) : l1 = l2 ∧ r1 = r2 := by
  induction l1 generalizing l2 with
  | nil =>
    cases l2 with
    | nil => rw [nil] at h; exact ⟨rfl, h⟩
    | cons b l2 =>
      rw [nil, cons, List.append_assoc] at h
      exact absurd h (ne t1 (h2 b (List.mem_cons_self ..)))
  | cons a l1 ih =>
    cases l2 with
    | nil =>
      rw [nil, cons, List.append_assoc] at h
      exact absurd h.symm (ne t2 (h1 a (List.mem_cons_self ..)))
    | cons b l2 =>
      rw [cons, cons, List.append_assoc, List.append_assoc] at h
      obtain ⟨hab, h⟩ := split (h1 a (List.mem_cons_self ..)) (h2 b (List.mem_cons_self ..))
        (cont l1 t1) (cont l2 t2) h
      obtain ⟨hl, hr⟩ := ih l2 (fun x hx => h1 x (List.mem_cons_of_mem _ hx))
        (fun x hx => h2 x (List.mem_cons_of_mem _ hx)) h
      exact ⟨by rw [hab, hl], hr⟩

/-- What may follow the file section: the end, or a `str` word followed by the end or by a
`str`/`None` marker (never a `bytes` marker, which is what follows a path). -/
def FilesTerm (r : Bytes) : Prop :=
  r = [] ∨ ∃ k t, r = 0 :: 1 :: (k ++ t) ∧ NulFree k ∧ (t = [] ∨ ∃ u, t = 0 :: 1 :: u ∨ t = 0 :: 2 :: u)

theorem filesTerm_cont {r : Bytes} (h : FilesTerm r) : Cont r := by
  rcases h with rfl | ⟨k, t, rfl, _, _⟩
  · exact cont_nil
  · exact cont_zero _

theorem cont_encFiles (fs : List FileE) {r : Bytes} (h : Cont r) : Cont (encFiles fs ++ r) := by
  cases fs with
  | nil => exact h
  | cons f fs => exact cont_zero _

theorem term_ne_file {r r' : Bytes} {g : FileE} (hr : FilesTerm r) (hg : WFFile g) :
    r ≠ encFile g ++ r' := by
  intro h
  rw [encFile_append] at h
  rcases hr with rfl | ⟨k, t, rfl, hk, ht⟩
  · cases h
  · have hc : Cont t := by
      rcases ht with rfl | ⟨u, rfl | rfl⟩
      · exact cont_nil
      · exact cont_zero _
      · exact cont_zero _
    obtain ⟨_, h⟩ := wStr_split hk hg.1 h hc (cont_zero _)
    rcases ht with rfl | ⟨u, rfl | rfl⟩
    · cases h
    · exact tag_ne (by decide) h
    · exact tag_ne (by decide) h

theorem files_inj (fs gs : List FileE) (r1 r2 : Bytes) (hf : ∀ f ∈ fs, WFFile f) (hg : ∀ g ∈ gs, WFFile g)
    (h1 : FilesTerm r1) (h2 : FilesTerm r2)
    (h : encFiles fs ++ r1 = encFiles gs ++ r2) : fs = gs ∧ r1 = r2 :=
  list_inj rfl (fun _ _ => rfl) (fun ha hb _ _ => file_split ha hb) term_ne_file
    (fun l _ t => cont_encFiles l (filesTerm_cont t)) fs gs hf hg h1 h2 h

/-- `e.1 ≠ kwOvr` is the explicit hypothesis that excludes finding F1. -/
def WFEnv (e : Bytes × Option Bytes) : Prop :=
  NulFree e.1 ∧ (∀ w, e.2 = some w → NulFree w) ∧ e.1 ≠ kwOvr

/-- What follows the tracked variables: the `__env_overrides__` keyword and the overrides. -/
def EnvTerm (r : Bytes) : Prop := ∃ t, r = wStr kwOvr ++ t ∧ Cont t

theorem kwOvr_nulFree : NulFree kwOvr := by decide
theorem kwEnv_nulFree : NulFree kwEnv := by decide

theorem cont_encEnvs (es : List (Bytes × Option Bytes)) {r : Bytes} (h : Cont r) : Cont (encEnvs es ++ r) := by
  cases es with
  | nil => exact h
  | cons e es => exact cont_zero _

theorem encEnv_append (e : Bytes × Option Bytes) (r : Bytes) :
    encEnv e ++ r = wStr e.1 ++ ((match e.2 with | some v => wStr v | none => wNone) ++ r) :=
  List.append_assoc ..

theorem cont_envval (v : Option Bytes) (r : Bytes) :
    Cont ((match v with | some v => wStr v | none => wNone) ++ r) := by
  cases v <;> exact cont_zero _

theorem env_split {e g : Bytes × Option Bytes} {r1 r2 : Bytes} (he : WFEnv e) (hg : WFEnv g)
    (h1 : Cont r1) (h2 : Cont r2) (h : encEnv e ++ r1 = encEnv g ++ r2) : e = g ∧ r1 = r2 := by
  obtain ⟨en, ev⟩ := e
  obtain ⟨gn, gv⟩ := g
  rw [encEnv_append, encEnv_append] at h
  obtain ⟨rfl, h⟩ : en = gn ∧ _ := wStr_split he.1 hg.1 h (cont_envval ..) (cont_envval ..)
  cases ev with
  | none =>
    cases gv with
    | none => exact ⟨rfl, List.append_cancel_left h⟩
    | some w => exact absurd h.symm (tag_ne (by decide))
  | some v =>
    cases gv with
    | none => exact absurd h (tag_ne (by decide))
    | some w =>
      obtain ⟨rfl, hr⟩ := wStr_split (he.2.1 v rfl) (hg.2.1 w rfl) h h1 h2
      exact ⟨rfl, hr⟩

theorem envTerm_ne_env {r r' : Bytes} {g : Bytes × Option Bytes} (hr : EnvTerm r) (hg : WFEnv g) :
    r ≠ encEnv g ++ r' := by
  obtain ⟨t, rfl, ht⟩ := hr
  intro h
  rw [encEnv_append] at h
  exact hg.2.2 (wStr_split kwOvr_nulFree hg.1 h ht (cont_envval ..)).1.symm

theorem envs_inj (es gs : List (Bytes × Option Bytes)) (r1 r2 : Bytes)
    (he : ∀ e ∈ es, WFEnv e) (hg : ∀ g ∈ gs, WFEnv g) (h1 : EnvTerm r1) (h2 : EnvTerm r2)
    (h : encEnvs es ++ r1 = encEnvs gs ++ r2) : es = gs ∧ r1 = r2 :=
  list_inj rfl (fun _ _ => rfl) env_split envTerm_ne_env
    (fun l _ ⟨_, e, _⟩ => cont_encEnvs l (e ▸ cont_zero _)) es gs he hg h1 h2 h

def WFOvr (e : Bytes × Bytes) : Prop := NulFree e.1 ∧ NulFree e.2

theorem cont_encOvrs (es : List (Bytes × Bytes)) : Cont (encOvrs es) := by
  cases es with
  | nil => exact cont_nil
  | cons e es => exact cont_zero _

theorem ovr_split {e g : Bytes × Bytes} {r1 r2 : Bytes} (he : WFOvr e) (hg : WFOvr g)
    (h1 : Cont r1) (h2 : Cont r2) (h : encOvr e ++ r1 = encOvr g ++ r2) : e = g ∧ r1 = r2 := by
  obtain ⟨en, ev⟩ := e
  obtain ⟨gn, gv⟩ := g
  rw [encOvr, encOvr, List.append_assoc, List.append_assoc] at h
  obtain ⟨rfl, h⟩ : en = gn ∧ _ := wStr_split he.1 hg.1 h (cont_zero _) (cont_zero _)
  obtain ⟨rfl, hr⟩ : ev = gv ∧ _ := wStr_split he.2 hg.2 h h1 h2
  exact ⟨rfl, hr⟩

theorem ovrs_inj (es gs : List (Bytes × Bytes)) (he : ∀ e ∈ es, WFOvr e) (hg : ∀ g ∈ gs, WFOvr g)
    (h : encOvrs es = encOvrs gs) : es = gs :=
  (list_inj (Term := (· = [])) rfl (fun _ _ => rfl) ovr_split (fun hr _ h => by rw [hr] at h; cases h)
    (fun l _ hr => by rw [hr, List.append_nil]; exact cont_encOvrs l) es gs he hg rfl rfl
    (by rw [List.append_nil, List.append_nil]; exact h)).1

end StepupModel.P.Hash
