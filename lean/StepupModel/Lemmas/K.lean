import StepupModel.K.Trellis
import StepupModel.Lemmas.Cond
/-! The kernel model's rows: lookups after a row-wise rewrite, after a row more or a row less, and the views of the
row list that a rewrite keeps.  `KState.look s v q` is what the row of `q` shows through `v`; `KState.sstateOf` and
`KState.fstateOf` are `look` at the one column `sstate`, `fstate` (by `rfl`). -/
namespace StepupModel.K

def KState.sstateOf (s : KState) (k : Key) : Option StepState := (s.find? k).map (·.sstate)

def KState.fstateOf (s : KState) (k : Key) : Option FileState := (s.find? k).map (·.fstate)

theorem sstateOf_of_find {s : KState} {k : Key} {n : Node} (h : s.find? k = some n) : s.sstateOf k = some n.sstate :=
  congrArg (Option.map Node.sstate) h

theorem fstateOf_of_find {s : KState} {k : Key} {n : Node} (h : s.find? k = some n) : s.fstateOf k = some n.fstate :=
  congrArg (Option.map Node.fstate) h

theorem sstateOf_eq_some {s : KState} {k : Key} {st : StepState} :
    s.sstateOf k = some st ↔ ∃ n, s.find? k = some n ∧ n.sstate = st := Option.map_eq_some_iff

theorem fstateOf_eq_some {s : KState} {k : Key} {st : FileState} :
    s.fstateOf k = some st ↔ ∃ n, s.find? k = some n ∧ n.fstate = st := Option.map_eq_some_iff

theorem KState.modify_eq_modifyWhere (s : KState) (k : Key) (f : Node → Node) :
    s.modify k f = s.modifyWhere (fun n => decide (n.key = k)) f := by
  unfold KState.modify KState.modifyWhere
  simp only [decide_eq_true_eq]

theorem modify_of_where {P : KState → Prop} {X : (Node → Node) → Prop}
    (leaf : ∀ (s : KState) (p : Node → Bool) (f : Node → Node), X f → P s → P (s.modifyWhere p f))
    (s : KState) (k : Key) (f : Node → Node) (hf : X f) (hp : P s) : P (s.modify k f) :=
  KState.modify_eq_modifyWhere s k f ▸ leaf s _ f hf hp

/-- `INSERT INTO / DELETE FROM dynamic_dep` with its trigger, from the row of `dynamic_dep` and the flag that
`dynamic_dep_check_ready_*` raises on the sink. -/
theorem setDynamic_of {P : KState → Prop} {X : (Node → Node) → Prop}
    (cache : ∀ (s : KState) (p : Node → Bool) (f : Node → Node), X f → P s → P (s.modifyWhere p f))
    (hX : X fun n => if n.key.kind = .step then { n with checkReady := true } else n)
    (markDyn : ∀ (s : KState) (src snk : Key) (dyn : Bool), P s →
      P { s with deps := s.deps.map fun (d : Dep) => if d.src = src ∧ d.snk = snk then { d with dyn := dyn } else d })
    (s : KState) (a b : Key) (d : Bool) (hp : P s) : P (s.setDynamic a b d) :=
  modify_of_where cache _ b _ hX (markDyn s a b d hp)

theorem mem_modifyWhere {s : KState} {p : Node → Bool} {f : Node → Node} {n' : Node}
    (h : n' ∈ (s.modifyWhere p f).nodes) : ∃ n ∈ s.nodes, n' = if p n then f n else n :=
  have ⟨n, hn, e⟩ := List.mem_map.1 h
  ⟨n, hn, e.symm⟩

theorem mem_modify {s : KState} {k : Key} {g : Node → Node} {n' : Node} (h : n' ∈ (s.modify k g).nodes) :
    ∃ n ∈ s.nodes, n' = if n.key = k then g n else n :=
  have ⟨n, hn, e⟩ := List.mem_map.1 h
  ⟨n, hn, e.symm⟩

/-- `Node.products()` of `trellis.py`, without `k` itself (the root is its own creator). -/
theorem mem_products_iff {s : KState} {k : Key} {p : Node} :
    p ∈ s.products k ↔ p ∈ s.nodes ∧ p.creator = some k ∧ p.key ≠ k := by
  unfold KState.products
  rw [List.mem_filter, decide_eq_true_eq]

theorem map_view_map {β : Type} (v : Node → β) (g : Node → Node) (l : List Node) (hg : ∀ n ∈ l, v (g n) = v n) :
    (l.map g).map v = l.map v := by
  rw [List.map_map]
  exact List.map_congr_left hg

theorem map_view_ite {β : Type} (v : Node → β) (f : Node → Node) (c : Node → Prop) [DecidablePred c] (l : List Node)
    (hf : ∀ n ∈ l, c n → v (f n) = v n) : (l.map fun n => if c n then f n else n).map v = l.map v :=
  map_view_map v _ l fun n hn => ite_ind (fun m => v m = v n) (hf n hn) fun _ => rfl

theorem map_view_modifyWhere {β : Type} (s : KState) (p : Node → Bool) (f : Node → Node) (v : Node → β)
    (hv : ∀ n, v (f n) = v n) : (s.modifyWhere p f).nodes.map v = s.nodes.map v :=
  map_view_ite v f _ s.nodes fun n _ _ => hv n

theorem map_view_modify {β : Type} (s : KState) (k : Key) (f : Node → Node) (v : Node → β)
    (hv : ∀ n ∈ s.nodes, n.key = k → v (f n) = v n) : (s.modify k f).nodes.map v = s.nodes.map v :=
  map_view_ite v f _ s.nodes hv

theorem keys_modify (s : KState) (k : Key) (f : Node → Node) (hf : ∀ n ∈ s.nodes, n.key = k → (f n).key = k) :
    (s.modify k f).nodes.map (·.key) = s.nodes.map (·.key) :=
  map_view_modify s k f (·.key) fun n hn hk => (hf n hn hk).trans hk.symm

theorem find?_map_key (l : List Node) (g : Node → Node) (q : Key) (hkey : ∀ n ∈ l, (g n).key = n.key) :
    (l.map g).find? (·.key = q) = (l.find? (·.key = q)).map g := by
  induction l with
  | nil => rfl
  | cons a as ih =>
    rw [List.map_cons, List.find?_cons, List.find?_cons, hkey a List.mem_cons_self,
      ih fun n hn => hkey n (List.mem_cons_of_mem _ hn)]
    cases decide (a.key = q) <;> rfl

theorem find?_mapNodes (s : KState) (g : Node → Node) (hg : ∀ n, (g n).key = n.key) (k : Key) :
    ({ s with nodes := s.nodes.map g } : KState).find? k = (s.find? k).map g :=
  find?_map_key s.nodes g k fun n _ => hg n

theorem find?_modifyWhere (s : KState) (p : Node → Bool) (f : Node → Node) (q : Key)
    (hkey : ∀ n, (f n).key = n.key) :
    (s.modifyWhere p f).find? q = (s.find? q).map (fun n => if p n then f n else n) := by
  unfold KState.modifyWhere KState.find?
  apply find?_map_key
  intro n _
  by_cases h : p n = true <;> simp [h, hkey]

theorem find?_modify (s : KState) (k q : Key) (f : Node → Node) (hkey : ∀ n, n.key = k → (f n).key = k) :
    (s.modify k f).find? q = (s.find? q).map (fun n => if n.key = k then f n else n) := by
  unfold KState.modify KState.find?
  apply find?_map_key
  intro n _
  by_cases h : n.key = k
  · simp [h, hkey n h]
  · simp [h]

theorem find_key {s : KState} {k : Key} {n : Node} (h : s.find? k = some n) : n.key = k :=
  of_decide_eq_true (List.find?_some (p := fun m : Node => decide (m.key = k)) h)

theorem find_mem {s : KState} {k : Key} {n : Node} (h : s.find? k = some n) : n ∈ s.nodes :=
  List.mem_of_find?_eq_some h

theorem find?_modify_ne (s : KState) (k q : Key) (f : Node → Node) (hkey : ∀ n, n.key = k → (f n).key = k)
    (hne : q ≠ k) : (s.modify k f).find? q = s.find? q := by
  rw [find?_modify s k q f hkey]
  cases h : s.find? q with
  | none => rfl
  | some n => exact congrArg some (if_neg fun hn => hne ((find_key h).symm.trans hn))

theorem find?_modify_self (s : KState) (k : Key) (f : Node → Node) (hkey : ∀ n, n.key = k → (f n).key = k) :
    (s.modify k f).find? k = (s.find? k).map f := by
  rw [find?_modify s k k f hkey]
  cases h : s.find? k with
  | none => rfl
  | some n => exact congrArg some (if_pos (find_key h))

theorem find?_modify_const {s : KState} {k : Key} {n : Node} (n' : Node) (hf : s.find? k = some n)
    (hk : n'.key = n.key) (q : Key) : (s.modify k fun _ => n').find? q = if q = k then some n' else s.find? q := by
  have hkey : ∀ m : Node, m.key = k → n'.key = k := fun _ _ => hk.trans (find_key hf)
  by_cases hq : q = k
  · rw [if_pos hq, hq, find?_modify_self s k _ hkey, hf]; rfl
  · rw [if_neg hq, find?_modify_ne s k q _ hkey hq]

theorem eq_of_find {s : KState} (h : (s.nodes.map (·.key)).Nodup) {k : Key} {n m : Node} (hf : s.find? k = some n)
    (hm : m ∈ s.nodes) (hmk : m.key = k) : m = n :=
  eq_of_nodup_map h hm (find_mem hf) (hmk.trans (find_key hf).symm)

theorem find?_of_mem {s : KState} (h : (s.nodes.map (·.key)).Nodup) {n : Node} (hn : n ∈ s.nodes) :
    s.find? n.key = some n :=
  find?_of_nodup_map (f := fun x : Node => x.key) h hn

theorem modify_absent {s : KState} {k : Key} (hf : s.find? k = none) (f : Node → Node) : s.modify k f = s := by
  unfold KState.modify
  have : (s.nodes.map fun n => if n.key = k then f n else n) = s.nodes := by
    rw [List.map_congr_left (g := id) fun m hm => ?_, List.map_id]
    rw [if_neg fun hp => by simpa [hp] using List.find?_eq_none.1 hf m hm]
    rfl
  rw [this]

theorem modifyWhere_none (s : KState) (p : Node → Bool) (f : Node → Node) (h : ∀ n ∈ s.nodes, p n = false) :
    s.modifyWhere p f = s := by
  unfold KState.modifyWhere
  rw [show (s.nodes.map fun n => if p n = true then f n else n) = s.nodes from
    (List.map_congr_left fun n hn => by rw [h n hn]; rfl).trans (List.map_id' _)]

/-- The row that `INSERT INTO node` appends. -/
def newRow (s : KState) (k : Key) (c : Option Key) : Node :=
  { key := k, creator := c, detached := s.creatorDetached c }

theorem mem_appendNode {s : KState} {k : Key} {c : Option Key} {n : Node} :
    n ∈ (s.appendNode k c).nodes ↔ n ∈ s.nodes ∨ n = newRow s k c := by
  show n ∈ s.nodes ++ [newRow s k c] ↔ _
  rw [List.mem_append, List.mem_singleton]

theorem find?_appendNode (s : KState) (k q : Key) (c : Option Key) :
    (s.appendNode k c).find? q = (s.find? q).or (if k = q then some (newRow s k c) else none) := by
  show (s.nodes ++ [newRow s k c]).find? _ = _
  rw [List.find?_append, List.find?_singleton]
  by_cases hk : k = q
  · rw [if_pos hk, if_pos (decide_eq_true (show (newRow s k c).key = q from hk))]; rfl
  · rw [if_neg hk, if_neg (fun h => hk (of_decide_eq_true (p := (newRow s k c).key = q) h))]; rfl

theorem find?_filter_ne (l : List Node) (k q : Key) (h : q ≠ k) :
    (l.filter (·.key ≠ k)).find? (·.key = q) = l.find? (·.key = q) := by
  rw [List.find?_filter]
  congr 1
  funext a
  by_cases ha : a.key = q
  · simp [ha, h]
  · simp [ha]

theorem key_ne_of_find?_none {s : KState} {k : Key} (hf : s.find? k = none) {m : Node} (hm : m ∈ s.nodes) : m.key ≠ k :=
  fun hk => absurd (decide_eq_true hk) (List.find?_eq_none.1 hf m hm)

/-! ## What the row of a key shows through a view

A specification that reads the other rows only as `s.look v` is untouched by a write that keeps `look v`.  `sstateOf` and
`fstateOf` above, `envsOf` (`Lemmas/EnvRows.lean`) are `look` at one column, by `rfl`. -/

def KState.look {β : Type} (s : KState) (v : Node → β) (q : Key) : Option β := (s.find? q).map v

section look
variable {β : Type} {v : Node → β} {s s' : KState}

theorem look_map_found (g : Node → Node) (hn : s'.nodes = s.nodes.map g) (hkey : ∀ n ∈ s.nodes, (g n).key = n.key) (q : Key)
    (hv : ∀ n, s.find? q = some n → v (g n) = v n) : s'.look v q = s.look v q := by
  unfold KState.look KState.find?
  rw [hn, find?_map_key _ g q hkey, Option.map_map]
  exact Option.map_congr fun m hf => hv m hf

theorem look_map (g : Node → Node) (hn : s'.nodes = s.nodes.map g) (hkey : ∀ n ∈ s.nodes, (g n).key = n.key) (q : Key)
    (hv : ∀ n ∈ s.nodes, n.key = q → v (g n) = v n) : s'.look v q = s.look v q :=
  look_map_found g hn hkey q fun n hf => hv n (List.mem_of_find?_eq_some hf) (find_key (s := s) hf)

theorem look_appendNode (s : KState) (k q : Key) (c : Option Key) (h : k ≠ q) :
    (s.appendNode k c).look v q = s.look v q := by
  unfold KState.look
  rw [find?_appendNode, if_neg h, Option.or_none]

theorem look_filter {k : Key} (hn : s'.nodes = s.nodes.filter (·.key ≠ k)) (q : Key) (h : q ≠ k) :
    s'.look v q = s.look v q := by
  unfold KState.look KState.find?
  rw [hn, find?_filter_ne _ _ _ h]

theorem find?_none_of_look (q : Key) (h : s'.look v q = s.look v q) (hf : s'.find? q = none) : s.find? q = none := by
  unfold KState.look at h
  rw [hf] at h
  exact Option.map_eq_none_iff.1 h.symm

end look

theorem look_modifyWhere {β : Type} (s : KState) (p : Node → Bool) (f : Node → Node) (v : Node → β)
    (q : Key) (hkey : ∀ n, (f n).key = n.key) (hv : ∀ n, v (f n) = v n) :
    (s.modifyWhere p f).look v q = s.look v q :=
  look_map _ rfl (fun n _ => ite_both (fun m : Node => m.key = n.key) (hkey n) rfl) q
    fun n _ _ => ite_both (fun m : Node => v m = v n) (hv n) rfl

theorem look_modify {β : Type} (s : KState) (k : Key) (f : Node → Node) (v : Node → β)
    (q : Key) (hkey : ∀ n, (f n).key = n.key) (hv : ∀ n, v (f n) = v n) :
    (s.modify k f).look v q = s.look v q :=
  s.modify_eq_modifyWhere k f ▸ look_modifyWhere s _ f v q hkey hv

theorem look_modify_const {β : Type} (v : Node → β) {s : KState} {k : Key} {n : Node} (n' : Node)
    (hf : s.find? k = some n) (hk : n'.key = n.key) (hv : v n' = v n) (q : Key) :
    (s.modify k fun _ => n').look v q = s.look v q := by
  rw [KState.look, KState.look, find?_modify_const n' hf hk q]
  split
  · rename_i hq; rw [hq, hf]; exact congrArg some hv
  · rfl

theorem map_eq_of_comp {α β γ : Type} (v : α → β) (w : β → γ) {l l' : List α} (h : l'.map v = l.map v) :
    l'.map (w ∘ v) = l.map (w ∘ v) := by
  rw [← List.map_map, ← List.map_map, h]

theorem nodes_eq_of_view {β : Type} (v : Node → β) (l1 l2 : List Node) (h : l1.map v = l2.map v)
    (hrow : ∀ a ∈ l1, ∀ b ∈ l2, v a = v b → a = b) : l1 = l2 := by
  induction l1 generalizing l2 with
  | nil =>
    cases l2 with
    | nil => rfl
    | cons b l2 => cases h
  | cons a l1 ih =>
    cases l2 with
    | nil => cases h
    | cons b l2 =>
      rw [List.map_cons, List.map_cons, List.cons.injEq] at h
      rw [hrow a List.mem_cons_self b List.mem_cons_self h.1,
        ih l2 h.2 fun x hx y hy => hrow x (List.mem_cons_of_mem _ hx) y (List.mem_cons_of_mem _ hy)]

theorem filterMap_congr' {α β : Type} {f g : α → Option β} {l : List α} (h : ∀ x ∈ l, f x = g x) :
    l.filterMap f = l.filterMap g := by
  induction l with
  | nil => rfl
  | cons a l ih =>
    simp only [List.filterMap_cons, h a List.mem_cons_self]
    rw [ih fun x hx => h x (List.mem_cons_of_mem _ hx)]

theorem bnot_or_iff {b c : Bool} : (!b || c) = true ↔ (b = true → c = true) := by
  cases b <;> simp

theorem mem_dedupKeys {l : List Key} {x : Key} : x ∈ dedupKeys l ↔ x ∈ l := by
  induction l with
  | nil => simp [dedupKeys]
  | cons k ks ih =>
    unfold dedupKeys
    by_cases hc : ks.contains k = true
    · rw [if_pos hc, ih, List.mem_cons]
      constructor
      · exact Or.inr
      · rintro (rfl | h)
        · simpa using hc
        · exact h
    · rw [if_neg hc, List.mem_cons, List.mem_cons, ih]


theorem modify_congr (s : KState) (x : Key) {f g : Node → Node} (h : ∀ n ∈ s.nodes, n.key = x → f n = g n) :
    s.modify x f = s.modify x g := by
  unfold KState.modify
  congr 1
  apply List.map_congr_left
  intro n hn
  split
  · rename_i hx; exact h n hn hx
  · rfl

theorem modify_id (s : KState) (x : Key) : s.modify x (fun n => n) = s := by
  unfold KState.modify
  simp

theorem modify_found {s : KState} {x : Key} {n : Node} (hk : (s.nodes.map (·.key)).Nodup) (hf : s.find? x = some n) (f : Node → Node) :
    (s.modify x fun _ => f n) = s.modify x f := by
  refine modify_congr s x fun m hm hx => ?_
  have := find?_of_mem hk hm
  rw [hx, hf] at this
  cases this
  rfl

theorem find?_append_self {s : KState} {k : Key} (c : Option Key) (h : s.find? k = none) :
    ∃ nk, (s.appendNode k c).find? k = some nk ∧ nk.creator = c :=
  ⟨newRow s k c, by rw [find?_appendNode, h, if_pos rfl]; rfl, rfl⟩

theorem find_cols {β : Type} {π : Node → β} {s s' : KState} {q : Key} (h : (s'.find? q).map π = (s.find? q).map π)
    {n' : Node} (hn : s'.find? q = some n') : ∃ n, s.find? q = some n ∧ π n = π n' := by
  rw [hn] at h
  cases hq : s.find? q with
  | none => rw [hq] at h; cases h
  | some n => rw [hq] at h; exact ⟨n, rfl, (Option.some.inj h).symm⟩

end StepupModel.K
