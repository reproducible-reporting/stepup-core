import StepupModel.K.Scheduler
import StepupModel.Lemmas.OpCases
import StepupModel.Lemmas.AfterLoop
import StepupModel.Lemmas.MetaRowMap
import StepupModel.Lemmas.SinkClosure
/-!
State propagation in the kernel model (`markStepPending`, `markFileOutdated`, `markConsumersPending`): what a finished
call has done to the states of the steps and files and along the dependency edges (`Marked`), and what the recursion
keeps because its two writes keep it (`PropInvC`, `PropInv`).  Then what the regenerated `_HASH_TRANSITIONS` says about
external updates, and the views `SameButAfter`, `dcore` that the scheduler refresh keeps.  The property statements are
in `Props/C01.lean`, `Props/C04.lean`.
-/
namespace StepupModel.K
open StepupModel.Generated

/-- A predicate on states that the two writes of the propagation keep: turning a BUILT file
OUTDATED, and turning a step that is neither RUNNING nor CHECKING PENDING. -/
structure PropInv (Q : KState → Prop) : Prop where
  file : ∀ s s' f, Q s → s.fstateOf f = some .built → f.kind = .file → s.setFileState f .outdated = .ok s' → Q s'
  step : ∀ s s' t st, Q s → s.sstateOf t = some st → st ≠ .running → st ≠ .checking →
    s.setStepState t .pending = .ok s' → Q s'

theorem PropInv.of_obs {Q : KState → Prop}
    (file : ∀ s s' f, Q s → s.fstateOf f = some .built →
      (∀ q, s'.fstateOf q = if q = f then some .outdated else s.fstateOf q) → (∀ q, s'.sstateOf q = s.sstateOf q) →
      s'.deps = s.deps → Q s')
    (step : ∀ s s' t st, Q s → s.sstateOf t = some st → st ≠ .running → st ≠ .checking →
      (∀ q, s'.sstateOf q = if q = t then some .pending else s.sstateOf q) → (∀ q, s'.fstateOf q = s.fstateOf q) →
      s'.deps = s.deps → Q s') : PropInv Q where
  file := fun s s' f hs hb _ h => by
    obtain ⟨hfs, hss, hd⟩ := writeFile_effect s s' f _ _ h
    exact file s s' f hs hb (fun q => by rw [hfs q, hb]; rfl) hss hd
  step := fun s s' t st hs h0 hr hc h => by
    obtain ⟨hss, hfs, hd⟩ := writeStepState_effect s s' t _ _ h
    exact step s s' t st hs h0 hr hc (fun q => by rw [hss q, h0]; rfl) hfs hd

theorem PropInv.of_look {β : Type} (π : Node → β)
    (hf : ∀ m fs fh cr, π { m with fstate := fs, fhash := fh, checkReady := cr } = π m)
    (hs : ∀ m st df cs ho dc, π { m with sstate := st, deferred := df, checkSafe := cs, holding := ho, deferCount := dc } = π m)
    (q : Key) (P : Option β → Prop) : PropInv (fun s => P (s.look π q)) where
  file := fun s s' f hp _ _ h => by rw [look_writeFile π hf h q]; exact hp
  step := fun s s' t _ hp _ _ _ h => by rw [look_writeStepState π hs h q]; exact hp

theorem propInv_stepIn (q : Key) (A : Option StepState → Prop)
    (hA : ∀ st, st ≠ .running → st ≠ .checking → A (some st) → A (some .pending)) :
    PropInv (fun s => A (s.sstateOf q)) :=
  .of_obs (fun _ _ _ hs _ _ hss _ => (hss q) ▸ hs) fun _ _ t st hs h0 hr hc hss _ _ => by
    rw [hss q]
    split
    · rename_i hq; exact hA st hr hc (h0 ▸ hq ▸ hs)
    · exact hs

theorem propInv_fileIn (q : Key) (B : Option FileState → Prop) (hB : B (some .built) → B (some .outdated)) :
    PropInv (fun s => B (s.fstateOf q)) :=
  .of_obs (fun _ _ f hs hb hfs _ _ => by
      rw [hfs q]
      split
      · rename_i hq; exact hB (hb ▸ hq ▸ hs)
      · exact hs)
    fun _ _ _ _ hs _ _ _ _ hfs _ => (hfs q) ▸ hs

/-- Stable under the propagation (`propInv_notDone`): the state of a step only ever changes to PENDING, and not at
all while it is RUNNING or CHECKING. -/
def NotDone (s : KState) (q : Key) : Prop :=
  ∀ st, s.sstateOf q = some st → st = .pending ∨ st = .running ∨ st = .checking

theorem notDone_ne_succeeded {s : KState} {q : Key} (h : NotDone s q) : s.sstateOf q ≠ some .succeeded := by
  intro hsucc
  rcases h _ hsucc with h1 | h1 | h1 <;> cases h1

theorem propInv_notDone (q : Key) : PropInv (fun s => NotDone s q) :=
  propInv_stepIn q (fun o => ∀ st, o = some st → st = .pending ∨ st = .running ∨ st = .checking)
    fun _ _ _ _ _ e => .inl (Option.some.inj e).symm

theorem propInv_busy (q : Key) (st : StepState) (hst : st = .running ∨ st = .checking) :
    PropInv (fun s => s.sstateOf q = some st) :=
  propInv_stepIn q (· = some st) fun _ hr hc e => (Option.some.inj e ▸ hst).elim (absurd · hr) (absurd · hc)

theorem propInv_notState (q : Key) (x : FileState) (hx : x ≠ .outdated) :
    PropInv (fun s => s.fstateOf q ≠ some x) :=
  propInv_fileIn q (· ≠ some x) fun _ e => hx (Option.some.inj e).symm

theorem propInv_otherFile (q : Key) (st : Option FileState) (h1 : st ≠ some .built) :
    PropInv (fun s => s.fstateOf q = st) :=
  propInv_fileIn q (· = st) fun e => absurd e.symm h1

/-- A step marked pending keeps its hash and is re-checked before it runs. -/
theorem propInv_shash (q : Key) (v : Option Nat) : PropInv (fun s => s.shashOf q = v) := by
  have hb : ∀ s : KState, s.shashOf q = ((s.find? q).map (·.shash)).join := fun s => by
    unfold KState.shashOf; cases s.find? q <;> rfl
  simp only [hb]
  exact .of_look (·.shash) (fun _ _ _ _ => rfl) (fun _ _ _ _ _ _ => rfl) q (·.join = v)

theorem PropInv.and {P Q : KState → Prop} (hP : PropInv P) (hQ : PropInv Q) : PropInv (fun s => P s ∧ Q s) where
  file := fun s s' f hs hb hk h => ⟨hP.file s s' f hs.1 hb hk h, hQ.file s s' f hs.2 hb hk h⟩
  step := fun s s' t st hs h0 hr hc h => ⟨hP.step s s' t st hs.1 h0 hr hc h, hQ.step s s' t st hs.2 h0 hr hc h⟩

theorem PropInv.forall {ι : Type} {P : ι → KState → Prop} (h : ∀ i, PropInv (P i)) :
    PropInv (fun s => ∀ i, P i s) where
  file := fun s s' f hs hb hk hw i => (h i).file s s' f (hs i) hb hk hw
  step := fun s s' t st hs h0 hr hc hw i => (h i).step s s' t st (hs i) h0 hr hc hw

theorem sinksOf_congr (s s' : KState) (h : s'.deps = s.deps) (k : Key) : s'.sinksOf k = s.sinksOf k := by
  unfold KState.sinksOf; rw [h]

/-- An input in a state in which a consumer may have succeeded on it. -/
def InputOk (st : Option FileState) : Prop := st = some .built ∨ st = some .confirmed

def StaleDep (s : KState) (d : Dep) : Prop :=
  d ∈ s.deps ∧ d.snk.kind = .step ∧ s.sstateOf d.snk = some .succeeded ∧ ¬ InputOk (s.fstateOf d.src)

def OrphanBuilt (s : KState) (d : Dep) : Prop :=
  d ∈ s.deps ∧ d.snk.kind = .file ∧ s.fstateOf d.snk = some .built ∧
    s.sstateOf d.src ≠ some .succeeded ∧ s.sstateOf d.src ≠ some .running ∧ s.sstateOf d.src ≠ some .checking

theorem dep_mem_sinksOf (s : KState) (d : Dep) (h : d ∈ s.deps) : d.snk ∈ s.sinksOf d.src :=
  KState.mem_sinksOf.2 ⟨d, h, rfl, rfl⟩

theorem completed_of {st : StepState} (hp : st ≠ .pending) (hr : st ≠ .running) (hc : st ≠ .checking) :
    st = .succeeded ∨ st = .failed := by
  cases st with
  | pending => exact absurd rfl hp
  | running => exact absurd rfl hr
  | checking => exact absurd rfl hc
  | succeeded => exact .inl rfl
  | failed => exact .inr rfl

/-- What a finished `mark_step_pending` has done, read off the observations.  The marking is closed along the edges:
no BUILT file is left behind a step whose state moved, no done step behind a file whose state moved. -/
structure Marked (s s' : KState) : Prop where
  deps : s'.deps = s.deps
  step : ∀ q, s'.sstateOf q = s.sstateOf q ∨
    s'.sstateOf q = some .pending ∧ ∃ st, s.sstateOf q = some st ∧ st ≠ .running ∧ st ≠ .checking
  file : ∀ q, s'.fstateOf q = s.fstateOf q ∨ s.fstateOf q = some .built ∧ s'.fstateOf q = some .outdated
  outs : ∀ d ∈ s.deps, d.snk.kind = .file → s'.sstateOf d.src ≠ s.sstateOf d.src → s'.fstateOf d.snk ≠ some .built
  cons : ∀ d ∈ s.deps, d.snk.kind = .step → s'.fstateOf d.src ≠ s.fstateOf d.src → NotDone s' d.snk

namespace Marked
variable {a b c s s' : KState}

theorem refl (s : KState) : Marked s s :=
  ⟨rfl, fun _ => .inl rfl, fun _ => .inl rfl, fun _ _ _ h => absurd rfl h, fun _ _ _ h => absurd rfl h⟩

theorem stepIn (h : Marked s s') (q : Key) (A : Option StepState → Prop)
    (hA : ∀ st, st ≠ .running → st ≠ .checking → A (some st) → A (some .pending)) (hs : A (s.sstateOf q)) :
    A (s'.sstateOf q) :=
  (h.step q).elim (fun e => e ▸ hs) fun ⟨hp, st, e, hr, hc⟩ => hp ▸ hA st hr hc (e ▸ hs)

theorem fileIn (h : Marked s s') (q : Key) (B : Option FileState → Prop) (hB : B (some .built) → B (some .outdated))
    (hs : B (s.fstateOf q)) : B (s'.fstateOf q) :=
  (h.file q).elim (fun e => e ▸ hs) fun ⟨hb, ho⟩ => ho ▸ hB (hb ▸ hs)

theorem notDone (h : Marked s s') {q : Key} (hq : NotDone s q) : NotDone s' q :=
  h.stepIn q (fun o => ∀ st, o = some st → st = .pending ∨ st = .running ∨ st = .checking)
    (fun _ _ _ _ _ e => .inl (Option.some.inj e).symm) hq

theorem notBuilt (h : Marked s s') {q : Key} (hq : s.fstateOf q ≠ some .built) : s'.fstateOf q ≠ some .built :=
  h.fileIn q (· ≠ some .built) (fun _ => nofun) hq

/-- Composition, with the closure of the first part asked for at the end only: this is how a single write, which
leaves its own consumers or outputs for later, is put in front of the marking that deals with them. -/
theorem after (hd : b.deps = a.deps)
    (hs : ∀ q, b.sstateOf q = a.sstateOf q ∨
      b.sstateOf q = some .pending ∧ ∃ st, a.sstateOf q = some st ∧ st ≠ .running ∧ st ≠ .checking)
    (hf : ∀ q, b.fstateOf q = a.fstateOf q ∨ a.fstateOf q = some .built ∧ b.fstateOf q = some .outdated)
    (h2 : Marked b c)
    (houts : ∀ d ∈ a.deps, d.snk.kind = .file → b.sstateOf d.src ≠ a.sstateOf d.src → c.fstateOf d.snk ≠ some .built)
    (hcons : ∀ d ∈ a.deps, d.snk.kind = .step → b.fstateOf d.src ≠ a.fstateOf d.src → NotDone c d.snk) :
    Marked a c where
  deps := h2.deps.trans hd
  -- a row that moved twice has its new state from the second part and its old one from the first
  step := fun q => (h2.step q).elim
    (fun e2 => (hs q).imp e2.trans fun g1 => ⟨e2.trans g1.1, g1.2⟩)
    fun g2 => .inr ⟨g2.1, (hs q).elim (fun e1 => g2.2.imp fun _ g => ⟨e1.symm.trans g.1, g.2⟩) (·.2)⟩
  file := fun q => (h2.file q).elim
    (fun e2 => (hf q).imp e2.trans fun g1 => ⟨g1.1, e2.trans g1.2⟩)
    fun g2 => .inr ⟨(hf q).elim (fun e1 => e1.symm.trans g2.1) (·.1), g2.2⟩
  -- a source that moved did so in the first part (closed by hypothesis), or only in the second (closed there)
  outs := fun d hm hk hne =>
    Classical.byCases
      (fun e1 : b.sstateOf d.src = a.sstateOf d.src => h2.outs d (hd.symm ▸ hm) hk fun e => hne (e.trans e1))
      (houts d hm hk)
  cons := fun d hm hk hne =>
    Classical.byCases
      (fun e1 : b.fstateOf d.src = a.fstateOf d.src => h2.cons d (hd.symm ▸ hm) hk fun e => hne (e.trans e1))
      (hcons d hm hk)

theorem trans (h1 : Marked a b) (h2 : Marked b c) : Marked a c :=
  after h1.deps h1.step h1.file h2 (fun d hd hk e1 => h2.notBuilt (h1.outs d hd hk e1))
    fun d hd hk e1 => h2.notDone (h1.cons d hd hk e1)

theorem foldlM {α : Type} (f : KState → α → M KState) (l : List α)
    (hf : ∀ b a b', f b a = .ok b' → Marked b b') (s s' : KState) (h : l.foldlM f s = .ok s') : Marked s s' :=
  foldlM_keeps (Marked s) f l (fun b a b' _ hb hr => hb.trans (hf b a b' hr)) s s' (Marked.refl s) h

theorem builtBehind (h : Marked s s') {d : Dep} (hd : d ∈ s'.deps) (hk : d.snk.kind = .file)
    (hb : s'.fstateOf d.snk = some .built) :
    d ∈ s.deps ∧ s.fstateOf d.snk = some .built ∧ s'.sstateOf d.src = s.sstateOf d.src :=
  ⟨h.deps ▸ hd, (h.file d.snk).elim (fun e => e ▸ hb) fun g => FileState.noConfusion (Option.some.inj (g.2.symm.trans hb)),
    Classical.byContradiction fun hne => h.outs d (h.deps ▸ hd) hk hne hb⟩

theorem doneBehind (h : Marked s s') {d : Dep} (hd : d ∈ s'.deps) (hk : d.snk.kind = .step)
    (hs : s'.sstateOf d.snk = some .succeeded) :
    d ∈ s.deps ∧ s.sstateOf d.snk = some .succeeded ∧ s'.fstateOf d.src = s.fstateOf d.src :=
  ⟨h.deps ▸ hd, (h.step d.snk).elim (fun e => e ▸ hs) fun g => StepState.noConfusion (Option.some.inj (g.1.symm.trans hs)),
    Classical.byContradiction fun hne => notDone_ne_succeeded (h.cons d (h.deps ▸ hd) hk hne) hs⟩

theorem stale (h : Marked s s') (d : Dep) (hd : StaleDep s' d) : StaleDep s d :=
  have ⟨hm, hs, hf⟩ := h.doneBehind hd.1 hd.2.1 hd.2.2.1
  ⟨hm, hd.2.1, hs, hf ▸ hd.2.2.2⟩

theorem orphan (h : Marked s s') (d : Dep) (hd : OrphanBuilt s' d) : OrphanBuilt s d :=
  have ⟨hm, hb, hs⟩ := h.builtBehind hd.1 hd.2.1 hd.2.2.1
  ⟨hm, hd.2.1, hb, hs ▸ hd.2.2.2⟩

theorem afterOutdate {s s1 s' : KState} {f : Key} (hbf : s.fstateOf f = some .built)
    (hw : s.setFileState f .outdated = .ok s1) (hm : Marked s1 s')
    (hcons : ∀ t ∈ s1.sinksOf f, t.kind = .step → NotDone s' t) :
    Marked s s' ∧ s'.fstateOf f ≠ some .built := by
  obtain ⟨hfs, hss, hdeps⟩ := writeFile_effect s s1 f _ _ hw
  have h1 : s1.fstateOf f = some .outdated := by rw [hfs f, if_pos rfl, hbf]; rfl
  have hother : ∀ q, q ≠ f → s1.fstateOf q = s.fstateOf q := fun q hq => by rw [hfs q, if_neg hq]
  refine ⟨hm.after hdeps (fun q => .inl (hss q)) (fun q => ?_) (fun d _ _ hne => absurd (hss _) hne)
    fun d hd hk hne => ?_, hm.notBuilt (h1 ▸ nofun)⟩
  · by_cases hq : q = f
    · exact .inr ⟨hq ▸ hbf, hq ▸ h1⟩
    · exact .inl (hother q hq)
  · have hq : d.src = f := Decidable.byContradiction fun hq => hne (hother _ hq)
    exact hcons d.snk (hq ▸ dep_mem_sinksOf s1 d (hdeps ▸ hd)) hk

end Marked

theorem outdateStep_marked {rec : KState → Key → M KState}
    (ih : ∀ b a b', rec b a = .ok b' → Marked b b' ∧ NotDone b' a) {s s' : KState} {f : Key}
    (h : outdateStep rec s f = .ok s') : Marked s s' ∧ (f.kind = .file → s'.fstateOf f ≠ some .built) := by
  rcases outdateStep_ok h with ⟨rfl, hnb⟩ | ⟨s1, _, hbf, hw, h⟩
  · exact ⟨.refl _, fun hk hb => hnb ⟨hk, hb⟩⟩
  · have hmarked := foldlM_each (fun (t : Key) (b : KState) => NotDone b t) _ _
      (fun b a b' hr => (ih b a b' hr).2) (fun b a a' b' hb hr => (ih b a' b' hr).1.notDone hb) s1 s' h
    exact (Marked.afterOutdate hbf hw (Marked.foldlM _ _ (fun b a b' hr => (ih b a b' hr).1) s1 s' h)
      fun t ht hk => hmarked t (List.mem_filter.2 ⟨ht, decide_eq_true hk⟩)).imp_right fun g _ => g

/-- By induction on the fuel.  `mark_file_outdated` marks every consumer, and `mark_step_pending` outdates every
output of a step that had completed; that a sink once dealt with stays so comes from the induction hypothesis. -/
theorem markStepPending_marked :
    ∀ (fuel : Nat) (s s' : KState) (k : Key), markStepPending fuel s k = .ok s' → Marked s s' ∧ NotDone s' k := by
  intro fuel
  induction fuel with
  | zero => intro s s' k h; rw [markStepPending_zero] at h; cases h
  | succ fuel ih =>
    have hout := fun s s' f => outdateStep_marked (fun b a b' => ih b b' a) (s := s) (s' := s') (f := f)
    intro s s' k hall
    rcases markStepPending_succ_ok hall with ⟨rfl, hrc⟩ | ⟨st, s1, hst, hnr, hnc, hw, h⟩
    · exact ⟨.refl _, fun st hst => .inr (hrc st hst)⟩
    · obtain ⟨hss, hfs, hdeps⟩ := writeStepState_effect s s1 k _ _ hw
      have h1 : s1.sstateOf k = some .pending := by rw [hss k, if_pos rfl, hst]; rfl
      have hother : ∀ q, q ≠ k → s1.sstateOf q = s.sstateOf q := fun q hq => by rw [hss q, if_neg hq]
      -- the fold over the sinks, if there is one
      have hfold : Marked s1 s' ∧ (st = .succeeded ∨ st = .failed →
          ∀ f ∈ s1.sinksOf k, f.kind = .file → s'.fstateOf f ≠ some .built) := by
        rcases h with ⟨_, h⟩ | ⟨hd, rfl⟩
        · exact ⟨Marked.foldlM _ _ (fun b a b' hr => (hout b b' a hr).1) s1 s' h, fun _ =>
            foldlM_each (fun (f : Key) (b : KState) => f.kind = .file → b.fstateOf f ≠ some .built) _ _
              (fun b a b' hr => (hout b b' a hr).2) (fun b a a' b' hb hr hk => (hout b b' a' hr).1.notBuilt (hb hk))
              s1 s' h⟩
        · exact ⟨.refl _, fun hd' => absurd hd' hd⟩
      have hk' : s'.sstateOf k = some .pending := hfold.1.stepIn k (· = some .pending) (fun _ _ _ _ => rfl) h1
      refine ⟨hfold.1.after hdeps (fun q => ?_) (fun q => .inl (hfs q)) (fun d hd hk hne => ?_)
        fun d _ _ hne => absurd (hfs _) hne, fun st' e => .inl (Option.some.inj (hk'.symm.trans e)).symm⟩
      · by_cases hq : q = k
        · exact .inr ⟨hq ▸ h1, st, hq ▸ hst, hnr, hnc⟩
        · exact .inl (hother q hq)
      · -- `k` moved, so it had completed, and all its outputs were outdated
        have hq : d.src = k := Decidable.byContradiction fun hq => hne (hother _ hq)
        exact hfold.2 (completed_of (fun e => hne (by rw [hq, h1, hst, e])) hnr hnc) d.snk
          (hq ▸ dep_mem_sinksOf s1 d (hdeps ▸ hd)) hk

theorem markStepPending_notDone (fuel : Nat) (s s' : KState) (k : Key)
    (h : markStepPending fuel s k = .ok s') : NotDone s' k :=
  (markStepPending_marked fuel s s' k h).2

theorem markStepPending_sinks_notBuilt (fuel : Nat) (s s' : KState) (k : Key) (st : StepState)
    (hst : s.sstateOf k = some st) (hdone : st = .succeeded ∨ st = .failed)
    (h : markStepPending fuel s k = .ok s') :
    ∀ f ∈ s.sinksOf k, f.kind = .file → s'.fstateOf f ≠ some .built := by
  obtain ⟨hm, hnd⟩ := markStepPending_marked fuel s s' k h
  intro f hf hk
  obtain ⟨d, hd, rfl, rfl⟩ := KState.mem_sinksOf.1 hf
  refine hm.outs d hd hk fun e => ?_
  rcases hdone with rfl | rfl <;> rcases hnd _ (e.trans hst) with g | g | g <;> cases g

theorem markStepPending_stale_mono (fuel : Nat) (s s' : KState) (k : Key) (h : markStepPending fuel s k = .ok s') :
    ∀ d, StaleDep s' d → StaleDep s d :=
  (markStepPending_marked fuel s s' k h).1.stale

theorem markStepPending_orphan_mono (fuel : Nat) (s s' : KState) (k : Key) (h : markStepPending fuel s k = .ok s') :
    ∀ d, OrphanBuilt s' d → OrphanBuilt s d :=
  (markStepPending_marked fuel s s' k h).1.orphan

theorem markStepPending_deps (fuel : Nat) (s s' : KState) (k : Key) (h : markStepPending fuel s k = .ok s') :
    s'.deps = s.deps :=
  (markStepPending_marked fuel s s' k h).1.deps

/-- Marking the steps of a list (`mark_consuming_steps_pending`, `rescan_env_vars`, `reset_interrupted_steps`, ..). -/
theorem markedList {α : Type} (key : α → Key) (l : List α) (s s' : KState)
    (h : l.foldlM (fun st a => st.markStepPending (key a)) s = .ok s') :
    Marked s s' ∧ ∀ a ∈ l, NotDone s' (key a) :=
  ⟨Marked.foldlM _ l (fun b a b' hr => (markStepPending_marked b.fuel b b' (key a) hr).1) s s' h,
    foldlM_each (fun (a : α) (b : KState) => NotDone b (key a)) _ l
      (fun b a b' hr => (markStepPending_marked b.fuel b b' (key a) hr).2)
      (fun b _ a' b' hb hr => (markStepPending_marked b.fuel b b' (key a') hr).1.notDone hb) s s' h⟩

theorem markFileOutdated_marked {s s' : KState} {f : Key} (h : s.markFileOutdated f = .ok s') :
    Marked s s' ∧ s'.fstateOf f ≠ some .built := by
  rcases markFileOutdated_ok h with ⟨hnb, rfl⟩ | ⟨s1, hb, hw, h⟩
  · exact ⟨.refl _, hnb⟩
  · obtain ⟨hm, hnd⟩ := markedList id _ s1 s' h
    exact Marked.afterOutdate hb hw hm fun t ht hk => hnd t (List.mem_filter.2 ⟨ht, decide_eq_true hk⟩)

theorem markConsumersPending_notDone (s s' : KState) (f : Key) (h : s.markConsumersPending f = .ok s') :
    ∀ t ∈ s.sinksOf f, t.kind = .step → NotDone s' t := fun t ht hk =>
  (markedList id _ s s' h).2 t (List.mem_filter.2 ⟨ht, decide_eq_true hk⟩)

theorem markConsumersPending_deps (s s' : KState) (f : Key) (h : s.markConsumersPending f = .ok s') :
    s'.deps = s.deps :=
  (markedList id _ s s' h).1.deps

/-- `P` survives the one file write of `mark_step_pending t`: `t` is PENDING by now and supplies the BUILT file
`f`, which `mark_file_outdated` turns OUTDATED. -/
def OutdateStable (P : KState → Prop) : Prop :=
  ∀ (s s' : KState) (t f : Key), s.sstateOf t = some .pending → f ∈ s.sinksOf t → s.fstateOf f = some .built →
    f.kind = .file → P s → s.setFileState f .outdated = .ok s' → P s'

/-- `PropInv` whose file write knows its caller: the file is a sink of a step that the recursion has made
PENDING. -/
structure PropInvC (Q : KState → Prop) : Prop where
  file : OutdateStable Q
  step : ∀ s s' t st, Q s → s.sstateOf t = some st → st ≠ .running → st ≠ .checking →
    s.setStepState t .pending = .ok s' → Q s'

theorem PropInv.toC {Q : KState → Prop} (h : PropInv Q) : PropInvC Q :=
  ⟨fun s s' _ f _ _ hb hk hs hw => h.file s s' f hs hb hk hw, h.step⟩

/-- The induction on the fuel for what the two writes keep.  That `k` stays PENDING and the edges stay inside the
fold over its sinks, which is what the `file` leaf is told, is read off `Marked`. -/
theorem markStepPending_invC {Q : KState → Prop} (hQ : PropInvC Q) :
    ∀ (fuel : Nat) (s s' : KState) (k : Key), Q s → markStepPending fuel s k = .ok s' → Q s' := by
  intro fuel
  induction fuel with
  | zero => intro s s' k _ h; rw [markStepPending_zero] at h; cases h
  | succ fuel ih =>
    intro s s' k hs h
    rcases markStepPending_succ_ok h with ⟨rfl, _⟩ | ⟨st, s1, hst, hr, hc, hw, h⟩
    · exact hs
    · have h1 : Q s1 := hQ.step s s1 k st hs hst hr hc hw
      have hpend : s1.sstateOf k = some .pending := by
        rw [(writeStepState_effect s s1 k _ _ hw).1 k, hst, if_pos rfl]; rfl
      rcases h with ⟨_, h⟩ | ⟨_, rfl⟩
      · let I : KState → Prop := fun b => Q b ∧ Marked s1 b
        refine (foldlM_keeps I _ _ ?_ s1 s' ⟨h1, .refl _⟩ h).1
        intro b f b' hfm ⟨hbQ, hbm⟩ hr
        have hbp : b.sstateOf k = some .pending := hbm.stepIn k (· = some .pending) (fun _ _ _ _ => rfl) hpend
        rcases outdateStep_ok hr with ⟨rfl, _⟩ | ⟨b1, hk, hb, hwf, hr'⟩
        · exact ⟨hbQ, hbm⟩
        · refine ⟨?_, hbm.trans ?_⟩
          · exact foldlM_keeps Q _ _ (fun c t c' _ hc hrt => ih c c' t hc hrt) b1 b'
              (hQ.file b b1 k f hbp (sinksOf_congr s1 b hbm.deps k ▸ hfm) hb hk hbQ hwf) hr'
          · exact (outdateStep_marked (fun b a b' => markStepPending_marked fuel b b' a) hr).1
      · exact h1

theorem markStepPending_inv {Q : KState → Prop} (hQ : PropInv Q) :
    ∀ (fuel : Nat) (s s' : KState) (k : Key), Q s → markStepPending fuel s k = .ok s' → Q s' :=
  markStepPending_invC hQ.toC

theorem PropInv.pend {Q : KState → Prop} (hQ : PropInv Q) (k : Key) : Preserves Q (fun s => s.markStepPending k) :=
  fun s s' hs h => markStepPending_inv hQ s.fuel s s' k hs h

section Pend
variable {P : KState → Prop} (hm : ∀ k, Preserves P (fun s => s.markStepPending k))
include hm

theorem markConsumersPending_of (f : Key) : Preserves P (fun s => s.markConsumersPending f) :=
  fun s s' hp h => foldlM_preserves P _ _ hm s s' hp h

theorem pendCreator_of (f : Key) : Preserves P (fun s => s.pendCreator f) := by
  intro s s' hp h
  obtain ⟨_, rfl⟩ | ⟨c, _, h⟩ := pendCreator_ok h
  · exact hp
  · exact hm c s s' hp h

theorem handleUpdated_of (f : Key) : Preserves P (fun s => s.handleUpdated f) := by
  intro s s' hp h
  obtain ⟨_, h⟩ | ⟨_, h⟩ | ⟨_, _, rfl⟩ := handleUpdated_ok h
  · exact markConsumersPending_of hm f s s' hp h
  · exact pendCreator_of hm f s s' hp h
  · exact hp

theorem handleDeleted_of (f : Key) : Preserves P (fun s => s.handleDeleted f) := by
  intro s s' hp h
  obtain ⟨s1, ⟨_, rfl⟩ | ⟨_, h1⟩, h2⟩ := handleDeleted_ok h
  · exact markConsumersPending_of hm f s1 s' hp h2
  · exact markConsumersPending_of hm f s1 s' (pendCreator_of hm f s s1 hp h1) h2

theorem rescanEnvVars_of (cfg : KConfig) : Preserves P (fun s => s.rescanEnvVars cfg) :=
  fun s s' hp h => foldlM_preserves P _ _ (fun n : Node => hm n.key) s s' hp h

theorem checkConsistency_of : Preserves P (fun s => s.checkConsistency) :=
  fun s s' hp h => foldlM_preserves P _ _ (fun n : Node => hm n.key) s s' hp h

end Pend

theorem markConsumersPending_inv {Q : KState → Prop} (hQ : PropInv Q) (s s' : KState) (f : Key) (hs : Q s)
    (h : s.markConsumersPending f = .ok s') : Q s' :=
  markConsumersPending_of hQ.pend f s s' hs h

theorem markFileOutdated_of {Q : KState → Prop} (hQ : PropInv Q) {s s' : KState} {f : Key}
    (hw : ∀ s1, s.fstateOf f = some .built → s.setFileState f .outdated = .ok s1 → Q s1) (hs : Q s)
    (h : s.markFileOutdated f = .ok s') : Q s' := by
  rcases markFileOutdated_ok h with ⟨_, rfl⟩ | ⟨s1, hb, hw1, h⟩
  · exact hs
  · exact markConsumersPending_inv hQ s1 s' f (hw s1 hb hw1) h

/-- No step is RUNNING or CHECKING (startup after `reset_interrupted_steps`, watch phase). -/
def NoneBusy (s : KState) : Prop := ∀ q st, s.sstateOf q = some st → st ≠ .running ∧ st ≠ .checking

/-- What the regenerated `_HASH_TRANSITIONS` says about the EXTERNAL cause (startup rescan, watcher). -/
theorem external_transition_facts (st new : FileState) (known : Bool) (act : Option Action)
    (h : lookupTransition .external st known = some (new, act)) :
    (new = .missing ∨ new = .confirmed ∨ new = .planned) ∧ (act = some .updated ∨ act = some .deleted) ∧
      new.role? = st.role? :=
  lookupTransition_of_table (P := fun e => e.1.1 = .external →
      (e.2.1 = .missing ∨ e.2.1 = .confirmed ∨ e.2.1 = .planned) ∧
      (e.2.2 = some .updated ∨ e.2.2 = some .deleted) ∧ e.2.1.role? = e.1.2.1.role?) (by decide) h rfl

def noAfter (n : Node) : Node := { n with checkAfter := false }

/-- What `reconcile_targets` may not change: every column of every node except `_check_after`,
the dependency table, the deletion queue (`SameView noAfter s s'` of `Lemmas/Rows.lean` and the same edges). -/
def SameButAfter (s s' : KState) : Prop :=
  s'.nodes.map noAfter = s.nodes.map noAfter ∧ s'.deps = s.deps ∧ s'.toBeDeleted = s.toBeDeleted

theorem SameButAfter.refl (s : KState) : SameButAfter s s := ⟨rfl, rfl, rfl⟩

theorem SameButAfter.trans {a b c : KState} (h1 : SameButAfter a b) (h2 : SameButAfter b c) : SameButAfter a c :=
  ⟨h2.1.trans h1.1, h2.2.1.trans h1.2.1, h2.2.2.trans h1.2.2⟩

theorem reconcileTarget_sameButAfter (s s' : KState) (t : String) (h : s.reconcileTarget t = .ok s') :
    SameButAfter s s' := by
  rcases reconcileTarget_ok h with rfl | ⟨c, rfl⟩
  · exact SameButAfter.refl _
  · exact ⟨map_view_modify s _ _ noAfter (fun _ _ _ => rfl), rfl, rfl⟩

/-- The columns the dispatch decision may not change: identity, step state, attachment. -/
def Node.dcore (n : Node) : Key × StepState × Bool := (n.key, n.sstate, n.detached)

theorem updateMeta_dcore (s s' : KState) (cfg : KConfig) (h : s.updateMeta cfg = .ok s') :
    s'.nodes.map Node.dcore = s.nodes.map Node.dcore :=
  (updateMeta_rowMap h).view Node.dcore

end StepupModel.K
