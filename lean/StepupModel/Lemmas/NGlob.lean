import StepupModel.P.NGlob
import StepupModel.Lemmas.Cond
/-!
# Lemmas about the named-glob model (C17; the statements of the property are in `Props/C17.lean`)

Results: `Holds r S` says that the dictionary `r` is well formed and holds exactly the relation `S`; `insertPath`,
`removePath`, `extend`, `reduce`, `eqv` and `files` are told by what they do to `S`.  Matching: `matchAtoms as` tries its
continuation on what is left after a prefix in `AtomsLang as` (`Tries`); a successful `matchItems` splits
the subject into segments (`SegsOK`).  Compiling: one iteration of the main loop does one of four
things (`LoopStep`), which keeps `LoopInv` (one group per name, a back-reference only for a name that
stands twice); the trailing rule only touches the last part (`trailFix`).  `iglob` yields no empty path
(`iglob_ne_nil`): `iglobR` yields it at most once, in front, and only for a pattern of `**` components
(`Shape`), where `iglob` skips it.  Forgetting the group of a fresh name (`anon`) commutes
with the compiler passes and does not change what is accepted.
-/
namespace StepupModel.P.NGlob

def keys (r : Results) : List Key := r.map Prod.fst

/-- What a Python dictionary of non-empty sets guarantees. -/
def WF (r : Results) : Prop := (keys r).Nodup ∧ ∀ kp ∈ r, kp.2 ≠ []

def Consistent (m : Str → Option Key) (r : Results) : Prop := ∀ k q, q ∈ r.get k → m q = some k

theorem get_nil (k : Key) : Results.get [] k = [] := rfl

theorem get_cons_self (k : Key) (ps : List Str) (rest : Results) : Results.get ((k, ps) :: rest) k = ps :=
  if_pos rfl

theorem get_cons_ne {k' k : Key} (h : k' ≠ k) (ps : List Str) (rest : Results) :
    Results.get ((k', ps) :: rest) k = Results.get rest k :=
  if_neg h

theorem get_eq_nil_of_not_mem {r : Results} {k : Key} (h : k ∉ keys r) : r.get k = [] := by
  induction r with
  | nil => rfl
  | cons kp rest ih =>
    rw [keys, List.map_cons, List.mem_cons, not_or] at h
    rw [get_cons_ne (Ne.symm h.1)]
    exact ih h.2

theorem mem_keys_of_mem_get {r : Results} {k : Key} {q : Str} (h : q ∈ r.get k) : k ∈ keys r :=
  Classical.byContradiction fun hk => by rw [get_eq_nil_of_not_mem hk] at h; cases h

theorem wf_nil : WF [] := ⟨List.nodup_nil, fun _ h => nomatch h⟩

theorem wf_cons {k : Key} {ps : List Str} {r : Results} :
    WF ((k, ps) :: r) ↔ k ∉ keys r ∧ ps ≠ [] ∧ WF r := by
  rw [WF, WF, keys, List.map_cons, List.nodup_cons, List.forall_mem_cons]
  exact ⟨fun h => ⟨h.1.1, h.2.1, h.1.2, h.2.2⟩, fun h => ⟨⟨h.1, h.2.2.1⟩, h.2.1, h.2.2.2⟩⟩

theorem get_of_mem {r : Results} (hn : (keys r).Nodup) {k : Key} {ps : List Str} (h : (k, ps) ∈ r) :
    r.get k = ps := by
  induction r with
  | nil => cases h
  | cons kp rest ih =>
    obtain ⟨k0, ps0⟩ := kp
    rw [keys, List.map_cons, List.nodup_cons] at hn
    obtain e | e := List.mem_cons.1 h
    · cases e; exact get_cons_self _ _ _
    · have hne : k0 ≠ k := fun e' => hn.1 (e' ▸ List.mem_map_of_mem (f := Prod.fst) e : k0 ∈ rest.map Prod.fst)
      rw [get_cons_ne hne]
      exact ih hn.2 e

theorem mem_get_iff {r : Results} (hn : (keys r).Nodup) (k : Key) (q : Str) :
    q ∈ r.get k ↔ ∃ ps, (k, ps) ∈ r ∧ q ∈ ps := by
  constructor
  · intro h
    obtain ⟨⟨k', ps⟩, hm, rfl⟩ := List.mem_map.1 (mem_keys_of_mem_get h)
    exact ⟨ps, hm, get_of_mem hn hm ▸ h⟩
  · rintro ⟨ps, hm, hq⟩
    rw [get_of_mem hn hm]; exact hq

def Holds (r : Results) (S : Key → Str → Prop) : Prop := WF r ∧ ∀ k q, q ∈ r.get k ↔ S k q

theorem consistent_nil (m : Str → Option Key) : Consistent m [] := fun _ _ hq => nomatch hq

section
variable {r : Results} {S T : Key → Str → Prop} {m : Str → Option Key}

theorem Holds.nil : Holds [] fun _ _ => False := ⟨wf_nil, fun _ _ => ⟨fun h => (nomatch h), False.elim⟩⟩

theorem Holds.congr (h : Holds r S) (e : ∀ k q, S k q ↔ T k q) : Holds r T :=
  ⟨h.1, fun k q => (h.2 k q).trans (e k q)⟩

theorem get_ne_nil_of_mem_keys (h : WF r) {k : Key} (hk : k ∈ keys r) : r.get k ≠ [] := by
  obtain ⟨⟨_, ps⟩, hm, rfl⟩ := List.mem_map.1 hk
  rw [get_of_mem h.1 hm]; exact h.2 _ hm

theorem Holds.cons {k0 : Key} {ps : List Str} :
    Holds ((k0, ps) :: r) S ↔ ps ≠ [] ∧ (∀ q, q ∈ ps ↔ S k0 q) ∧ Holds r fun k q => k ≠ k0 ∧ S k q := by
  constructor
  · rintro ⟨hw, hg⟩
    obtain ⟨h1, h2, h3⟩ := wf_cons.1 hw
    refine ⟨h2, fun q => get_cons_self k0 ps r ▸ hg k0 q, h3, fun k q => ?_⟩
    by_cases e : k = k0
    · rw [e, get_eq_nil_of_not_mem h1]; exact ⟨fun h => (nomatch h), fun h => absurd rfl h.1⟩
    · rw [← get_cons_ne (Ne.symm e) ps r, hg]; exact ⟨fun s => ⟨e, s⟩, And.right⟩
  · rintro ⟨h2, hps, h3, hg⟩
    -- a key of the rest has a path there, which `S` puts away from `k0`
    have h1 : k0 ∉ keys r := fun hk =>
      let ⟨q, hq⟩ := List.exists_mem_of_ne_nil _ (get_ne_nil_of_mem_keys h3 hk); ((hg k0 q).1 hq).1 rfl
    refine ⟨wf_cons.2 ⟨h1, h2, h3⟩, fun k q => ?_⟩
    by_cases e : k = k0
    · rw [e, get_cons_self]; exact hps q
    · rw [get_cons_ne (Ne.symm e), hg]; exact ⟨And.right, fun s => ⟨e, s⟩⟩

/-- By induction on `r` through `Holds.cons`: the entry of `k` gains `p` (if it has not got it), or a new
entry `(k, [p])` is put at the end. -/
theorem Holds.insert (h : Holds r S) (k : Key) (p : Str) :
    Holds (insertPath k p r) fun k' q => S k' q ∨ (k' = k ∧ q = p) := by
  induction r generalizing S with
  | nil =>
    have hS : ∀ k q, ¬ S k q := fun k q s => nomatch (h.2 k q).2 s
    exact Holds.cons.2 ⟨List.cons_ne_nil _ _,
      fun q => List.mem_singleton.trans ⟨fun e => Or.inr ⟨rfl, e⟩, fun h => h.elim (fun s => absurd s (hS k q)) And.right⟩,
      h.congr fun k' q => ⟨fun s => absurd s (hS k' q), fun h => h.2.elim id fun e => absurd e.1 h.1⟩⟩
  | cons kp rest ih =>
    obtain ⟨k0, ps⟩ := kp
    obtain ⟨h2, hps, h3⟩ := Holds.cons.1 h
    rw [insertPath]
    by_cases h0 : k0 = k
    · subst h0
      rw [if_pos rfl]
      refine Holds.cons.2 ⟨?_, fun q => ?_,
        h3.congr fun k' q => and_congr_right fun hne => (or_iff_left fun e => hne e.1).symm⟩
      · split
        · exact h2
        · exact List.append_ne_nil_of_right_ne_nil _ (List.cons_ne_nil _ _)
      · split
        next hc =>
          exact (hps q).trans ⟨Or.inl, fun h => h.elim id fun e => e.2 ▸ (hps p).1 (List.contains_iff_mem.1 hc)⟩
        next => rw [List.mem_append, List.mem_singleton]; exact or_congr (hps q) ⟨fun e => ⟨rfl, e⟩, And.right⟩
    · rw [if_neg h0]
      exact Holds.cons.2 ⟨h2, fun q => (hps q).trans (or_iff_left fun e => h0 e.1).symm,
        (ih h3).congr fun k' q => ⟨fun h => h.elim (fun a => ⟨a.1, Or.inl a.2⟩) fun e =>
          ⟨fun e' => h0 (e'.symm.trans e.1), Or.inr e⟩, fun h => h.2.imp (⟨h.1, ·⟩) id⟩⟩

theorem Holds.remove (h : Holds r S) (k : Key) (p : Str) :
    Holds (removePath k p r) fun k' q => S k' q ∧ ¬ (k' = k ∧ q = p) := by
  induction r generalizing S with
  | nil => exact h.congr fun k' q => ⟨fun s => (nomatch (h.2 k' q).2 s), And.left⟩
  | cons kp rest ih =>
    obtain ⟨k0, ps⟩ := kp
    obtain ⟨h2, hps, h3⟩ := Holds.cons.1 h
    rw [removePath]
    by_cases h0 : k0 = k
    · subst h0
      rw [if_pos rfl]
      by_cases hf : ps.filter (· != p) = []
      · -- the group is deleted: nothing but `p` was under `k0`
        simp only [hf, if_true]
        refine h3.congr fun k' q => ⟨fun a => ⟨a.2, fun e => a.1 e.1⟩, fun a => ⟨fun e => ?_, a.1⟩⟩
        have : q ∈ ps.filter (· != p) :=
          List.mem_filter.2 ⟨(hps q).2 (e ▸ a.1), bne_iff_ne.2 fun e' => a.2 ⟨e, e'⟩⟩
        rw [hf] at this; cases this
      · simp only [hf, if_false]
        refine Holds.cons.2 ⟨hf, fun q => ?_,
          h3.congr fun k' q => and_congr_right fun hne => (and_iff_left fun e => hne e.1).symm⟩
        rw [List.mem_filter, bne_iff_ne]
        exact and_congr (hps q) ⟨fun h e => h e.2, fun h e => h ⟨rfl, e⟩⟩
    · rw [if_neg h0]
      exact Holds.cons.2 ⟨h2, fun q => (hps q).trans (and_iff_left fun e => h0 e.1).symm,
        (ih h3).congr fun _ _ => and_assoc⟩

theorem Holds.extend (h : Holds r S) (m : Str → Option Key) (ps : List Str) :
    Holds (extend m r ps) fun k q => S k q ∨ (q ∈ ps ∧ m q = some k) := by
  induction ps generalizing r S with
  | nil => exact h.congr fun k q => ⟨Or.inl, fun h => h.elim id fun e => nomatch e.1⟩
  | cons p ps ih =>
    have hs : Holds (match m p with | some k => insertPath k p r | none => r)
        fun k q => S k q ∨ (q = p ∧ m q = some k) := by
      cases hm : m p with
      | none => exact h.congr fun k q => ⟨Or.inl, fun h => h.elim id fun e => nomatch hm ▸ e.1 ▸ e.2⟩
      | some k0 =>
        exact (h.insert k0 p).congr fun k q => or_congr_right
          ⟨fun e => ⟨e.2, e.2 ▸ e.1 ▸ hm⟩, fun e => ⟨(Option.some.inj (hm ▸ e.1 ▸ e.2)).symm, e.1⟩⟩
    exact (ih hs).congr fun k q => by rw [or_assoc, ← or_and_right, List.mem_cons]

/-- `hc` is `Consistent m r` said of `S`; with it removing `p` under `m p` removes `p`. -/
theorem Holds.reduce (h : Holds r S) (hc : ∀ k q, S k q → m q = some k) (ps : List Str) :
    Holds (reduce m r ps) fun k q => S k q ∧ q ∉ ps := by
  induction ps generalizing r S with
  | nil => exact h.congr fun k q => ⟨fun h => ⟨h, fun h => (nomatch h)⟩, And.left⟩
  | cons p ps ih =>
    have hs : Holds (match m p with | some k => removePath k p r | none => r)
        fun k q => S k q ∧ q ≠ p := by
      cases hm : m p with
      | none => exact h.congr fun k q => ⟨fun h => ⟨h, fun e => nomatch hm ▸ e ▸ hc k q h⟩, And.left⟩
      | some k0 =>
        exact (h.remove k0 p).congr fun k q => and_congr_right fun s => not_congr
          ⟨And.right, fun e => ⟨Option.some.inj (hc k q s ▸ e ▸ hm), e⟩⟩
    exact (ih hs fun k q s => hc k q s.1).congr fun k q => by rw [List.mem_cons, not_or, and_assoc]

end

theorem subResults_iff {a b : Results} (ha : (keys a).Nodup) :
    subResults a b = true ↔ ∀ k q, q ∈ a.get k → q ∈ b.get k := by
  simp only [subResults, List.all_eq_true, List.contains_eq_mem, decide_eq_true_eq, Prod.forall]
  exact ⟨fun h k q hq => let ⟨ps, hps, hq'⟩ := (mem_get_iff ha k q).1 hq; h k ps hps q hq',
    fun h k ps hps q hq => h k q ((mem_get_iff ha k q).2 ⟨ps, hps, hq⟩)⟩

theorem keysIn_of_sub {a b : Results} (ha : WF a) (h : ∀ k q, q ∈ a.get k → q ∈ b.get k) :
    keysIn a b = true := by
  simp only [keysIn, List.all_eq_true, List.any_eq_true, beq_iff_eq, Prod.forall, Prod.exists]
  intro k ps hps
  obtain ⟨q, hq⟩ := List.exists_mem_of_ne_nil _ (ha.2 _ hps)
  obtain ⟨⟨k1, ps1⟩, h1, h2⟩ := List.mem_map.1 (mem_keys_of_mem_get (h k q (get_of_mem ha.1 hps ▸ hq)))
  exact ⟨k1, ps1, h1, h2⟩

theorem eqv_iff {a b : Results} (ha : WF a) (hb : WF b) :
    eqv a b = true ↔ ∀ k q, q ∈ a.get k ↔ q ∈ b.get k := by
  simp only [eqv, Bool.and_eq_true]
  constructor
  · rintro ⟨⟨⟨h1, h2⟩, _⟩, _⟩ k q
    exact ⟨(subResults_iff ha.1).mp h1 k q, (subResults_iff hb.1).mp h2 k q⟩
  · intro h
    have h1 : ∀ k q, q ∈ a.get k → q ∈ b.get k := fun k q => (h k q).mp
    have h2 : ∀ k q, q ∈ b.get k → q ∈ a.get k := fun k q => (h k q).mpr
    exact ⟨⟨⟨(subResults_iff ha.1).mpr h1, (subResults_iff hb.1).mpr h2⟩, keysIn_of_sub ha h1⟩,
      keysIn_of_sub hb h2⟩

theorem Holds.eqv {a b : Results} {S T : Key → Str → Prop} (ha : Holds a S) (hb : Holds b T) :
    eqv a b = true ↔ ∀ k q, S k q ↔ T k q :=
  (eqv_iff ha.1 hb.1).trans
    ⟨fun h k q => (ha.2 k q).symm.trans ((h k q).trans (hb.2 k q)),
     fun h k q => (ha.2 k q).trans ((h k q).trans (hb.2 k q).symm)⟩

theorem mem_insertSorted (x y : Str) (l : List Str) : x ∈ insertSorted y l ↔ x = y ∨ x ∈ l := by
  induction l with
  | nil => exact List.mem_singleton.trans ⟨Or.inl, fun h => h.elim id fun h => nomatch h⟩
  | cons z zs ih =>
    rw [insertSorted]
    by_cases h1 : ltS y z = true
    · rw [if_pos h1, List.mem_cons]
    · rw [if_neg h1]
      by_cases h2 : y = z
      · rw [if_pos h2, h2, List.mem_cons, ← or_assoc, or_self]
      · rw [if_neg h2, List.mem_cons, ih, List.mem_cons, or_left_comm]

theorem mem_sortDedup (x : Str) (l : List Str) : x ∈ sortDedup l ↔ x ∈ l := by
  induction l with
  | nil => exact Iff.rfl
  | cons y ys ih => rw [sortDedup, List.foldr_cons, mem_insertSorted, List.mem_cons]; exact or_congr_right ih

theorem mem_files {r : Results} (hn : (keys r).Nodup) (q : Str) : q ∈ files r ↔ ∃ k, q ∈ r.get k := by
  simp only [files, mem_sortDedup, List.mem_flatMap, Prod.exists]
  exact ⟨fun ⟨k, ps, h, hq⟩ => ⟨k, (mem_get_iff hn k q).2 ⟨ps, h, hq⟩⟩,
    fun ⟨k, hq⟩ => let ⟨ps, h, hq'⟩ := (mem_get_iff hn k q).1 hq; ⟨k, ps, h, hq'⟩⟩

theorem Holds.files {r : Results} {S : Key → Str → Prop} (h : Holds r S) (q : Str) : q ∈ files r ↔ ∃ k, S k q :=
  (mem_files h.1.1 q).trans (exists_congr fun k => h.2 k q)

def AllIn (cs : CSet) (s : Str) : Prop := ∀ c ∈ s, cs.mem c = true

/-- The strings one atom of the emitted regular expression accepts. -/
def AtomLang : Atom → Str → Prop
  | .lit t, s => s = t
  | .one cs, s => ∃ c, s = [c] ∧ cs.mem c = true
  | .star cs, s => AllIn cs s
  | .plus cs, s => s ≠ [] ∧ AllIn cs s
  | .dirs, s => s = [] ∨ ∃ u, s = u ++ [47] ∧ AllIn .dot u
  | .optSlash, s => s = [] ∨ s = [47]

def AtomsLang : List Atom → Str → Prop
  | [], s => s = []
  | a :: as, s => ∃ u v, s = u ++ v ∧ AtomLang a u ∧ AtomsLang as v

theorem allIn_nil (cs : CSet) : AllIn cs [] := fun _ h => nomatch h

theorem allIn_cons {cs : CSet} {c : Nat} {s : Str} : AllIn cs (c :: s) ↔ cs.mem c = true ∧ AllIn cs s :=
  List.forall_mem_cons

def Cat (L L' : Str → Prop) (s : Str) : Prop := ∃ u v, s = u ++ v ∧ L u ∧ L' v

/-- `r` is the outcome of trying `K` on the splits `inp = u ++ v` with `L u`: a result comes from
`K` on such a `v`, and there is a result whenever `K` has one on such a `v`. -/
def TriesAt {α : Type} (L : Str → Prop) (K : Str → Option α) (inp : Str) (r : Option α) : Prop :=
  (∀ e, r = some e → ∃ u v, inp = u ++ v ∧ L u ∧ K v = some e) ∧
  (∀ u v, inp = u ++ v → L u → (K v).isSome = true → r.isSome = true)

/-- The matcher `M` tries its continuation on what is left after a prefix in `L`. -/
def Tries {α : Type} (L : Str → Prop) (M : (Str → Option α) → Str → Option α) : Prop :=
  ∀ k inp, TriesAt L k inp (M k inp)

section
variable {α : Type} {L : Str → Prop} {K : Str → Option α} {inp : Str}

theorem TriesAt.some {e : α} (h : ∃ u v, inp = u ++ v ∧ L u ∧ K v = some e) : TriesAt L K inp (some e) :=
  ⟨fun _ he => Option.some.inj he ▸ h, fun _ _ _ _ _ => rfl⟩

theorem TriesAt.none (h : ∀ u v, inp = u ++ v → L u → False) : TriesAt L K inp none :=
  ⟨fun _ he => (nomatch he), fun u v hi hu _ => (h u v hi hu).elim⟩

/-- The outcome of `K` on one split, when no other split does better. -/
theorem TriesAt.pass {u0 v0 : Str} (hi : inp = u0 ++ v0) (h0 : L u0)
    (h : ∀ u v, inp = u ++ v → L u → (K v).isSome = true → (K v0).isSome = true) : TriesAt L K inp (K v0) :=
  ⟨fun _ he => ⟨u0, v0, hi, h0, he⟩, h⟩

theorem Tries.isSome_iff {M : (Str → Option α) → Str → Option α} (h : Tries L M) (k : Str → Option α) (inp : Str) :
    (M k inp).isSome = true ↔ ∃ u v, inp = u ++ v ∧ L u ∧ (k v).isSome = true :=
  ⟨fun hs => by
    obtain ⟨e, he⟩ := Option.isSome_iff_exists.mp hs
    obtain ⟨u, v, hi, hu, hk⟩ := (h k inp).1 e he
    exact ⟨u, v, hi, hu, Option.isSome_iff_exists.mpr ⟨e, hk⟩⟩, fun ⟨u, v, hi, hu, hk⟩ => (h k inp).2 u v hi hu hk⟩

variable {L' : Str → Prop} {M M' : (Str → Option α) → Str → Option α} {r r' : Option α}

theorem TriesAt.congr (h : TriesAt L K inp r) (e : ∀ s, L s ↔ L' s) : TriesAt L' K inp r :=
  ⟨fun x hr => by obtain ⟨u, v, hi, hu, hk⟩ := h.1 x hr; exact ⟨u, v, hi, (e u).1 hu, hk⟩,
    fun u v hi hu => h.2 u v hi ((e u).2 hu)⟩

theorem Tries.seq (h : Tries L M) (h' : Tries L' M') : Tries (Cat L L') fun k => M (M' k) := by
  refine fun k inp => ⟨fun e he => ?_, ?_⟩
  · obtain ⟨u, w, rfl, hu, hw⟩ := (h _ inp).1 e he
    obtain ⟨u', v, rfl, hu', hk⟩ := (h' k w).1 e hw
    exact ⟨u ++ u', v, (List.append_assoc _ _ _).symm, ⟨u, u', rfl, hu, hu'⟩, hk⟩
  · rintro u v rfl ⟨u1, u2, rfl, h1, h2⟩ hk
    exact (h _ _).2 u1 (u2 ++ v) (List.append_assoc _ _ _) h1 ((h' k _).2 u2 v rfl h2 hk)

theorem TriesAt.orElse (h : TriesAt L K inp r) (h' : TriesAt L' K inp r') :
    TriesAt (fun s => L s ∨ L' s) K inp (match (generalizing := false) r with | .some e => .some e | .none => r') := by
  cases r with
  | some e => obtain ⟨u, v, hi, hu, hk⟩ := h.1 e rfl; exact .some ⟨u, v, hi, Or.inl hu, hk⟩
  | none =>
    refine ⟨fun e he => ?_, fun u v hi hu hk => hu.elim (fun hu => nomatch h.2 u v hi hu hk) fun hu => h'.2 u v hi hu hk⟩
    obtain ⟨u, v, hi, hu, hk⟩ := h'.1 e he; exact ⟨u, v, hi, Or.inr hu, hk⟩
end

theorem starK_tries {α : Type} (cs : CSet) : Tries (α := α) (AllIn cs) (starK cs) := by
  intro k inp
  induction inp with
  | nil => exact .pass rfl (allIn_nil cs) fun u v hi _ h => by obtain ⟨rfl, rfl⟩ := List.nil_eq_append_iff.1 hi; exact h
  | cons c t ih =>
    -- the last resort is the empty run
    have last (hl : cs.mem c = true → starK cs k t = none) : TriesAt (AllIn cs) k (c :: t) (k (c :: t)) :=
      .pass rfl (allIn_nil cs) fun u v hi hu h => by
        cases u with
        | nil => cases hi; exact h
        | cons c' u' =>
          cases hi; have := ih.2 u' v rfl (allIn_cons.1 hu).2 h
          rw [hl (allIn_cons.1 hu).1] at this; cases this
    rw [starK]
    by_cases hc : cs.mem c = true
    · rw [if_pos hc]
      cases he : starK cs k t with
      | some e =>
        obtain ⟨u, v, hu, ha, hk⟩ := ih.1 e he
        exact .some ⟨c :: u, v, congrArg _ hu, allIn_cons.2 ⟨hc, ha⟩, hk⟩
      | none => exact last fun _ => he
    · rw [if_neg hc]; exact last fun h => absurd h hc

theorem eps_tries {α : Type} : Tries (α := α) (· = []) fun k => k :=
  fun k inp => .pass (u0 := []) rfl rfl fun u v hi hu h => by cases hu; cases hi; exact h

theorem lit_tries {α : Type} (s : Str) :
    Tries (α := α) (· = s) fun k inp => if s.isPrefixOf inp then k (inp.drop s.length) else none := by
  intro k inp
  by_cases hp : s.isPrefixOf inp = true
  · obtain ⟨t, rfl⟩ := List.isPrefixOf_iff_prefix.1 hp
    simp only [if_pos hp, List.drop_left]
    exact .pass rfl rfl fun u w hi hu h => by cases (hu : u = s); cases List.append_cancel_left hi; exact h
  · simp only [if_neg hp]
    exact .none fun u w hi hu => hp (List.isPrefixOf_iff_prefix.2 ⟨w, (hu : u = s) ▸ hi.symm⟩)

theorem one_tries {α : Type} (p : Nat → Bool) :
    Tries (α := α) (fun s => ∃ c, s = [c] ∧ p c = true) fun k inp =>
      match inp with | c :: t => if p c then k t else none | [] => none := by
  intro k inp
  cases inp with
  | nil => exact .none fun u w hi hu => by obtain ⟨c, rfl, _⟩ := hu; cases hi
  | cons c t =>
    by_cases hc : p c = true
    · simp only [if_pos hc]
      exact .pass (u0 := [c]) rfl ⟨c, rfl, hc⟩ fun u w hi hu h => by obtain ⟨c', rfl, _⟩ := hu; cases hi; exact h
    · simp only [if_neg hc]; exact .none fun u w hi hu => by obtain ⟨c', rfl, hc'⟩ := hu; cases hi; exact hc hc'

theorem matchAtoms_cons {α : Type} (a : Atom) (as : List Atom) (k : Str → Option α) :
    matchAtoms (a :: as) k = matchAtoms [a] (matchAtoms as k) := by
  cases a <;> rfl

theorem plus_lang (cs : CSet) (s : Str) :
    Cat (fun s => ∃ c, s = [c] ∧ cs.mem c = true) (AllIn cs) s ↔ AtomLang (.plus cs) s :=
  ⟨by rintro ⟨_, v, rfl, ⟨c, rfl, hc⟩, hv⟩; exact ⟨List.cons_ne_nil _ _, allIn_cons.2 ⟨hc, hv⟩⟩, fun ⟨hn, ha⟩ => by
    cases s with
    | nil => exact absurd rfl hn
    | cons c t => exact ⟨[c], t, rfl, ⟨c, rfl, (allIn_cons.1 ha).1⟩, (allIn_cons.1 ha).2⟩⟩

theorem dirs_lang (s : Str) : (Cat (AllIn .dot) (· = [47]) s ∨ s = []) ↔ AtomLang .dirs s :=
  ⟨fun h => h.elim (fun ⟨u, _, hi, hu, hv⟩ => .inr ⟨u, hv ▸ hi, hu⟩) .inl,
    fun h => h.elim .inr fun ⟨u, hi, hu⟩ => .inl ⟨u, [47], hi, hu, rfl⟩⟩

theorem slash_tries {α : Type} : Tries (α := α) (· = [47]) fun k inp => match inp with | 47 :: t => k t | _ => none := by
  intro k inp
  dsimp only
  split
  next t => exact .pass (u0 := [47]) rfl rfl fun u w hi hu h => by cases (hu : u = [47]); cases hi; exact h
  next hne => exact .none fun u w hi hu => by cases (hu : u = [47]); exact hne w hi

/-- Each atom tries its continuation after a prefix in its language: `matchAtoms [a]` unfolds to the
matcher of the expression the atom stands for (`cs+` is `cs cs*`, `(?:.*/|)` is `.*` `/` or nothing). -/
theorem atom_tries {α : Type} (a : Atom) : Tries (α := α) (AtomLang a) (matchAtoms [a]) := by
  cases a with
  | lit s => exact lit_tries s
  | one cs => exact one_tries cs.mem
  | star cs => exact starK_tries cs
  | plus cs => exact fun k inp => (((one_tries cs.mem).seq (starK_tries cs)) k inp).congr (plus_lang cs)
  | dirs => exact fun k inp => ((((starK_tries .dot).seq slash_tries) k inp).orElse (eps_tries k inp)).congr dirs_lang
  | optSlash =>
    intro k inp
    simp only [matchAtoms]
    split
    next t => exact ((slash_tries k (47 :: t)).orElse (eps_tries k _)).congr fun _ => Or.comm
    next hne =>
      exact ((TriesAt.none fun u w hi (hu : u = [47]) => hne w (by cases hu; exact hi)).orElse (eps_tries k inp)).congr fun _ => Or.comm

theorem matchAtoms_tries {α : Type} (as : List Atom) : Tries (α := α) (AtomsLang as) (matchAtoms as) := by
  induction as with
  | nil => exact eps_tries
  | cons a as ih => exact fun k => matchAtoms_cons a as k ▸ (atom_tries a).seq ih k

theorem matchAtoms_full_iff (as : List Atom) (s : Str) :
    (matchAtoms as (fun r => if r = [] then some () else none) s).isSome = true ↔ AtomsLang as s := by
  rw [(matchAtoms_tries as).isSome_iff]
  constructor
  · rintro ⟨u, v, rfl, hu, hk⟩
    by_cases hv : v = []
    · rw [hv, List.append_nil]; exact hu
    · rw [if_neg hv] at hk; cases hk
  · exact fun h => ⟨s, [], (List.append_nil s).symm, h, rfl⟩

theorem matchAtoms_isSome_congr {α β : Type} (as : List Atom) (k : Str → Option α) (k' : Str → Option β)
    (inp : Str) (h : ∀ r, (k r).isSome = (k' r).isSome) :
    (matchAtoms as k inp).isSome = (matchAtoms as k' inp).isSome :=
  Bool.eq_iff_iff.2 (by rw [(matchAtoms_tries as).isSome_iff, (matchAtoms_tries as).isSome_iff]; simp only [h])

def Item.groupName? : Item → Option Str
  | .group n _ => some n
  | _ => none

def Item.name? : Item → Option Str
  | .group n _ => some n
  | .bref n => some n
  | _ => none

def groupNames (re : List Item) : List Str := re.filterMap Item.groupName?

/-- What one item matched, given the final bindings: a group or back-reference named `n`
matched exactly the text bound to `n`. -/
def ItemOK (env : Env) : Item → Str → Prop
  | .atom a, s => AtomLang a s
  | .group n body, s => AtomsLang body s ∧ env.get n = some s
  | .bref n, s => env.get n = some s

/-- One segment per item, each accepted by its item under the final bindings. -/
def SegsOK (env : Env) : List Item → List Str → Prop
  | [], [] => True
  | it :: its, s :: ss => ItemOK env it s ∧ SegsOK env its ss
  | _, _ => False

theorem ItemOK.bound {env : Env} {it : Item} {s n : Str} (h : ItemOK env it s) (hn : it.name? = some n) :
    env.get n = some s := by
  cases it with
  | atom a => cases hn
  | group m body => cases hn; exact h.2
  | bref m => cases hn; exact h

theorem SegsOK.mem {env : Env} {re : List Item} {segs : List Str} (h : SegsOK env re segs) {it : Item} {s : Str}
    (hz : (it, s) ∈ re.zip segs) : ItemOK env it s := by
  induction re generalizing segs with
  | nil => cases hz
  | cons x xs ih =>
    cases segs with
    | nil => cases hz
    | cons y ys =>
      obtain e | e := List.mem_cons.1 hz
      · cases e; exact h.1
      · exact ih h.2 e

theorem env_get_cons (m v : Str) (rest : Env) (n : Str) :
    Env.get ((m, v) :: rest) n = if m = n then some v else Env.get rest n := rfl

theorem matchItems_sound (items : List Item) (env0 : Env) (inp : Str) (env : Env)
    (h : matchItems items env0 inp = some env) (hn : (groupNames items).Nodup)
    (hfresh : ∀ n ∈ groupNames items, env0.get n = none) :
    ∃ segs, segs.flatten = inp ∧ SegsOK env items segs ∧
      ∀ n v, env0.get n = some v → env.get n = some v := by
  induction items generalizing env0 inp with
  | nil =>
    simp only [matchItems] at h
    split at h
    · next hi => cases h; exact ⟨[], by simp [hi], trivial, fun _ _ h => h⟩
    · cases h
  | cons it rest ih =>
    cases it with
    | atom a =>
      simp only [matchItems] at h
      obtain ⟨u, v, rfl, hu, hk⟩ := (atom_tries a _ inp).1 env h
      obtain ⟨segs, hs, hf, hp⟩ := ih env0 v hk hn hfresh
      exact ⟨u :: segs, by simp [hs], ⟨hu, hf⟩, hp⟩
    | group n body =>
      simp only [matchItems] at h
      obtain ⟨u, v, rfl, hu, hk⟩ := (matchAtoms_tries body _ inp).1 env h
      rw [show (u ++ v).take ((u ++ v).length - v.length) = u by simp] at hk
      obtain ⟨hnr, hn'⟩ : n ∉ groupNames rest ∧ (groupNames rest).Nodup := List.nodup_cons.mp hn
      have hfresh : ∀ m ∈ n :: groupNames rest, env0.get m = none := hfresh
      obtain ⟨segs, hs, hf, hp⟩ := ih ((n, u) :: env0) v hk hn' fun m hm => by
        rw [env_get_cons, if_neg fun (e : n = m) => hnr (e ▸ hm)]; exact hfresh m (List.mem_cons_of_mem _ hm)
      refine ⟨u :: segs, by simp [hs], ⟨⟨hu, hp n u (if_pos rfl)⟩, hf⟩, fun m w hw => hp m w ?_⟩
      have : n ≠ m := fun e => by rw [← e, hfresh n List.mem_cons_self] at hw; cases hw
      rw [env_get_cons, if_neg this]; exact hw
    | bref n =>
      simp only [matchItems] at h
      split at h
      · next val hval =>
        split at h
        · next hp =>
          obtain ⟨t, rfl⟩ := List.isPrefixOf_iff_prefix.mp hp
          rw [List.drop_left] at h
          obtain ⟨segs, hs, hf, hp'⟩ := ih env0 t h hn hfresh
          exact ⟨val :: segs, by simp [hs], ⟨(hp' n val hval), hf⟩, hp'⟩
        · cases h
      · cases h

/-- At most one group per name among `parts`, and every such name is among the names met, `enc`. -/
def OneGroup (parts : List Item) (enc : List Str) : Prop :=
  (groupNames parts).Nodup ∧ ∀ n ∈ groupNames parts, n ∈ enc

theorem groupNames_append (a b : List Item) : groupNames (a ++ b) = groupNames a ++ groupNames b := by
  simp [groupNames, List.filterMap_append]

theorem oneGroup_append {parts : List Item} {enc : List Str} (x : Item) (hx : x.groupName? = none) (h : OneGroup parts enc) :
    OneGroup (parts ++ [x]) enc := by
  rw [OneGroup, groupNames_append, show groupNames [x] = [] by rw [groupNames, List.filterMap_cons, hx]; rfl,
    List.append_nil]
  exact h

theorem oneGroup_dropLast {parts : List Item} {enc : List Str} (h : OneGroup parts enc) :
    OneGroup parts.dropLast enc := by
  have hs : (groupNames parts.dropLast).Sublist (groupNames parts) :=
    List.Sublist.filterMap _ (List.dropLast_sublist parts)
  exact ⟨hs.nodup h.1, fun n hn => h.2 n (hs.subset hn)⟩

theorem oneGroup_putPart {parts : List Item} {enc : List Str} (b : Bool) (a : Atom) (h : OneGroup parts enc) :
    OneGroup (putPart b parts (.atom a)) enc := by
  unfold putPart
  split
  · exact oneGroup_append _ rfl (oneGroup_dropLast h)
  · exact oneGroup_append _ rfl h

theorem oneGroup_append_group {parts : List Item} {enc : List Str} (n : Str) (body : List Atom)
    (hn : n ∉ enc) (h : OneGroup parts enc) : OneGroup (parts ++ [.group n body]) (n :: enc) := by
  unfold OneGroup at *
  rw [groupNames_append]
  have : groupNames [Item.group n body] = [n] := rfl
  rw [this]
  constructor
  · rw [List.nodup_append]
    refine ⟨h.1, by simp, ?_⟩
    intro a ha b hb
    simp at hb; subst hb
    rintro rfl
    exact hn (h.2 _ ha)
  · intro m hm
    rcases List.mem_append.mp hm with hm | hm
    · exact List.mem_cons_of_mem _ (h.2 m hm)
    · simp at hm; subst hm; exact List.mem_cons_self

/-- What a successful iteration of the main loop does: nothing but remembering the token, putting an
atom, or appending a back-reference or the one group of a name. -/
inductive LoopStep (st : CState) : Tok → CState → Prop
  | keep (tok : Tok) : LoopStep st tok { st with last := some tok }
  | atom (tok : Tok) (b : Bool) (a : Atom) :
      LoopStep st tok { st with parts := putPart b st.parts (.atom a), last := some tok }
  | bref (n : Str) : st.enc.contains n = true →
      LoopStep st (.named n) { st with parts := st.parts ++ [.bref n], last := some (.named n) }
  | group (n : Str) (body : List Atom) : st.enc.contains n = false →
      LoopStep st (.named n) ⟨st.parts ++ [.group n body], some (.named n), n :: st.enc⟩

/-- What a token other than `${*n}` contributes after the token `last`: nothing, or an atom that is
appended (`false`) or takes the place of the last part (`true`). -/
def emit (last : Option Tok) : Tok → Option (Bool × Atom)
  | .lit s => some (false, .lit s)
  | .qm => some (false, .one .notSlash)
  | .cls b => some (false, .one (mkCls b))
  | .star => if last = some .star || last = some .dstar then none else some (false, .star .notSlash)
  | .dstar => if last = some .dstar then none else some (last = some .star, .star .dot)
  | .dstarSlash =>
    if last = some .dstarSlash then none else some (last = some .star || last = some .dstar, .dirs)
  | .named _ => none

def place (parts : List Item) : Option (Bool × Atom) → List Item
  | none => parts
  | some (b, a) => putPart b parts (.atom a)

theorem compileStep_plain (subs : Subs) (st : CState) {tok : Tok} (h : ∀ n, tok ≠ .named n) :
    compileStep subs st tok = .ok { st with parts := place st.parts (emit st.last tok), last := some tok } := by
  cases tok with
  | lit | qm | cls => rfl
  | star | dstar | dstarSlash => rw [compileStep, emit]; split <;> rfl
  | named n => exact absurd rfl (h n)

theorem compileStep_ok {subs : Subs} {st st' : CState} {tok : Tok} (h : compileStep subs st tok = .ok st') :
    LoopStep st tok st' := by
  have plain (hn : ∀ n, tok ≠ .named n) : LoopStep st tok st' := by
    cases (compileStep_plain subs st hn).symm.trans h
    cases emit st.last tok with
    | none => exact .keep _
    | some p => exact .atom _ p.1 p.2
  cases tok with
  | named n =>
    rw [compileStep] at h
    by_cases c : n = []
    · rw [if_pos c] at h; cases h
    · rw [if_neg c] at h
      by_cases hc : st.enc.contains n = true
      · rw [if_pos hc] at h; cases h; exact .bref n hc
      · rw [if_neg hc] at h
        cases hs : compileSub (subs.getD n) with
        | error e => rw [hs] at h; cases h
        | ok body => rw [hs] at h; cases h; exact .group n body (eq_false_of_ne_true hc)
  | _ => exact plain nofun

theorem compileStep_last {subs : Subs} {st st' : CState} {tok : Tok}
    (h : compileStep subs st tok = .ok st') : st'.last = some tok := by
  cases compileStep_ok h <;> rfl

theorem mem_putPart {α : Type} {b : Bool} {l : List α} {x y : α} (h : y ∈ putPart b l x) :
    y ∈ l ∨ y = x := by
  unfold putPart at h
  split at h
  · rcases List.mem_append.mp h with h | h
    · exact Or.inl (List.dropLast_subset l h)
    · simp at h; exact Or.inr h
  · rcases List.mem_append.mp h with h | h
    · exact Or.inl h
    · simp at h; exact Or.inr h

/-- What holds of the loop state after the tokens `toks`: one group per name, each among the names met; a
name met stands in `toks`, a back-reference needs a second occurrence; `last` is the last token. -/
structure LoopInv (toks : List Tok) (st : CState) : Prop where
  ginv : OneGroup st.parts st.enc
  met : ∀ m ∈ st.enc, 1 ≤ toks.count (.named m)
  bref : ∀ m, Item.bref m ∈ st.parts → 2 ≤ toks.count (.named m)
  last : st.last = toks.getLast?

theorem LoopInv.nil : LoopInv [] ⟨[], none, []⟩ := ⟨⟨.nil, nofun⟩, nofun, (fun _ h => nomatch h), rfl⟩

theorem LoopInv.step {subs : Subs} {toks : List Tok} {st st' : CState} {tok : Tok} (h : LoopInv toks st)
    (hs : compileStep subs st tok = .ok st') : LoopInv (toks ++ [tok]) st' := by
  have cnt {k : Nat} {m : Str} (hk : k ≤ toks.count (.named m)) : k ≤ (toks ++ [tok]).count (.named m) := by
    rw [List.count_append]; exact Nat.le_trans hk (Nat.le_add_right _ _)
  have hl : some tok = (toks ++ [tok]).getLast? := by rw [List.getLast?_append]; rfl
  cases compileStep_ok hs with
  | keep => exact ⟨h.ginv, fun m hm => cnt (h.met m hm), fun m hm => cnt (h.bref m hm), hl⟩
  | atom _ b a =>
    exact ⟨oneGroup_putPart b a h.ginv, fun m hm => cnt (h.met m hm),
      fun m hm => cnt (h.bref m ((mem_putPart hm).resolve_right nofun)), hl⟩
  | bref n hc =>
    refine ⟨oneGroup_append _ rfl h.ginv, fun m hm => cnt (h.met m hm), fun m hm => ?_, hl⟩
    obtain hm | hm := List.mem_append.1 hm
    · exact cnt (h.bref m hm)
    · -- the name was met before and stands here again
      cases List.mem_singleton.1 hm
      rw [List.count_append, List.count_singleton_self]
      exact Nat.add_le_add_right (h.met n (List.contains_iff_mem.1 hc)) 1
  | group n body hc =>
    refine ⟨oneGroup_append_group n body (fun hm => nomatch hc ▸ List.contains_iff_mem.2 hm) h.ginv,
      fun m hm => ?_, fun m hm => ?_, hl⟩
    · obtain rfl | hm := List.mem_cons.1 hm
      · rw [List.count_append, List.count_singleton_self]; exact Nat.le_add_left _ _
      · exact cnt (h.met m hm)
    · exact cnt (h.bref m ((List.mem_append.1 hm).resolve_right fun e => nomatch List.mem_singleton.1 e))

theorem LoopInv.run {subs : Subs} {pre : List Tok} {st0 : CState} (h0 : LoopInv pre st0) (toks : List Tok)
    {st : CState} (h : compileLoop subs toks st0 = .ok st) : LoopInv (pre ++ toks) st := by
  induction toks generalizing pre st0 with
  | nil => cases h; rw [List.append_nil]; exact h0
  | cons tok rest ih =>
    rw [compileLoop] at h
    cases h1 : compileStep subs st0 tok with
    | error e => rw [h1] at h; cases h
    | ok st1 => rw [h1] at h; exact List.append_cons pre tok rest ▸ ih (h0.step h1) h

theorem loopInv {subs : Subs} (toks : List Tok) {st : CState}
    (h : compileLoop subs toks ⟨[], none, []⟩ = .ok st) : LoopInv toks st :=
  LoopInv.nil.run toks h

/-- What the trailing rule puts in the place of the last part. -/
def trailFix (prevs : List Item) : Item → List Item
  | .group n b => if b = [.star .notSlash] then [.group n [trailBody prevs.reverse], .atom .optSlash] else [.group n b]
  | .atom (.star .notSlash) => [.atom (trailBody prevs.reverse), .atom .optSlash]
  | x => [x]

theorem trailingPass_nil : trailingPass [] = [] := rfl

theorem trailingPass_concat (prevs : List Item) (last : Item) :
    trailingPass (prevs ++ [last]) = prevs ++ trailFix prevs last := by
  rw [trailingPass, List.reverse_append, List.reverse_singleton, List.singleton_append]
  cases last with
  | group n b =>
    simp only [trailFix, List.reverse_reverse]
    by_cases hb : b = [.star .notSlash]
    · rw [if_pos hb, if_pos hb]
    · rw [if_neg hb, if_neg hb]
  | bref m => rfl
  | atom a =>
    cases a with
    | star cs => cases cs <;> simp only [trailFix, List.reverse_reverse]
    | lit | one | plus | dirs | optSlash => rfl

section
variable {β : Type} (g : Item → Option β) (hatom : ∀ a, g (.atom a) = none)
  (hgroup : ∀ n b b', g (.group n b) = g (.group n b'))
include hatom hgroup

/-- The two passes rewrite atoms and the bodies of groups only: what does not look at those sees
the same items in the same order. -/
theorem filterMap_enclosedPass (b : Bool) (l : List Item) : (enclosedPass b l).filterMap g = l.filterMap g := by
  induction l generalizing b with
  | nil => rfl
  | cons x t ih =>
    cases t with
    | nil => rfl
    | cons y rest =>
      have hx : g (enclosedFix x) = g x := by
        cases x with
        | atom a => cases a <;> simp only [enclosedFix, hatom]
        | group n body =>
          rw [enclosedFix]
          split
          · exact hgroup ..
          · rfl
        | bref n => rfl
      rw [enclosedPass, List.filterMap_cons, List.filterMap_cons (a := x), ih,
        show g (if (b && startsSlash y) = true then enclosedFix x else x) = g x from ite_both (g · = g x) hx rfl]

theorem filterMap_trailingPass (l : List Item) : (trailingPass l).filterMap g = l.filterMap g := by
  obtain rfl | ⟨prevs, x, rfl⟩ := List.eq_nil_or_concat l
  · rfl
  · rw [List.concat_eq_append, trailingPass_concat, List.filterMap_append, List.filterMap_append]
    congr 1
    cases x with
    | group n b =>
      rw [trailFix]
      split
      · simp only [List.filterMap_cons, List.filterMap_nil, hatom, hgroup n _ b]
      · rfl
    | bref m => rfl
    | atom a =>
      cases a with
      | star cs => cases cs <;> simp only [trailFix, List.filterMap_cons, List.filterMap_nil, hatom]
      | lit | one | plus | dirs | optSlash => rfl

theorem filterMap_compiled (l : List Item) : (trailingPass (enclosedPass false l)).filterMap g = l.filterMap g :=
  (filterMap_trailingPass g hatom hgroup _).trans (filterMap_enclosedPass g hatom hgroup false l)
end

theorem compileToks_ok {toks : List Tok} {subs : Subs} {re : List Item} (h : compileToks toks subs = .ok re) :
    ∃ st, compileLoop subs toks ⟨[], none, []⟩ = .ok st ∧ re = trailingPass (enclosedPass false st.parts) := by
  unfold compileToks at h
  split at h
  · cases h
  · next st hp => cases h; exact ⟨st, hp, rfl⟩

def Item.bref? : Item → Option Str
  | .bref m => some m
  | _ => none

theorem mem_bref {m : Str} {l : List Item} : Item.bref m ∈ l ↔ m ∈ l.filterMap Item.bref? := by
  rw [List.mem_filterMap]
  exact ⟨fun h => ⟨_, h, rfl⟩, fun ⟨x, hx, e⟩ => by cases x <;> cases e; exact hx⟩

theorem compileToks_nodup {toks : List Tok} {subs : Subs} {re : List Item}
    (h : compileToks toks subs = .ok re) : (groupNames re).Nodup := by
  obtain ⟨st, hp, rfl⟩ := compileToks_ok h
  rw [groupNames, filterMap_compiled _ (fun _ => rfl) (fun _ _ _ => rfl)]
  exact (loopInv toks hp).ginv.1

theorem compileToks_no_bref {toks : List Tok} {subs : Subs} {re : List Item} {n : Str}
    (h : compileToks toks subs = .ok re) (h1 : toks.count (.named n) ≤ 1) : Item.bref n ∉ re := by
  obtain ⟨st, hp, rfl⟩ := compileToks_ok h
  rw [mem_bref, filterMap_compiled _ (fun _ => rfl) (fun _ _ _ => rfl), ← mem_bref]
  exact fun hm => absurd (Nat.le_trans ((loopInv toks hp).bref n hm) h1) (by decide)

theorem iglobR_cons (t : Tree) (base : Str) (revDir : List Str) (b : Bool) :
    iglobR t (base :: revDir) b = (dirsOf t revDir).flatMap fun d => globIn t d base b := by
  cases revDir <;> rfl

theorem isDirQ_iff (t : Tree) (p : Path) : isDirQ t p = true ↔ p ≠ [] ∧ (p, true) ∈ t := by
  simp [isDirQ]

theorem existsQ_iff (t : Tree) (p : Path) :
    existsQ t p = true ↔ p ≠ [] ∧ ((p, true) ∈ t ∨ (p, false) ∈ t) := by
  simp [existsQ]

theorem render_mem_treePaths {t : Tree} {x : GPath} (h : x ∈ t) : render x ∈ treePaths t :=
  List.mem_map_of_mem h

theorem mem_listdir {t : Tree} {d : Path} {b : Bool} {n : Str} (h : n ∈ listdir t d b) :
    ∃ isd, (d ++ [n], isd) ∈ t := by
  simp only [listdir, List.mem_filterMap, Prod.exists] at h
  obtain ⟨p, isd, hm, hc⟩ := h
  split at hc
  · next hcond =>
    simp only [Bool.and_eq_true, decide_eq_true_eq] at hcond
    obtain ⟨⟨_, hlen⟩, hpre⟩ := hcond
    obtain ⟨r, rfl⟩ := List.isPrefixOf_iff_prefix.mp hpre
    simp only [List.length_append] at hlen
    have hr : r.length = 1 := by omega
    match r, hr with
    | [x], _ =>
      simp at hc
      subst hc
      exact ⟨isd, hm⟩
  · cases hc

theorem mem_rlist {t : Tree} {d : Path} {b : Bool} {p : Path} (h : p ∈ rlist t d b) :
    p ≠ [] ∧ ∃ isd, (p, isd) ∈ t := by
  simp only [rlist, List.mem_filterMap, Prod.exists] at h
  obtain ⟨p', isd, hm, hc⟩ := h
  split at hc
  · next hcond =>
    simp only [Bool.and_eq_true, decide_eq_true_eq] at hcond
    cases hc
    refine ⟨?_, isd, hm⟩
    intro e; subst e
    simp at hcond
  · cases hc

theorem globIn_rec (t : Tree) (d : Path) (b : Bool) :
    globIn t d [42, 42] b = (d, true) :: (rlist t d b).map fun p => (p, false) := if_pos rfl

/-- Apart from `_glob2`, `glob_in_dir` yields no empty path. -/
theorem globIn_ne_nil {t : Tree} {d : Path} {base : Str} {b : Bool} (hb : base ≠ [42, 42]) :
    ∀ y ∈ globIn t d base b, y.1 ≠ [] := by
  intro y hy
  rw [globIn, if_neg hb] at hy
  by_cases hm : hasMagic base = true
  · rw [if_pos hm] at hy
    obtain ⟨n, _, rfl⟩ := List.mem_map.1 hy
    exact List.append_ne_nil_of_right_ne_nil _ (List.cons_ne_nil _ _)
  · rw [if_neg hm] at hy
    by_cases he : base = []
    · rw [if_pos he] at hy
      by_cases hd : isDirQ t d = true
      · rw [if_pos hd, List.mem_singleton] at hy
        exact hy ▸ ((isDirQ_iff t d).1 hd).1
      · rw [if_neg hd] at hy; cases hy
    · rw [if_neg he] at hy
      by_cases hx : existsQ t (d ++ [base]) = true
      · rw [if_pos hx, List.mem_singleton] at hy
        exact hy ▸ List.append_ne_nil_of_right_ne_nil _ (List.cons_ne_nil _ _)
      · rw [if_neg hx] at hy; cases hy

theorem mem_iglob_subset (t : Tree) (g : Str) (x : GPath) (h : x ∈ iglob t g) :
    x ∈ iglobR t (splitSlash g).reverse false := by
  unfold iglob at h
  simp only at h
  split at h
  · split at h
    · next y ys hr =>
      rw [hr]
      split at h
      · exact List.mem_cons_of_mem _ h
      · rw [hr] at h; exact h
    · simp at h
  · exact h

/-- No element of `l` has an empty path, except, and only if `c`, its head. -/
def Shape {α : Type} (f : α → Path) (c : Prop) (l : List α) : Prop :=
  (∀ y ∈ l, f y ≠ []) ∨ (c ∧ ∃ x l', l = x :: l' ∧ f x = [] ∧ ∀ y ∈ l', f y ≠ [])

theorem Shape.imp {α : Type} {f : α → Path} {c c' : Prop} {l : List α} (h : Shape f c l) (hc : c → c') :
    Shape f c' l :=
  h.imp_right fun ⟨h1, h2⟩ => ⟨hc h1, h2⟩

theorem Shape.map {α : Type} {f : α → Path} {c : Prop} {l : List α} (h : Shape f c l) : Shape id c (l.map f) := by
  obtain h | ⟨hc, x, l', rfl, hx, hl⟩ := h
  · exact .inl fun y hy => let ⟨a, ha, e⟩ := List.mem_map.1 hy; e ▸ h a ha
  · exact .inr ⟨hc, f x, l'.map f, rfl, hx, fun y hy => let ⟨a, ha, e⟩ := List.mem_map.1 hy; e ▸ hl a ha⟩

/-- `glob_in_dir` yields an empty path only as the unchecked base of `_glob2` on the root. -/
theorem globIn_shape (t : Tree) (d : Path) (base : Str) (b : Bool) :
    Shape Prod.fst (d = [] ∧ base = [42, 42]) (globIn t d base b) := by
  by_cases hb : base = [42, 42]
  · subst hb
    rw [globIn_rec]
    have hr : ∀ y ∈ (rlist t d b).map fun p => (p, false), y.1 ≠ [] := fun y hy =>
      let ⟨p, hp, e⟩ := List.mem_map.1 hy; e ▸ (mem_rlist hp).1
    by_cases hd : d = []
    · exact .inr ⟨⟨hd, rfl⟩, _, _, rfl, hd, hr⟩
    · exact .inl (List.forall_mem_cons.2 ⟨hd, hr⟩)
  · exact .inl (globIn_ne_nil hb)

theorem Shape.flatMap_globIn {t : Tree} {base : Str} {b : Bool} {c : Prop} {dirs : List Path} (h : Shape id c dirs) :
    Shape Prod.fst (c ∧ base = [42, 42]) (dirs.flatMap fun d => globIn t d base b) := by
  have rest {ds : List Path} (hds : ∀ d ∈ ds, d ≠ []) : ∀ y ∈ ds.flatMap (fun d => globIn t d base b), y.1 ≠ [] := by
    intro y hy
    obtain ⟨d, hd, hyd⟩ := List.mem_flatMap.1 hy
    exact (globIn_shape t d base b).elim (fun h => h y hyd) fun h => absurd h.1.1 (hds d hd)
  obtain h | ⟨hc, d0, ds, rfl, hd0, hds⟩ := h
  · exact .inl (rest h)
  · cases (hd0 : d0 = [])
    rw [List.flatMap_cons]
    obtain h0 | ⟨⟨_, hb⟩, x, l', e, hx, hl⟩ := globIn_shape t [] base b
    · exact .inl fun y hy => (List.mem_append.1 hy).elim (h0 y) (rest hds y)
    · rw [e]
      exact .inr ⟨⟨hc, hb⟩, x, _, rfl, hx, fun y hy => (List.mem_append.1 hy).elim (hl y) (rest hds y)⟩

def AllRec (rc : List Str) : Prop := ∀ c ∈ rc, c = [42, 42]

theorem iglobR_shape (t : Tree) (rc : List Str) (b : Bool) : Shape Prod.fst (AllRec rc) (iglobR t rc b) := by
  induction rc generalizing b with
  | nil => exact .inl fun _ h => nomatch h
  | cons base revDir ih =>
    have hd : Shape id (AllRec revDir) (dirsOf t revDir) := by
      unfold dirsOf
      split
      · exact .inr ⟨nofun, [], [], rfl, rfl, nofun⟩
      · split
        · exact (ih true).map
        · exact .inl fun y hy => List.mem_singleton.1 hy ▸ fun e => nomatch List.reverse_eq_nil_iff.1 e
    rw [iglobR_cons]
    exact hd.flatMap_globIn.imp fun ⟨h1, h2⟩ => List.forall_mem_cons.2 ⟨h2, h1⟩

theorem splitSlashAux_head (s acc : Str) :
    ∃ rest, splitSlashAux s acc = (acc.reverse ++ s.takeWhile (· != 47)) :: rest := by
  induction s generalizing acc with
  | nil => exact ⟨[], by rw [splitSlashAux, List.takeWhile_nil, List.append_nil]⟩
  | cons c t ih =>
    rw [splitSlashAux]
    by_cases hc : c = 47
    · rw [if_pos hc, List.takeWhile_cons_of_neg (by simp [hc]), List.append_nil]; exact ⟨_, rfl⟩
    · obtain ⟨rest, e⟩ := ih (c :: acc)
      rw [if_neg hc, e, List.takeWhile_cons_of_pos (by simp [hc]), List.reverse_cons, List.append_assoc]
      exact ⟨rest, rfl⟩

theorem take2_of_allRec {g : Str} (h : AllRec (splitSlash g).reverse) : g.take 2 = [42, 42] := by
  obtain ⟨rest, e⟩ := splitSlashAux_head g []
  have h0 : g.takeWhile (· != 47) = [42, 42] :=
    h _ (List.mem_reverse.2 (by rw [splitSlash, e]; exact List.mem_cons_self))
  obtain ⟨r, hr⟩ := h0 ▸ List.takeWhile_prefix (l := g) (· != 47)
  rw [← hr]; rfl

theorem iglob_ne_nil (t : Tree) (g : Str) (x : GPath) (h : x ∈ iglob t g) : x.1 ≠ [] := by
  obtain h0 | ⟨hall, y, l', e, hy, hl⟩ := iglobR_shape t (splitSlash g).reverse false
  · exact h0 x (mem_iglob_subset t g x h)
  · have hr : render y = [] := if_pos hy
    simp only [iglob, e, if_pos (take2_of_allRec hall), hr, if_true] at h
    exact hl x h

/-- Forget the name `n`: a group `n` around a bare single-component wildcard becomes the wildcard. -/
def anon (n : Str) : Item → Item
  | .group m b =>
    if m = n ∧ b = [.star .notSlash] then .atom (.star .notSlash)
    else if m = n ∧ b = [.plus .notSlash] then .atom (.plus .notSlash)
    else .group m b
  | x => x

theorem anon_atom (n : Str) (a : Atom) : anon n (.atom a) = .atom a := rfl
theorem anon_bref (n m : Str) : anon n (.bref m) = .bref m := rfl

theorem anon_star (n : Str) : anon n (.group n [.star .notSlash]) = .atom (.star .notSlash) := if_pos ⟨rfl, rfl⟩

theorem anon_plus (n : Str) : anon n (.group n [.plus .notSlash]) = .atom (.plus .notSlash) :=
  (if_neg fun h => nomatch h.2).trans (if_pos ⟨rfl, rfl⟩)

theorem anon_ind (n : Str) (P : Item → Item → Prop) (same : ∀ x, anon n x = x → P x x)
    (star : P (.group n [.star .notSlash]) (.atom (.star .notSlash)))
    (plus : P (.group n [.plus .notSlash]) (.atom (.plus .notSlash))) (x : Item) : P x (anon n x) := by
  cases x with
  | atom a => exact same _ rfl
  | bref m => exact same _ rfl
  | group m b =>
    by_cases h1 : m = n ∧ b = [.star .notSlash]
    · obtain ⟨rfl, rfl⟩ := h1; rw [anon_star]; exact star
    · by_cases h2 : m = n ∧ b = [.plus .notSlash]
      · obtain ⟨rfl, rfl⟩ := h2; rw [anon_plus]; exact plus
      · have e : anon n (.group m b) = .group m b := (if_neg h1).trans (if_neg h2)
        rw [e]; exact same _ e

theorem anon_group_ne {n m : Str} (h : m ≠ n) (b : List Atom) : anon n (.group m b) = .group m b :=
  (if_neg fun e => h e.1).trans (if_neg fun e => h e.1)

theorem ne_of_anon_star {n m : Str} (h : anon n (.group m [.star .notSlash]) = .group m [.star .notSlash]) : m ≠ n :=
  fun e => by subst e; rw [anon_star] at h; cases h

theorem startsSlash_anon (n : Str) (x : Item) : startsSlash (anon n x) = startsSlash x :=
  anon_ind n (fun x y => startsSlash y = startsSlash x) (fun _ _ => rfl) rfl rfl x

theorem endsSlash_anon (n : Str) (x : Item) : endsSlash (anon n x) = endsSlash x :=
  anon_ind n (fun x y => endsSlash y = endsSlash x) (fun _ _ => rfl) rfl rfl x

theorem enclosedFix_anon (n : Str) (x : Item) : enclosedFix (anon n x) = anon n (enclosedFix x) := by
  refine anon_ind n (fun x y => enclosedFix y = anon n (enclosedFix x)) (fun x hx => ?_) (anon_plus n).symm
    (anon_plus n).symm x
  cases x with
  | atom a => cases a <;> rfl
  | bref m => rfl
  | group m b =>
    rw [enclosedFix]
    by_cases hb : b = [.star .notSlash]
    · rw [if_pos hb, anon_group_ne (ne_of_anon_star (hb ▸ hx))]
    · rw [if_neg hb, hx]

theorem enclosedPass_anon (n : Str) (b : Bool) (l : List Item) :
    enclosedPass b (l.map (anon n)) = (enclosedPass b l).map (anon n) := by
  induction l generalizing b with
  | nil => rfl
  | cons x t ih =>
    cases t with
    | nil => rfl
    | cons y rest =>
      have hih := ih (endsSlash x)
      simp only [List.map_cons] at hih
      simp only [List.map_cons, enclosedPass]
      rw [startsSlash_anon, endsSlash_anon, hih]
      split
      · rw [enclosedFix_anon]
      · rfl

theorem trailBody_anon (n : Str) (prevs : List Item) :
    trailBody ((prevs.map (anon n)).reverse) = trailBody prevs.reverse := by
  rw [← List.map_reverse]
  cases prevs.reverse with
  | nil => rfl
  | cons p ps =>
    rw [trailBody, trailBody, List.map_cons, List.head?_cons, List.head?_cons, Option.map_some, Option.map_some,
      endsSlash_anon]

theorem trailFix_anon (n : Str) (prevs : List Item) (x : Item) :
    trailFix (prevs.map (anon n)) (anon n x) = (trailFix prevs x).map (anon n) := by
  have htb : trailBody prevs.reverse = .plus .notSlash ∨ trailBody prevs.reverse = .star .notSlash := by
    rw [trailBody]
    by_cases c : (prevs.reverse.head?.map endsSlash).getD false = true
    · exact .inl (if_pos c)
    · exact .inr (if_neg c)
  refine anon_ind n (fun x y => trailFix (prevs.map (anon n)) y = (trailFix prevs x).map (anon n))
    (fun x hx => ?_) ?_ ?_ x
  · cases x with
    | bref m => rfl
    | atom a =>
      cases a with
      | star cs => cases cs <;> simp only [trailFix, trailBody_anon, List.map_cons, List.map_nil, anon_atom]
      | lit | one | plus | dirs | optSlash => rfl
    | group m b =>
      rw [trailFix, trailFix]
      by_cases hb : b = [.star .notSlash]
      · rw [if_pos hb, if_pos hb, trailBody_anon, List.map_cons, anon_group_ne (ne_of_anon_star (hb ▸ hx))]; rfl
      · rw [if_neg hb, if_neg hb, List.map_singleton, hx]
  · rw [trailFix, trailFix, if_pos rfl, trailBody_anon, List.map_cons]
    obtain e | e := htb
    · rw [e, anon_plus]; rfl
    · rw [e, anon_star]; rfl
  · have e : trailFix prevs (.group n [.plus .notSlash]) = [.group n [.plus .notSlash]] := by
      rw [trailFix, if_neg nofun]
    rw [e, List.map_singleton, anon_plus]
    rfl

theorem trailingPass_anon (n : Str) (l : List Item) :
    trailingPass (l.map (anon n)) = (trailingPass l).map (anon n) := by
  obtain rfl | ⟨prevs, last, rfl⟩ := List.eq_nil_or_concat l
  · rfl
  · rw [List.concat_eq_append, List.map_append, List.map_singleton, trailingPass_concat, trailingPass_concat, List.map_append, trailFix_anon]

def starLike : Tok → Bool
  | .star | .dstar | .dstarSlash => true
  | _ => false

/-- The state of the run on `*` seen from the run on `${*n}`: the group `n` forgotten, `${*n}` as
last token read as `*`, `n` not encountered. -/
def forget (n : Str) (S : CState) : CState :=
  ⟨S.parts.map (anon n), S.last.map fun t => if t = .named n then .star else t, S.enc.filter (· ≠ n)⟩

theorem map_putPart {α β : Type} (f : α → β) (b : Bool) (l : List α) (x : α) :
    (putPart b l x).map f = putPart b (l.map f) (f x) := by
  unfold putPart
  split <;> simp [List.map_dropLast]

theorem map_place (n : Str) (parts : List Item) (e : Option (Bool × Atom)) :
    (place parts e).map (anon n) = place (parts.map (anon n)) e := by
  cases e with
  | none => rfl
  | some p => exact map_putPart _ _ _ _

/-- `emit` looks at the token before only for a `*`-like token. -/
theorem emit_congr {l l' : Option Tok} {tok : Tok} (h : l = l' ∨ starLike tok = false) : emit l tok = emit l' tok := by
  obtain rfl | h := h
  · rfl
  · cases tok <;> first | rfl | cases h

theorem forget_last {n : Str} {S : CState} (h : S.last ≠ some (.named n)) : (forget n S).last = S.last := by
  cases hs : S.last with
  | none => rw [forget, hs]; rfl
  | some t => rw [forget, hs, Option.map_some, if_neg fun e => h (hs.trans (congrArg _ e))]

/-- One step commutes with forgetting, unless the step looks at a last token `${*n}`. -/
theorem compileStep_forget (subs : Subs) (n : Str) (S : CState) (tok : Tok) (htok : tok ≠ .named n)
    (hlast : S.last ≠ some (.named n) ∨ starLike tok = false) :
    compileStep subs (forget n S) tok = (compileStep subs S tok).map (forget n) := by
  have plain (hn : ∀ m, tok ≠ .named m) :
      compileStep subs (forget n S) tok = (compileStep subs S tok).map (forget n) := by
    rw [compileStep_plain _ _ hn, compileStep_plain _ _ hn, emit_congr (hlast.imp_left forget_last)]
    exact congrArg Except.ok (by rw [forget, forget, map_place, Option.map_some, if_neg htok])
  cases tok with
  | named m =>
    have hm : m ≠ n := fun e => htok (e ▸ rfl)
    have hc : (forget n S).enc.contains m = S.enc.contains m := by simp [forget, hm]
    have mk {A B : List Item} {e : List Str} (h : A = B.map (anon n)) :
        (⟨A, some (.named m), e.filter (· ≠ n)⟩ : CState) = forget n ⟨B, some (.named m), e⟩ := by
      rw [forget, h, Option.map_some, if_neg htok]
    have app (x : Item) (hx : anon n x = x) : (forget n S).parts ++ [x] = (S.parts ++ [x]).map (anon n) := by
      rw [List.map_append, List.map_singleton, hx]; rfl
    rw [compileStep, compileStep, hc]
    by_cases h0 : m = []
    · rw [if_pos h0, if_pos h0]; rfl
    · rw [if_neg h0, if_neg h0]
      by_cases c : S.enc.contains m = true
      · rw [if_pos c, if_pos c]; exact congrArg Except.ok (mk (app _ rfl))
      · rw [if_neg c, if_neg c]
        cases compileSub (subs.getD m) with
        | error e => rfl
        | ok body =>
          refine congrArg Except.ok ?_
          rw [← mk (e := m :: S.enc) (app _ (anon_group_ne hm body)), List.filter_cons_of_pos (by simpa using hm)]
          rfl
  | _ => exact plain nofun

theorem compileLoop_forget (subs : Subs) (n : Str) (toks : List Tok) (hfree : Tok.named n ∉ toks) (S : CState)
    (hlast : S.last ≠ some (.named n) ∨ ∀ t, toks.head? = some t → starLike t = false) :
    compileLoop subs toks (forget n S) = (compileLoop subs toks S).map (forget n) := by
  induction toks generalizing S with
  | nil => rfl
  | cons tok rest ih =>
    have htok : tok ≠ .named n := fun e => hfree (e ▸ List.mem_cons_self)
    rw [compileLoop, compileLoop, compileStep_forget subs n S tok htok (hlast.imp_right fun h => h tok rfl)]
    cases h1 : compileStep subs S tok with
    | error e => rfl
    | ok S1 =>
      refine ih (fun h => hfree (List.mem_cons_of_mem _ h)) S1 (.inl ?_)
      rw [compileStep_last h1]
      exact fun e => htok (Option.some.inj e)

theorem compileLoop_append (subs : Subs) (tp rest : List Tok) (st : CState) :
    compileLoop subs (tp ++ rest) st =
      match compileLoop subs tp st with
      | .error e => .error e
      | .ok st' => compileLoop subs rest st' := by
  induction tp generalizing st with
  | nil => rfl
  | cons tok tp ih =>
    simp only [List.cons_append, compileLoop]
    cases compileStep subs st tok with
    | error e => rfl
    | ok st1 => exact ih st1

theorem map_anon_id {n : Str} {l : List Item} {enc : List Str} (hi : OneGroup l enc) (hn : n ∉ enc) :
    l.map (anon n) = l := by
  have : ∀ x ∈ l, anon n x = x := by
    intro x hx
    cases x with
    | atom a => rfl
    | bref m => rfl
    | group m b =>
      have hm : m ∈ groupNames l := by
        simp only [groupNames, List.mem_filterMap]
        exact ⟨_, hx, rfl⟩
      have : m ≠ n := by rintro rfl; exact hn (hi.2 m hm)
      exact anon_group_ne this b
  calc l.map (anon n) = l.map id := List.map_congr_left this
    _ = l := List.map_id l

theorem compileSub_star : compileSub [42] = .ok [.star .notSlash] := by rfl

/-- Compiling with `${*n}` (fresh, no substitution, not next to another `*`-like token) gives the
expression compiled with `*`, up to the group around that one wildcard, which nothing refers to. -/
theorem compileToks_anon (subs : Subs) (tp tq : List Tok) (n : Str)
    (hn : n ≠ []) (hsub : subs.getD n = [42]) (hp : Tok.named n ∉ tp) (hq : Tok.named n ∉ tq)
    (hl1 : tp.getLast? ≠ some .star) (hl2 : tp.getLast? ≠ some .dstar)
    (hright : ∀ t, tq.head? = some t → starLike t = false) :
    compileToks (tp ++ .star :: tq) subs = (compileToks (tp ++ .named n :: tq) subs).map (List.map (anon n)) ∧
    ∀ R, compileToks (tp ++ .named n :: tq) subs = .ok R → Item.bref n ∉ R := by
  refine ⟨?_, fun R hR => compileToks_no_bref hR ?_⟩
  · unfold compileToks
    rw [compileLoop_append, compileLoop_append]
    cases hP : compileLoop subs tp ⟨[], none, []⟩ with
    | error e => rfl
    | ok P =>
      have hI := loopInv tp hP
      have hnenc : n ∉ P.enc := fun h => absurd (hI.met n h) (by rw [List.count_eq_zero_of_not_mem hp]; decide)
      have hstar : compileStep subs P .star = .ok ⟨P.parts ++ [.atom (.star .notSlash)], some .star, P.enc⟩ := by
        simp [compileStep, hI.last, hl1, hl2]
      have hnamed : compileStep subs P (.named n) =
          .ok ⟨P.parts ++ [.group n [.star .notSlash]], some (.named n), n :: P.enc⟩ := by
        simp [compileStep, hn, hnenc, hsub, compileSub_star]
      have hS : (⟨P.parts ++ [.atom (.star .notSlash)], some .star, P.enc⟩ : CState) =
          forget n ⟨P.parts ++ [.group n [.star .notSlash]], some (.named n), n :: P.enc⟩ := by
        rw [forget, List.map_append, map_anon_id hI.ginv hnenc, List.map_singleton, anon_star, Option.map_some,
          if_pos rfl, List.filter_cons_of_neg (by simp), List.filter_eq_self.2 fun m hm => by simpa using fun (e : m = n) => hnenc (e ▸ hm)]
      simp only [compileLoop, hstar, hnamed, hS, compileLoop_forget subs n tq hq _ (.inr hright)]
      cases compileLoop subs tq ⟨P.parts ++ [.group n [.star .notSlash]], some (.named n), n :: P.enc⟩ with
      | error e => rfl
      | ok T => exact congrArg Except.ok ((congrArg trailingPass (enclosedPass_anon n false T.parts)).trans
          (trailingPass_anon n _))
  · rw [List.count_append, List.count_cons_self, List.count_eq_zero_of_not_mem hp, List.count_eq_zero_of_not_mem hq]
    exact Nat.le_refl 1

def AgreeExcept (n : Str) (e e' : Env) : Prop := ∀ m, m ≠ n → e.get m = e'.get m

theorem agreeExcept_cons {n : Str} {e e' : Env} (h : AgreeExcept n e e') (m v : Str) :
    AgreeExcept n ((m, v) :: e) ((m, v) :: e') := by
  intro k hk
  rw [env_get_cons, env_get_cons, h k hk]

theorem agreeExcept_cons_right {n : Str} {e e' : Env} (h : AgreeExcept n e e') (v : Str) :
    AgreeExcept n e ((n, v) :: e') := by
  intro k hk
  rw [env_get_cons, if_neg (fun e => hk e.symm), h k hk]

theorem matchItems_anon (n : Str) (l : List Item) (hb : Item.bref n ∉ l) (e e' : Env)
    (h : AgreeExcept n e e') (inp : Str) :
    (matchItems (l.map (anon n)) e inp).isSome = (matchItems l e' inp).isSome := by
  induction l generalizing e e' inp with
  | nil => simp only [List.map_nil, matchItems]; split <;> rfl
  | cons x rest ih =>
    have ih := ih (fun hm => hb (List.mem_cons_of_mem _ hm))
    -- a forgotten group matches like its body, with a binding more that nothing reads
    have forgotten (a : Atom) (e e' : Env) (h : AgreeExcept n e e') (inp : Str) :
        (matchItems (.atom a :: rest.map (anon n)) e inp).isSome =
          (matchItems (.group n [a] :: rest) e' inp).isSome :=
      matchAtoms_isSome_congr _ _ _ _ fun r => ih e _ (agreeExcept_cons_right h _) r
    refine anon_ind n (fun x y => Item.bref n ≠ x → ∀ e e', AgreeExcept n e e' → ∀ inp,
      (matchItems (y :: rest.map (anon n)) e inp).isSome = (matchItems (x :: rest) e' inp).isSome)
      (fun x _ hx e e' h inp => ?_) (fun _ => forgotten _) (fun _ => forgotten _) x
      (fun e => hb (e ▸ List.mem_cons_self)) e e' h inp
    cases x with
    | atom a => exact matchAtoms_isSome_congr _ _ _ _ fun r => ih e e' h r
    | group m b => exact matchAtoms_isSome_congr _ _ _ _ fun r => ih _ _ (agreeExcept_cons h m _) r
    | bref m =>
      simp only [matchItems]
      rw [h m fun e => hx (e ▸ rfl)]
      split
      · split
        · exact ih e e' h _
        · rfl
      · rfl

theorem accepts_anon (n : Str) (l : List Item) (hb : Item.bref n ∉ l) (s : Str) :
    accepts (l.map (anon n)) s = accepts l s :=
  matchItems_anon n l hb [] [] (fun _ _ => rfl) s

end StepupModel.P.NGlob
