import StepupModel.Lemmas.ReachFrame
import StepupModel.Lemmas.Saturate
import StepupModel.Lemmas.Cleanup
/-!
# The recursive walk behind `RECURSIVELY_SET_DETACHED`, and what the skeleton writes do

`KState.descendants s k` (a `UNION` recursion run `#nodes` times) is exactly the set of
recursive products `Sk.Desc s.skel k` (`mem_descendants`): soundness is an invariant of the passes,
completeness comes from the counting argument of `Lemmas/Saturate.lean`.  No hypothesis on the state is
needed, cycles and duplicate keys included.

The rest reads the creator guards and the writes that touch the creator forest as statements about `s.skel`
(`skel_*`).  The composite operations (`detach`, `reattach`, `create`) are put together from these in
`Lemmas/ReachLift.lean`.
-/
namespace StepupModel.K
open Sk

def descFire (k : Key) (acc : List Key) (n : Node) : Bool :=
  match n.creator with
  | some c => decide ((c = k ∨ acc.contains c) ∧ n.key ≠ c)
  | none => false

theorem descFire_iff {k : Key} {acc : List Key} {n : Node} :
    descFire k acc n = true ↔ ∃ c, n.creator = some c ∧ (c = k ∨ c ∈ acc) ∧ n.key ≠ c := by
  unfold descFire
  cases n.creator with
  | none => exact ⟨fun h => (nomatch h), fun ⟨_, h, _⟩ => (nomatch h)⟩
  | some c => simp

theorem descendants_eq_iter (s : KState) (k : Key) :
    s.descendants k = Sat.iter Node.key (descFire k) s.nodes s.nodes.length [] := by
  unfold KState.descendants
  rw [← Sat.foldl_range_eq_iter]
  unfold Sat.pass
  dsimp only
  congr 1; funext acc _; congr 1; funext acc n
  unfold Sat.step descFire
  cases n.creator <;> simp [and_assoc]

theorem products_keys_skel {s : KState} (hn : Sk.Nodup s.skel) (k : Key) {t : Tri} (ht : t ∈ s.skel) :
    t.1 ∈ (s.products k).map (·.key) ↔ t.2.1 = some k ∧ t.1 ≠ k := by
  rw [List.mem_map]
  constructor
  · rintro ⟨p, hp, hpk⟩
    obtain ⟨hp1, hp2⟩ := mem_products_iff.1 hp
    exact Sk.uniq hn (mem_skel_of_mem hp1) ht hpk ▸ hp2
  · intro h
    obtain ⟨n, hn', rfl⟩ := List.mem_map.1 ht
    exact ⟨n, mem_products_iff.2 ⟨hn', h⟩, rfl⟩

theorem mem_descendants (s : KState) (k x : Key) : x ∈ s.descendants k ↔ Desc s.skel k x := by
  rw [descendants_eq_iter]
  constructor
  · refine Sat.iter_inv (fun acc => ∀ x ∈ acc, Desc s.skel k x) s.nodes ?_ _ [] (fun _ h => nomatch h) x
    intro acc n hn hI hf _ x hx
    rcases List.mem_append.1 hx with hx | hx
    · exact hI x hx
    · obtain ⟨c, hc, hck, hne⟩ := descFire_iff.1 hf
      have hrow : (n.key, some c, n.detached) ∈ s.skel := hc ▸ mem_skel_of_mem hn
      rw [List.mem_singleton.1 hx]
      exact Desc.of_row hrow hne (hck.imp_right (hI c))
  · intro h
    have hcl := Sat.iter_closed (new := Node.key) (fire := descFire k) s.nodes (Nat.le_refl _) []
    refine h.induct_row fun x c d hm hne _ hc => ?_
    obtain ⟨n, hn, htri⟩ := List.mem_map.1 hm
    obtain ⟨rfl, h2, _⟩ := Prod.mk.inj htri |>.imp id Prod.mk.inj
    exact hcl n hn (descFire_iff.2 ⟨c, h2, hc.imp id (·.2), hne⟩)

theorem att_iff_find {s : KState} (hn : Sk.Nodup s.skel) (k : Key) :
    Att s.skel k ↔ ∃ n, s.find? k = some n ∧ n.detached = false :=
  ⟨fun ⟨t, ht, hk, hd⟩ => by
      subst hk
      obtain ⟨n, hf, _, h2⟩ := find?_of_row (c := t.2.1) (d := t.2.2) hn ht
      exact ⟨n, hf, h2.trans hd⟩,
    fun ⟨_, hf, hd⟩ => ⟨_, find?_row hf, rfl, hd⟩⟩

theorem isDetached_false_iff {s : KState} (hn : Sk.Nodup s.skel) (k : Key) : s.isDetached k = false ↔ Att s.skel k := by
  rw [att_iff_find hn]
  unfold KState.isDetached
  cases s.find? k with
  | none => exact ⟨nofun, fun ⟨_, h, _⟩ => nomatch h⟩
  | some n => exact ⟨fun h => ⟨n, rfl, h⟩, fun ⟨_, h, hd⟩ => Option.some.inj h ▸ hd⟩

theorem creatorDetached_false_iff {s : KState} (hn : Sk.Nodup s.skel) (c : Option Key) :
    s.creatorDetached c = false ↔ ∃ c', c = some c' ∧ Att s.skel c' := by
  unfold KState.creatorDetached
  cases c with
  | none => simp
  | some c' =>
    simp only [Option.some.injEq, exists_eq_left']
    exact isDetached_false_iff hn c'

theorem insertAllowed_some {s : KState} {k ck : Key} (h : s.insertAllowed k (some ck) = true) :
    Has s.skel ck ∧ creatorKindOk k.kind ck.kind = true := by
  unfold KState.insertAllowed at h
  cases hf : s.find? ck with
  | none => simp [hf] at h
  | some cn =>
    simp only [hf] at h
    rw [find_key hf] at h
    exact ⟨find?_some_has hf, h⟩

theorem skel_modify_map (s : KState) (k : Key) (f : Node → Node) (G : Tri → Tri)
    (hf : ∀ n, n.key = k → (f n).tri = G n.tri) :
    (s.modify k f).skel = s.skel.map fun t => if t.1 = k then G t else t := by
  unfold KState.modify KState.skel
  simp only [List.map_map]
  apply List.map_congr_left
  intro n _
  simp only [Function.comp]
  by_cases h : n.key = k
  · have h' : n.tri.1 = k := h
    rw [if_pos h, if_pos h']; exact hf n h
  · have h' : ¬ n.tri.1 = k := h
    rw [if_neg h, if_neg h']

theorem skel_flagReadySinks (s : KState) (k : Key) : (s.flagReadySinks k).skel = s.skel := by
  unfold KState.flagReadySinks
  exact skel_modifyWhere _ _ _ (fun _ => rfl)

theorem skel_setDetachedRow (s : KState) (k : Key) (d : Bool) :
    (s.setDetachedRow k d).skel = s.skel.map fun t => if t.1 = k then (t.1, t.2.1, d) else t := by
  have hm := skel_modify_map s k (fun n => { n with detached := d }) (fun t => (t.1, t.2.1, d)) (fun _ _ => rfl)
  rcases setDetachedRow_cases s k d with ⟨hf, e⟩ | ⟨n, _, ⟨_, e⟩ | ⟨_, e⟩⟩ <;> rw [e]
  · exact (map_id_of _ fun t ht => if_neg fun h => (find?_none_iff s k).1 hf ⟨t, ht, h⟩).symm
  · exact hm
  · rw [skel_flagReadySinks]; exact hm

theorem skel_foldl {β : Type} (f : KState → β → KState) (g : List Tri → β → List Tri)
    (h : ∀ s x, (f s x).skel = g s.skel x) (xs : List β) (s : KState) : (xs.foldl f s).skel = xs.foldl g s.skel :=
  (List.foldl_hom KState.skel fun s x => (h s x).symm).symm

theorem skel_setDetachedRec (s : KState) (k : Key) (d : Bool) :
    (s.setDetachedRec k d).skel = setD (fun x => (s.descendants k).contains x) d s.skel := by
  unfold KState.setDetachedRec
  rw [skel_foldl _ (fun l x => l.map fun t => if t.1 = x then (t.1, t.2.1, d) else t) (fun s x => skel_setDetachedRow s x d)]
  exact foldl_map_rows (fun t => (t.1, t.2.1, d)) (fun _ => rfl) (fun _ => rfl) (s.descendants k) s.skel

theorem descendants_contains (s : KState) (k x : Key) : (s.descendants k).contains x = true ↔ Desc s.skel k x := by
  rw [List.contains_iff_mem]
  exact mem_descendants s k x

/-- `RECURSIVELY_SET_DETACHED` writes the flag of exactly the recursive products of `k`, no other column and no
other row. -/
theorem setDetachedRec_spec (s : KState) (k : Key) (d : Bool) :
    ∃ D : Key → Bool, (∀ x, D x = true ↔ Sk.Desc s.skel k x) ∧
      (s.setDetachedRec k d).skel = s.skel.map fun t => if D t.1 then (t.1, t.2.1, d) else t :=
  ⟨fun x => (s.descendants k).contains x, fun x => descendants_contains s k x, skel_setDetachedRec s k d⟩

theorem skel_setCreator {s s' : KState} {k : Key} {c : Option Key} {d : Bool} (h : s.setCreator k c d = .ok s') :
    s'.skel = setRow k c d s.skel ∧ s.creatorAllowed k c d = true := by
  obtain ⟨hall, rfl⟩ := setCreator_ok h
  refine ⟨?_, hall⟩
  rw [skel_setDetachedRow, skel_modify_map s k (fun n => { n with creator := c }) (fun t => (t.1, c, t.2.2)) (fun _ _ => rfl),
    List.map_map]
  refine List.map_congr_left fun t _ => ?_
  by_cases hk : t.1 = k <;> simp [hk]

theorem skel_appendNode (s : KState) (k : Key) (c : Option Key) :
    (s.appendNode k c).skel = s.skel ++ [(k, c, s.creatorDetached c)] :=
  List.map_append (f := Node.tri) (l₁ := s.nodes) (l₂ := [newRow s k c])

theorem skel_handOver (s : KState) (tk : Key) (hs : List Key) : (s.handOver tk hs).skel = hand tk hs s.skel := by
  unfold KState.handOver
  rw [skel_foldl _ (fun l x => l.map fun t => if t.1 = x then (t.1, some tk, t.2.2) else t) fun s x =>
    skel_modify_map s x (fun n => { n with creator := some tk }) (fun t => (t.1, some tk, t.2.2)) (fun _ _ => rfl)]
  exact foldl_map_rows (fun t => (t.1, some tk, t.2.2)) (fun _ => rfl) (fun _ => rfl) hs s.skel

theorem skel_eq_cores (s : KState) : s.skel = s.cores.map fun c => (c.1, c.2.1, c.2.2.1) := by
  unfold KState.skel KState.cores
  rw [List.map_map]
  rfl

theorem skel_of_cores {s s' : KState} (h : s'.cores = s.cores) : s'.skel = s.skel := by
  rw [skel_eq_cores, skel_eq_cores, h]

theorem skel_deleteDeps (s : KState) (p : Dep → Bool) : (s.deleteDeps p).skel = s.skel :=
  skel_of_cores (deleteDeps_spec s p).1

/-- One pass of `Trellis.delete_detached` removes the rows of its candidates, nothing else. -/
theorem skel_deletePass {s s' : KState} {cs : List Key} {b : Bool} (h : s.deletePass = .ok (s', cs, b)) :
    s'.skel = s.skel.filter (fun t => !((s.cands.map (·.key)).contains t.1)) := by
  obtain ⟨_, hspec⟩ := deletePass_spec s s' cs b h
  rw [skel_eq_cores, skel_eq_cores, hspec.cores, List.filter_map]
  congr 1
  apply List.filter_congr
  intro c _
  simp only [Function.comp]
  exact all_ne_contains s.cands c.1

end StepupModel.K
