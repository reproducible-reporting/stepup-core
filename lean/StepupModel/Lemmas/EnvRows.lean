import StepupModel.Lemmas.KProp
import StepupModel.Lemmas.KView
import StepupModel.Lemmas.Guards
import StepupModel.Lemmas.Inv
import StepupModel.Lemmas.StableW
/-!
Which columns the partial recycle of a step (the recycle branch of `Trellis.create`) leaves alone.  The view `envView`
keeps the key and the `env_var` rows of every node; every primitive used by `recycleCore` preserves it (nothing in that
branch deletes `env_var` rows).  Then the `env_var` rows of one row through the creation and the recycle branch of
`define_step`: "the row `q` is there with the rows `l`" is kept by every kind of write but four (`stable_envs`), so that
the walk of `Lemmas/StableW.lean` carries it.  The property statements are in `Props/C01.lean`.
-/
namespace StepupModel.K

def Node.envView (n : Node) : Key × List (String × Option String × Bool) := (n.key, n.envs)

theorem envView_blind : Keeps Node.envView Node.noLink := fun _ => rfl

/-- `s'` has the same nodes with the same `env_var` rows, in the same order. -/
abbrev EnvFrame (s s' : KState) : Prop := SameView Node.envView s s'

/-- The recycle branch of `Trellis.create` up to the re-creation of the satellite row. -/
theorem envFrame_recycleCore {s s' : KState} {k : Key} {n : Node} {creator : Option Key} {init : Init}
    (h : s.recycleCore k n creator init = .ok s') : ∃ s3, EnvFrame s s3 ∧ s3.initRow k init true = .ok s' := by
  obtain ⟨s1, s2, s3, h1, h2, h3, h4⟩ := recycleCore_ok h
  have L := fun t => rowMap_stableW t
  have h12 := (L s).lostProduct_preserves rfl n.creator s1 s2
    ((L s).setCreator_preserves rfl k creator _ (creatorW_const rfl rfl rfl _ _) s s1 (.refl s) h1) h2
  exact ⟨s3, (h12.blind envView_blind).trans <| (sameView_deleteDeps envView_blind s2 _).trans
    (((L _).detachProducts_preserves (by decide) k _ s3 (.refl _) h3).blind envView_blind), h4⟩

/-- `initStepRow` clears the `env_var` rows of the recycled step (`Step.initialize_row` deletes them). -/
theorem envFrame_recycleCore_step (s s' : KState) (k : Key) (n : Node) (creator : Option Key) (i : StepInit)
    (h : s.recycleCore k n creator (.step i) = .ok s') : ∃ s3, EnvFrame s s3 ∧ s' = s3.initStepRow k i := by
  obtain ⟨s3, hfr, h4⟩ := envFrame_recycleCore h
  exact ⟨s3, hfr, (pure_ok_iff.1 h4).symm⟩

def KState.envsOf (s : KState) (q : Key) : Option (List (String × Option String × Bool)) :=
  (s.find? q).map (·.envs)

theorem envsOf_of_frame (s s' : KState) (h : EnvFrame s s') (q : Key) : s'.envsOf q = s.envsOf q :=
  h.look (.of_factor (·.1) fun _ => rfl) (.of_factor (·.2) fun _ => rfl) q

theorem writeFile_envsOf {s s' : KState} {k : Key} {st : FileState} {nh : Option (Option Nat)}
    (h : s.writeFile k st nh = .ok s') (q : Key) : s'.envsOf q = s.envsOf q :=
  look_writeFile (·.envs) (fun _ _ _ _ => rfl) h q

theorem insertDep_envsOf (s s' : KState) (a b : Key) (h : s.insertDep a b = .ok s') (q : Key) :
    s'.envsOf q = s.envsOf q := by
  obtain ⟨_, _, rfl⟩ := insertDep_ok h
  exact envsOf_of_frame _ _ (sameView_flagDepEndpoints envView_blind _ a b) q

/-- The kinds of write that leave the `env_var` rows of an existing row alone: all but the rewrite of `env_var` / `nglob`
rows, `Step.initialize_row`, the scheduler's rewrites of cached columns (a function that keeps `Node.inert` may write `envs`) and
`DELETE FROM node`. -/
def envA : WClass → Bool
  | .payload | .stepInit | .cache | .removeNode => false
  | _ => true

abbrev EnvsAre (q : Key) (l : List (String × Option String × Bool)) (s : KState) : Prop := s.envsOf q = some l

section
variable {q : Key} {l : List (String × Option String × Bool)}

theorem envs_frame {s s' : KState} (h : EnvFrame s s') (hp : EnvsAre q l s) : EnvsAre q l s' :=
  (envsOf_of_frame s s' h q).trans hp

theorem envs_modify (s : KState) (k : Key) (f : Node → Node) (hf : Keeps Node.envView f) (hp : EnvsAre q l s) :
    EnvsAre q l (s.modify k f) :=
  envs_frame (sameView_modify s k f hf) hp

theorem ne_of_envsAre {s : KState} {k : Key} (hf : s.find? k = none) (hp : EnvsAre q l s) : q ≠ k := fun e => by
  rw [EnvsAre, KState.envsOf, e, hf] at hp; cases hp

theorem stable_envs (q : Key) (l : List (String × Option String × Bool)) :
    StableW envA (fun _ _ => True) (fun _ _ => True) (EnvsAre q l) where
  flags := fun _ s p f hf hp => envs_frame (sameView_modifyWhere s p f (hf.keeps fun _ _ _ => rfl)) hp
  payload := absent
  cache := absent
  writeFile := fun _ k st nh s s' hp h => (writeFile_envsOf h q).trans hp
  keepRole := fun _ k st nh s s' hp _ h => (writeFile_envsOf h q).trans hp
  outdate := fun _ s s' _ f _ _ _ _ hp h => (writeFile_envsOf h q).trans hp
  stepWrite := fun s k n n' st d _ _ hf hw hp =>
    (look_modify_const (·.envs) n' hf (by rw [stepRowWrite_eq hw]) (by rw [stepRowWrite_eq hw]) q).trans hp
  stepInit := absent
  setHash := fun _ s k h hp => envs_modify s k _ (fun _ => rfl) hp
  deleteHash := fun _ s k hp => envs_frame (sameView_deleteHash (fun _ => rfl) s k) hp
  bumpDefer := fun _ s k hp => envs_modify s k _ (fun _ => rfl) hp
  hold := fun _ s k _ hp => envs_modify s k _ (fun _ => rfl) hp
  release := fun _ s k _ _ _ hp => envs_modify s k _ (fun _ => rfl) hp
  recycled := fun _ s k _ _ hp => envs_modify s k _ (fun _ => rfl) hp
  insertDep := fun a b s s' _ _ hp h => (insertDep_envsOf s s' a b h q).trans hp
  deleteDeps := fun _ s p hp => envs_frame (sameView_deleteDeps envView_blind s p) hp
  delStepDeps := fun _ s p _ hp => envs_frame (sameView_deleteDeps envView_blind s p) hp
  setDynamic := fun _ s a b d hp =>
    envs_modify _ b _ (fun n => ite_both (fun m : Node => m.envView = n.envView) rfl rfl) hp
  queueDelete := fun _ _ _ _ hp => hp
  clearQueue := fun _ _ hp => hp
  updateMetaReady := fun _ s hp => envs_frame (sameView_modifyWhere s _ _ fun _ => rfl) hp
  setDetachedRow := fun _ s k d hp => envs_frame (sameView_setDetachedRow envView_blind s k d) hp
  creator := fun s k c _ _ _ hp => envs_modify s k _ (fun _ => rfl) hp
  handOverRow := fun _ s k tk hp => envs_modify s k _ (fun _ => rfl) hp
  freshFile := fun _ s k c st hf _ _ _ hp =>
    envs_frame (sameView_flagReadySinks envView_blind _ k)
      (envs_modify _ k _ (fun _ => rfl) ((look_appendNode s k q c (ne_of_envsAre hf hp).symm).trans hp))
  appendNode := fun _ s k c _ hf _ hp => (look_appendNode s k q c (ne_of_envsAre hf hp).symm).trans hp
  removeNode := absent

theorem supplyFiles_envs {s : KState} {cfg : KConfig} {step : Key} {paths : List String} {rn : Bool}
    {r : KState × List Supply} (h : s.supplyFiles cfg step paths rn = .ok r) (hp : EnvsAre q l s) : EnvsAre q l r.1 :=
  supplyFiles_of (fun p => (stable_envs q l).createFile_preserves (by decide) p none .undeclared (.inl rfl))
    (fun s s' p t _ hp h => (stable_envs q l).createFile_preserves (by decide) p (some t) .unconfirmed (.inr (.inl rfl)) s s' hp h)
    (fun a b _ s s' _ hp h => (insertDep_envsOf s s' a b h q).trans hp) hp h

theorem declareProducts_envs {cfg : KConfig} {step : Key} {st : FileState} {paths : List String} {s s' : KState}
    (h : s.declareProducts cfg step paths st = .ok s') (hp : EnvsAre q l s) : EnvsAre q l s' :=
  foldlM_keeps (EnvsAre q l) (fun (acc : KState) (p : String) => acc.declareProduct cfg step p st) paths
    (fun b p b' _ hb hr => (stable_envs q l).declareProduct_preserves (by decide) cfg step p st
      (ite_ind (fun w => envA w = true) (fun _ => rfl) fun _ => rfl) b b' hb hr) s s' hp h

theorem recycleStep_envs {s s' : KState} {sk creator : Key} {d : StepDecl} {n : Node}
    (h : s.recycleStep sk creator d n = .ok s') (hp : EnvsAre q l s) : EnvsAre q l s' :=
  (stable_envs q l).recycleStep_preserves (by decide) sk creator d n s s' (creatorW_const rfl rfl rfl _ _)
    (fun _ s3 _ _ h3 => envs_modify s3 sk _ (fun _ => rfl) h3) hp h

end

theorem addEnvDeps_key (cfg : KConfig) (names : List String) : ∀ n : Node, (addEnvDeps cfg n names).key = n.key := by
  unfold addEnvDeps
  induction names with
  | nil => intro n; rfl
  | cons a as ih => intro n; exact ih _

theorem addEnvDeps_cons (cfg : KConfig) (n : Node) (a : String) (as : List String) :
    addEnvDeps cfg n (a :: as) =
      addEnvDeps cfg { n with envs := n.envs.filter (·.1 ≠ a) ++ [(a, envValue cfg a, false)] } as := rfl

theorem addEnvDeps_rows (cfg : KConfig) (n : Node) (names : List String)
    (e : String × Option String × Bool) (he : e ∈ (addEnvDeps cfg n names).envs) :
    e ∈ n.envs ∨ (e.1 ∈ names ∧ e.2.2 = false) := by
  induction names generalizing n with
  | nil => exact Or.inl he
  | cons a as ih =>
    rw [addEnvDeps_cons] at he
    rcases ih _ he with h | h
    · rcases List.mem_append.mp h with h | h
      · exact .inl (List.mem_filter.mp h).1
      · cases List.mem_singleton.mp h
        exact .inr ⟨List.mem_cons_self, rfl⟩
    · exact .inr ⟨List.mem_cons_of_mem _ h.1, h.2⟩

theorem addEnvDeps_keeps (cfg : KConfig) (names : List String) (a : String) :
    ∀ n : Node, (∃ e ∈ n.envs, e.1 = a) → ∃ e ∈ (addEnvDeps cfg n names).envs, e.1 = a := by
  induction names with
  | nil => exact fun _ h => h
  | cons x xs ih =>
    intro n ⟨e, he, hea⟩
    rw [addEnvDeps_cons]
    apply ih
    by_cases hx : a = x
    · exact ⟨_, List.mem_append_right _ (List.mem_singleton_self _), hx.symm⟩
    · exact ⟨e, List.mem_append_left _ (List.mem_filter.mpr ⟨he, decide_eq_true (hea ▸ hx)⟩), hea⟩

theorem create_step_envsOf (s s' : KState) (k : Key) (c : Option Key) (i : StepInit)
    (h : s.create k c (.step i) = .ok s') : s'.envsOf k = some [] := by
  have hinit : ∀ {s3 : KState} {m : Node}, s3.find? k = some m → (s3.initStepRow k i).envsOf k = some [] := fun hm => by
    rw [KState.envsOf, KState.initStepRow, find?_modify_self _ _ _ (by exact fun _ hm => hm), hm]; rfl
  rcases create_ok h with ⟨n, hf, _, _, h⟩ | ⟨hf, _, h⟩
  · obtain ⟨s3, hfr, rfl⟩ := envFrame_recycleCore_step s s' k n c i h
    obtain ⟨m, hm, _⟩ := find?_some_of_view hfr.1 (.of_factor (·.1) fun _ => rfl) hf
    exact hinit hm
  · cases h
    refine hinit (m := newRow s k c) ?_
    rw [find?_appendNode, if_pos rfl, hf]; rfl

theorem createStep_env_rows (s : KState) (cfg : KConfig) (sk creator : Key) (d : StepDecl) (r : KState × List String)
    (h : s.createStep cfg sk creator d = .ok r) :
    ∃ n3 : Node, n3.envs = [] ∧ r.1.envsOf sk = some (addEnvDeps cfg n3 d.env).envs := by
  obtain ⟨s1, s3, infos, s5, h1, h3, h5, h6⟩ := createStep_ok h
  have e3 : EnvsAre sk [] s3 :=
    supplyFiles_envs h3 (envs_modify s1 sk _ (fun _ => rfl) (create_step_envsOf s s1 sk _ _ h1))
  obtain ⟨n3, hf3, hn3⟩ := Option.map_eq_some_iff.1 e3
  refine ⟨n3, hn3, declareProducts_envs h6 (declareProducts_envs h5 ?_)⟩
  rw [EnvsAre, KState.envsOf, find?_modify_self _ _ _ fun m hm => (addEnvDeps_key cfg d.env m).trans hm, hf3]
  rfl

end StepupModel.K
