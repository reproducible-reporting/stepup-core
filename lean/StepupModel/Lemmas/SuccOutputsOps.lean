import StepupModel.Lemmas.SuccOutputsBase
import StepupModel.Lemmas.StableInst
/-!
# I4: the operations that write file states, step states and creators in a context

`JK X W N` is the invariant `J` together with "one row per key", a client of the walk for the kinds `succA` (`jkW`).
Each write of another kind is justified by its context: the owner of the file is not SUCCEEDED at that moment, or the `(done)` clause of the edges concerned is
waived (`W`) until the request has repaired it.  What `mark_completed(new_hash)` needs from its caller
(`CompletedOK`): no output of the step is PLANNED any more (the executor runs the SUCCEEDED-cause hash update of
the outputs in the same transaction, before).  The raw `set_state(SUCCEEDED)` needs all outputs finished
(`SetSucceededOK`).
-/
namespace StepupModel.K.SuccOut
open StepupModel.K.MetaAfter StepupModel.K.Discipline StepupModel.K.Ever

section
variable {X : Key → Prop} {W : Key → Key → Prop} {N : Key → Prop}

def JK (X : Key → Prop) (W : Key → Key → Prop) (N : Key → Prop) (s : KState) : Prop := J X W N s ∧ KeysNodup s

theorem JK.keys {s : KState} (h : JK X W N s) : KeysUnique s :=
  (keysNodup_iff s).1 h.2

/-- I4 over histories: every edge into a file row counts, nothing is waived, nothing is kept in mind. -/
abbrev Inv4 (s : KState) : Prop := JK All NoW NoN s

theorem jkW (X : Key → Prop) (W : Key → Key → Prop) (N : Key → Prop) :
    StableW (succA true) (fun _ _ => True) (fun _ _ => True) (JK X W N) :=
  (midJ X W N).toW.andTop stable_keysNodup.toW

/-- `Step.set_resources` -/
theorem setStepExtras_JK {s : KState} (sk : Key) (d : StepDecl) (hp : JK X W N s) : JK X W N (s.setStepExtras sk d) :=
  ⟨hp.1.cacheAt sk _ fun _ => rfl, modify_of_where stable_keysNodup.cache s sk _ (fun _ => rfl) hp.2⟩

theorem JK.mk' {X : Key → Prop} {W : Key → Key → Prop} {N : Key → Prop} {s : KState} (h1 : J X W N s) (h2 : KeysNodup s) :
    JK X W N s := ⟨h1, h2⟩

theorem JK.weaken {X X' : Key → Prop} {W W' : Key → Key → Prop} {N N' : Key → Prop} {s : KState} (h : JK X W N s)
    (hX : ∀ k, X' k → X k) (hW : ∀ a b, W a b → W' a b) (hN : ∀ k, N' k → N k) : JK X' W' N' s :=
  ⟨h.1.weaken hX hW hN, h.2⟩

/-- `N` is a ghost: the steps `M` that are not SUCCEEDED now may be kept in mind through an operation and forgotten after it. -/
theorem JK.withN {X : Key → Prop} {W : Key → Key → Prop} {N : Key → Prop} {s s' : KState} (M : Key → Prop)
    (hM : ∀ k, M k → ¬ Succ s k) (hp : JK X W N s)
    (run : JK X W (fun k => N k ∨ M k) s → JK X W (fun k => N k ∨ M k) s') : JK X W N s' :=
  (run ⟨hp.1.addN M hM, hp.2⟩).weaken (fun _ h => h) (fun _ _ h => h) fun _ h => .inl h

theorem setFileState_JK {s s' : KState} {k : Key} {st : FileState}
    (hJ : JK X W N s) (hctx : WriteOK X W s k st) (h : s.setFileState k st = .ok s') : JK X W N s' :=
  ⟨writeFile_J hJ.1 hctx h, stable_keysNodup.toW.setFileState_preserves rfl k st s s' hJ.2 h⟩

theorem writeFile_JK {s s' : KState} {k : Key} {st : FileState}
    {nh : Option (Option Nat)} (hJ : JK X W N s) (hctx : WriteOK X W s k st) (h : s.writeFile k st nh = .ok s') :
    JK X W N s' :=
  ⟨writeFile_J hJ.1 hctx h, stable_keysNodup.toW.writeFile rfl k st nh s s' hJ.2 h⟩

theorem markFileOutdated_J {s s' : KState} {f : Key}
    (hJ : J X W N s) (hctx : WriteOK X W s f .outdated) (h : s.markFileOutdated f = .ok s') : J X W N s' := by
  rcases markFileOutdated_ok h with ⟨_, rfl⟩ | ⟨s1, _, hs, h⟩
  · exact hJ
  · exact (midJ X W N).toW.markConsumersPending_preserves (by decide) f s1 s' (writeFile_J hJ hctx hs) h

theorem markFileOutdated_JK {s s' : KState} {f : Key}
    (hJ : JK X W N s) (hctx : WriteOK X W s f .outdated) (h : s.markFileOutdated f = .ok s') : JK X W N s' :=
  ⟨markFileOutdated_J hJ.1 hctx h, stable_keysNodup.toW.markFileOutdated_preserves Sub.top f s s' hJ.2 h⟩

theorem writeOK_product {X : Key → Prop} {W : Key → Key → Prop} {s st : KState} (hk : KeysUnique s) (hsoft : SoftRel s st)
    {k : Key} {n : Node} (hn : n ∈ s.nodes) (hc : n.creator = some k) (h : ¬ Succ st k ∨ ∀ b, W k b) {x : FileState}
    (hx : IsProduct x) : WriteOK X W st n.key x := by
  intro m hm d hd hdk hkind hxk
  refine ⟨hx, fun hcm hw hs => ?_⟩
  have : m.creator = some k := (hsoft.creator_eq (find?_of_mem hk hn) hm).trans hc
  rw [this] at hcm
  have hsrc : k = d.src := Option.some.inj hcm
  rcases h with h | h
  · exact absurd (hsrc ▸ hs) h
  · exact absurd (hsrc ▸ h d.snk) hw

theorem outdateBuilt_JK (k : Key) (hN : N k) :
    Preserves (JK X W N) (fun s => s.outdateBuilt k) := by
  intro s s' hp h
  replace h : s.outdateBuilt k = .ok s' := h
  unfold KState.outdateBuilt at h
  have := foldlM_keeps (fun st => JK X W N st ∧ SP s st) (fun st (n : Node) => st.markFileOutdated n.key) _
    (fun st n st' hn hst hw => ?_) s s' ⟨hp, SP.refl hp.keys⟩ h
  · exact this.1
  · obtain ⟨hnp, _⟩ := List.mem_filter.1 hn
    obtain ⟨hmem, hcr, _⟩ := mem_products_iff.1 hnp
    refine ⟨markFileOutdated_JK hst.1 ?_ hw, markFileOutdated_soft n.key st st' hst.2 hw⟩
    exact writeOK_product hp.keys hst.2.2 hmem hcr (.inl (hst.1.1.2 k hN)) (by decide)

theorem not_succ_after_write {s s' : KState} {k : Key} {st : StepState} {d : Option Bool} (hst : st ≠ .succeeded)
    (h : s.writeStepState k st d = .ok s') : ¬ Succ s' k := by
  intro hs
  have := hs.2
  rw [(writeStepState_effect s s' k st d h).1 k] at this
  simp only [if_true] at this
  cases hf : s.sstateOf k with
  | none => rw [hf] at this; cases this
  | some x => rw [hf] at this; simp only [Option.map_some, Option.some.injEq] at this; exact hst this

theorem completeFailure_JK (cfg : KConfig) (k : Key) (wd : Bool) :
    Preserves (JK X W N) (fun s => s.completeFailure cfg k wd) := by
  intro s s' hp h
  obtain ⟨s1, s2, s3, st, d, h1, hst, h2, h3, rfl⟩ := completeFailure_ok h
  -- the edges out of `k` are waived until the state of `k` is written
  let W' : Key → Key → Prop := fun a b => W a b ∨ a = k
  have hp1 : JK X W' N s1 := by
    refine (foldlM_keeps (fun st => JK X W' N st ∧ SP s st) (fun st (f : Node) => st.setFileState f.key .outdated) _
      (fun st f st' hf hst hw => ?_) s s1 ⟨hp.weaken (fun _ h => h) (fun _ _ h => .inl h) (fun _ h => h), SP.refl hp.keys⟩ h1).1
    obtain ⟨hfp, hb⟩ := List.mem_filter.1 hf
    obtain ⟨hmem, hcr, _⟩ := mem_fileProducts_iff.1 hfp
    refine ⟨setFileState_JK hst.1 (writeOK_product hp.keys hst.2.2 hmem hcr (.inr fun b => .inr rfl) (by decide)) hw,
      (SP.leaves _).writeFile_preserves f.key .outdated none st st' hst.2 (fun m hm => ?_) hw⟩
    rw [hst.2.2.role_eq (find?_of_mem hp.keys hmem) hm, of_decide_eq_true hb]; rfl
  have hb : JK X W' N (s1.bumpDeferCount k wd) :=
    bumpDeferCount_ind s1 k wd hp1 ((jkW X W' N).bumpDefer rfl _ _ hp1)
  have hw2 : JK X W' N s2 ∧ ¬ Succ s2 k := by
    rcases hst with rfl | rfl <;>
      exact ⟨(jkW X W' N).setStepState_preserves k _ d rfl (by decide) _ s2 hb h2, not_succ_after_write (by decide) h2⟩
  have hp2 : JK X W N s2 := ⟨hw2.1.1.unwaiveSrc fun hs => absurd hs hw2.2, hw2.1.2⟩
  refine (jkW X W N).deleteHash rfl _ _ ?_
  rcases h3 with rfl | h3
  · exact hp2
  · exact (jkW X W N).detachCreatedSteps_preserves (by decide) k s2 s3 hp2 h3

theorem revertOutput_deps {s s' : KState} {f : Key} (h : s.revertOutput f = .ok s') : s'.deps = s.deps := by
  rcases revertOutput_ok h with rfl | ⟨_, _, _, _, ⟨_, rfl⟩ | ⟨_, h⟩⟩
  · rfl
  · exact markDir_deps _ _
  · exact ((writeFile_effect _ s' f _ _ h).2.2).trans (markDir_deps _ _)

theorem revertOutput_JK {s s' : KState} {k f : Key}
    (hp : JK X W N s) (hk : N k) (hf : f ∈ s.sinksOf k) (h : s.revertOutput f = .ok s') : JK X W N s' := by
  have L := jkW X W N
  have hq : ∀ q, JK X W N ((s.queueDelete f.label q).markDirToBeDeleted (parentDir f.label)) := fun _ =>
    L.markDir rfl _ _ (L.queueDelete rfl _ _ _ hp)
  rcases revertOutput_ok h with rfl | ⟨_, _, _, _, ⟨_, rfl⟩ | ⟨_, h⟩⟩
  · exact hp
  · exact hq _
  · refine writeFile_JK (hq _) (writeOK_sink (hq _).1 ?_ ((hq _).1.2 k hk) (by decide)) h
    rw [sinksOf_congr _ _ (markDir_deps _ _)]; exact hf

/-- The row `n` was read before the loop: if it says PENDING, the key is in `N`. -/
theorem revertStep_JK (n : Node) (hn : n.sstate = .pending → N n.key) :
    Preserves (JK X W N) (fun s => s.revertStep n) := by
  intro s s' hp h
  obtain ⟨a, ha, h⟩ := bind_ok_inv h
  have hpa : JK X W N a ∧ ¬ Succ a n.key := by
    rcases ite_ok ha with ⟨_, ha⟩ | ⟨hpend, ha⟩
    · exact ⟨(jkW X W N).writeStepState_preserves n.key .pending none rfl (by decide) s a hp ha,
        not_succ_after_write (by decide) ha⟩
    · cases ha
      exact ⟨hp, hp.1.2 _ (hn (Classical.not_not.1 hpend))⟩
  refine hpa.1.withN (· = n.key) (fun q hq => hq ▸ hpa.2) fun hpa1 => ?_
  refine (foldlM_keeps (fun st => JK X W _ st ∧ st.deps = a.deps) (fun st f => st.revertOutput f) _
    (fun st f st' hf hst hw => ⟨revertOutput_JK hst.1 (.inr rfl) ?_ hw, (revertOutput_deps hw).trans hst.2⟩)
    a s' ⟨hpa1, rfl⟩ h).1
  rw [sinksOf_congr a st hst.2]; exact hf

end

/-- The outputs of `k` (edge from `k`, owned by `k`) have been hashed: none is PLANNED. -/
def CompletedOK (s : KState) (k : Key) : Prop :=
  ∀ d ∈ s.deps, d.src = k → ∀ f, s.find? d.snk = some f → f.creator = some k → f.fstate ≠ .planned

def SetSucceededOK (s : KState) (k : Key) : Prop :=
  ∀ d ∈ s.deps, d.src = k → ∀ f, s.find? d.snk = some f → f.creator = some k → Done f.fstate

theorem setStepState_cols {s s' : KState} {k : Key} {st : StepState} {d : Bool} (h : s.setStepState k st d = .ok s') :
    s'.deps = s.deps ∧
    (∀ q, (s'.find? q).map (fun n => (n.key, n.creator, n.fstate)) =
      (s.find? q).map fun n => (n.key, n.creator, n.fstate)) ∧
    ∀ q, q ≠ k → s'.sstateOf q = s.sstateOf q := by
  rw [setStepState_eq] at h
  obtain ⟨hss, _, hd⟩ := writeStepState_effect s s' k st _ h
  exact ⟨hd, look_writeStepState (fun n => (n.key, n.creator, n.fstate)) (fun _ _ _ _ _ _ => rfl) h,
    fun q hq => by rw [hss q, if_neg hq]⟩

theorem setStepState_any_J {W : Key → Key → Prop} {s s' : KState} {k : Key} {st : StepState} {d : Bool}
    (hJ : J All W NoN s) (h : s.setStepState k st d = .ok s') : J All (fun a b => W a b ∨ a = k) NoN s' := by
  obtain ⟨hd, hcf, hss⟩ := setStepState_cols h
  refine hJ.stepStates hd hcf (fun a b hw hs => ⟨⟨hs.1, ?_⟩, fun hw' => hw (.inl hw')⟩) fun _ hn => hn.elim
  rw [← hss a fun he => hw (.inr he)]; exact hs.2

theorem setStepState_JK {s s' : KState} {k : Key} {st : StepState}
    (hp : Inv4 s) (hg : st = .succeeded → SetSucceededOK s k) (h : s.setStepState k st = .ok s') :
    Inv4 s' := by
  refine ⟨?_, stable_keysNodup.toW.writeStepState_run k st _ s s' rfl (fun _ => trivial) hp.2 h⟩
  by_cases hst : st = .succeeded
  · obtain ⟨hd, hcf, _⟩ := setStepState_cols h
    refine (setStepState_any_J hp.1 h).unwaiveSrc fun _ e he hsrc _ _ f hf hc => ?_
    obtain ⟨m, hfs, hcols⟩ := find_cols (hcf e.snk) hf
    exact (congrArg (·.2.2) hcols : m.fstate = f.fstate) ▸ hg hst e (hd ▸ he) hsrc m hfs ((congrArg (·.2.1) hcols).trans hc)
  · exact (leafJ All NoW NoN).toW.writeStepState_run k st _ s s' (succA_stepW hst) (fun _ => trivial) hp.1 h

/-- BUILT, OUTDATED or VOLATILE: a product state other than PLANNED (what `CompletedOK` leaves); the loop makes
OUTDATED into BUILT. -/
def Bov (o : Option FileState) : Prop := o = some .built ∨ o = some .outdated ∨ o = some .volatile

theorem propInv_bov (q : Key) : PropInv (fun s => Bov (s.fstateOf q)) where
  file := fun s s' f hs hb _ h => by
    rw [setFileState_eq] at h
    show Bov (s'.fstateOf q)
    rw [(writeFile_effect s s' f _ _ h).1 q]
    by_cases hq : q = f
    · subst hq; simp only [if_true, hb]; exact .inr (.inl rfl)
    · simp only [hq, if_false]; exact hs
  step := fun s s' t _ hs _ _ _ h => by
    rw [setStepState_eq] at h
    show Bov (s'.fstateOf q)
    rw [(writeStepState_effect s s' t _ _ h).2.1 q]; exact hs

/-- The waiver inside the loop: the edges from `k` into the products not visited yet. -/
def Wr (k : Key) (rest : List Node) (a b : Key) : Prop := a = k ∧ ∃ p ∈ rest, p.key = b

/-- What the loop keeps in mind of the products not visited yet: those with an edge from `k` are `Bov`. -/
def Tr (k : Key) (rest : List Node) (st : KState) : Prop :=
  ∀ p ∈ rest, (∃ d ∈ st.deps, d.src = k ∧ d.snk = p.key) → Bov (st.fstateOf p.key)

theorem rebuildOutdatedProducts_JK {s1 s2 : KState} {k : Key}
    (hp : JK All (Wr k (s1.fileProducts k)) NoN s1) (hT : Tr k (s1.fileProducts k) s1)
    (h : s1.rebuildOutdatedProducts k = .ok s2) : Inv4 s2 := by
  unfold KState.rebuildOutdatedProducts at h
  have := foldlM_suffix (fun rest st => JK All (Wr k rest) NoN st ∧ Tr k rest st) _ ?_ _ s1 s2 ⟨hp, hT⟩ h
  · exact this.1.weaken (fun _ h => h) (fun a b hw => by obtain ⟨_, p, hp, _⟩ := hw; cases hp) (fun _ h => h)
  · intro a rest st st' hst hh
    obtain ⟨hJ, hTr⟩ := hst
    -- dropping the waiver of `a`, given that its row is finished
    have hdrop : ∀ t : KState, JK All (Wr k (a :: rest)) NoN t →
        ((∃ d ∈ t.deps, d.src = k ∧ d.snk = a.key) → t.fstateOf a.key = some .built ∨ t.fstateOf a.key = some .volatile) →
        JK All (Wr k rest) NoN t := by
      intro t ht hfin
      refine ⟨ht.1.unwaive fun e he hkind hw hnw f hf hc hs => ?_, ht.2⟩
      obtain ⟨hsrc, p, hpm, hpk⟩ := hw
      rcases List.mem_cons.1 hpm with rfl | hpr
      · have := hfin ⟨e, he, hsrc, hpk.symm⟩
        rw [hpk, fstateOf_of_find hf] at this
        exact this.imp Option.some.inj Option.some.inj
      · exact absurd ⟨hsrc, p, hpr, hpk⟩ hnw
    rcases ite_ok hh with ⟨hout, hh⟩ | ⟨hout, hh⟩
    · obtain ⟨t, hw, hh⟩ := bind_ok_inv hh
      have ht : JK All (Wr k (a :: rest)) NoN t := setFileState_JK hJ (writeOK_built _ _ _ _) hw
      rw [setFileState_eq] at hw
      obtain ⟨hfs, _, hdeps⟩ := writeFile_effect st t a.key _ _ hw
      have hbuilt : t.fstateOf a.key = some .built := by
        rw [hfs a.key, if_pos rfl, show st.fstateOf a.key = some .outdated from hout]; rfl
      have hTt : Tr k rest t := by
        intro p hpm hex
        by_cases hpa : p.key = a.key
        · rw [hpa, hbuilt]; exact .inl rfl
        · rw [hfs p.key, if_neg hpa]
          exact hTr p (List.mem_cons_of_mem _ hpm) (by rw [← hdeps]; exact hex)
      refine ⟨(jkW All (Wr k rest) NoN).markConsumersPending_preserves (by decide) a.key t st'
        (hdrop t ht (fun _ => .inl hbuilt)) hh, fun p hpm hex => ?_⟩
      rw [markConsumersPending_deps t st' a.key hh] at hex
      exact markConsumersPending_inv (propInv_bov p.key) t st' a.key (hTt p hpm hex) hh
    · cases hh
      refine ⟨hdrop st hJ fun hex => ?_, fun p hpm hex => hTr p (List.mem_cons_of_mem _ hpm) hex⟩
      rcases hTr a List.mem_cons_self hex with hb | hb | hb
      · exact .inl hb
      · exact absurd hb hout
      · exact .inr hb

/-- `mark_completed(new_hash)` once the outputs have been hashed. -/
theorem completeSuccess_JK (cfg : KConfig) (k : Key) (hh : Nat) (s s' : KState) (hp : Inv4 s)
    (hg : CompletedOK s k) (h : s.completeSuccess cfg k hh = .ok s') : Inv4 s' := by
  obtain ⟨s1, s2, h1, h2, h⟩ := completeSuccess_ok h
  cases h
  have hk1 : KeysNodup s1 := stable_keysNodup.toW.setStepState_preserves k .succeeded false rfl (by decide) s s1 hp.2 h1
  have hku1 : KeysUnique s1 := (keysNodup_iff s1).1 hk1
  obtain ⟨hd, hcf, _⟩ := setStepState_cols h1
  -- only the edges into the file products of `k` need the waiver
  have hJ1' : J All (Wr k (s1.fileProducts k)) NoN s1 := by
    refine (setStepState_any_J (hp.1.weaken (fun _ h => h) (fun _ _ h => h.elim) fun _ h => h) h1).unwaiveSrc
      fun hs e he hsrc hkind hnw f hf hc => ?_
    have hfk := find_key hf
    refine absurd ⟨rfl, f, mem_fileProducts_iff.2 ⟨List.mem_of_find?_eq_some hf, hc, fun hfk' => ?_, hfk ▸ hkind⟩, hfk⟩ hnw
    have : k.kind = .file := by rw [← hfk', hfk]; exact hkind
    rw [hs.1] at this; cases this
  have hT : Tr k (s1.fileProducts k) s1 := by
    intro p hpm hex
    obtain ⟨e, he, hsrc, hsnk⟩ := hex
    obtain ⟨hpn, hpc, hpk, hpf⟩ := mem_fileProducts_iff.1 hpm
    have hfp : s1.find? p.key = some p := find?_of_mem hku1 hpn
    obtain ⟨m, hfs, hcols⟩ := find_cols (hcf p.key) hfp
    have hmc : m.creator = some k := (congrArg (·.2.1) hcols).trans hpc
    have hes : e ∈ s.deps := hd ▸ he
    have hnp : m.fstate ≠ .planned := hg e hes hsrc m (hsnk ▸ hfs) hmc
    obtain ⟨f, hf, _, hprod, _⟩ := hp.1.1 e hes (by rw [hsnk]; exact hpf) trivial
    rw [hsnk, hfs] at hf; cases hf
    have : s1.fstateOf p.key = some m.fstate :=
      (fstateOf_of_find hfp).trans (congrArg some (congrArg (·.2.2) hcols).symm)
    rw [this]
    rcases (isProduct_iff m.fstate).1 hprod with hx | hx | hx | hx
    · exact absurd hx hnp
    · exact .inl (by rw [hx])
    · exact .inr (.inl (by rw [hx]))
    · exact .inr (.inr (by rw [hx]))
  have hp2 := rebuildOutdatedProducts_JK ⟨hJ1', hk1⟩ hT h2
  have L := jkW All NoW NoN
  exact L.payloadAt rfl _ _ _ (fun _ => rfl) (L.setHash rfl s2 k hh hp2)

section
variable {X : Key → Prop} {W : Key → Key → Prop} {N : Key → Prop}

theorem modifyExempt_J {s : KState} (hJ : J X W N s) (k : Key)
    (g : Node → Node) (hX : ¬ X k) (hkey : ∀ n, n.key = k → (g n).key = k)
    (hs : ∀ n, (g n).sstate = .succeeded → n.sstate = .succeeded) : J X W N (s.modify k g) := by
  refine hJ.mono (fun d' h _ _ => ⟨d', h, rfl, rfl⟩) ?_ fun q h => h.of_modify hkey fun n _ => hs n
  intro q f _ hx hf _
  have hq : q ≠ k := fun he => hX (he ▸ hx)
  exact ⟨f, by rw [find?_modify_ne s k q g hkey hq]; exact hf, .inl rfl, .inl rfl⟩

theorem initFileRow_J {t t' : KState} {k : Key} {st : FileState}
    {e : Bool} (hJ : J X W N t) (hX : ¬ X k) (h : t.initFileRow k st e = .ok t') : J X W N t' := by
  obtain ⟨t1, h1, h⟩ := initFileRow_ok h
  have hJ1 : J X W N t1 := by
    rcases writeInitialFile_ok h1 with ⟨_, h1⟩ | ⟨_, _, rfl⟩
    · exact writeFile_J hJ (writeOK_exempt W t hX _) h1
    · exact (leafJ X W N).flagReadySinks _ _ (modifyExempt_J hJ k _ hX (fun _ hn => hn) (fun _ hs => hs))
  rcases h with ⟨_, h⟩ | ⟨_, rfl⟩
  · exact markFileOutdated_J hJ1 (writeOK_exempt W t1 hX _) h
  · exact hJ1

/-- `Trellis.create` rewrites the row of the key before it deletes the edges into it, so the invariant is carried
with the key exempt and claimed again at the end, when no edge ends in the key (`create_post`). -/
theorem createFile_JK (k : Key) (creator : Option Key)
    (st : FileState) (hst : NoHashState st) : Preserves (JK All W N) (fun s => s.create k creator (.file st)) := by
  intro s s' hp h
  replace h : s.create k creator (.file st) = .ok s' := h
  have hkeys := stable_keysNodup.toW.create_preserves Sub.top k creator (.file st) rfl rfl Sub.top hst trivial s s' hp.2 h
  obtain ⟨_, hdeps, _⟩ := create_post hp.keys h
  let X : Key → Prop := fun x => x ≠ k
  have hX : ¬ X k := fun h => h rfl
  have hp0 : J X W N s := hp.1.weaken (fun _ _ => trivial) (fun _ _ h => h) (fun _ h => h)
  have L := leafJ X W N
  suffices J X W N s' by
    refine ⟨⟨fun d hd hkind _ => this.1 d hd hkind fun he => ?_, this.2⟩, hkeys⟩
    obtain ⟨f, hf, _⟩ := hp.1.1 d (hdeps d hd).1 hkind trivial
    rw [he, (hdeps d hd).2 he] at hf; cases hf
  rcases create_ok h with ⟨n, _, _, _, h⟩ | ⟨hf, hins, h⟩
  · obtain ⟨s1, s2, s3, h1, h2, h3, h4⟩ := recycleCore_ok h
    obtain ⟨_, rfl⟩ := setCreator_ok h1
    have hp1 := L.toW.setDetachedRow rfl _ k (s.creatorDetached creator)
      (modifyExempt_J hp0 k (fun n => { n with creator := creator }) hX (fun _ hn => hn) (fun _ hs => hs))
    exact initFileRow_J (L.toW.detachProducts_preserves (by decide) k _ s3
      (L.toW.deleteDeps rfl s2 _ (L.toW.lostProduct_preserves rfl n.creator _ s2 hp1 h2)) h3) hX h4
  · exact initFileRow_J (L.appendNode s k creator hf hins hp0) hX h

theorem created_product {s s' : KState} {k : Key} {creator : Option Key} {st : FileState} (hku : KeysUnique s)
    (h : s.create k creator (.file st) = .ok s') (hst : st = .planned ∨ st = .volatile) {nk : Node}
    (hnk : s'.find? k = some nk) : IsProduct nk.fstate ∧ (st = .volatile → Done nk.fstate) := by
  rcases create_file_role hku h nk hnk with hr | ⟨hst2, hr, _⟩
  · refine ⟨(isProduct_of_role hr).2 (by rcases hst with rfl | rfl <;> decide), fun hv => .inr ?_⟩
    rw [hv] at hr; exact (volatile_iff_role _).2 hr
  · exact ⟨.inl hr, fun hv => by rw [hv] at hst2; rcases hst2 with e | e <;> cases e⟩

/-- `_declare_file` + `file.add_source(step)` for an output (PLANNED) or a volatile output: the step is not
SUCCEEDED (`N`), or the product is VOLATILE. -/
theorem declareProduct_JK (cfg : KConfig) (step : Key) (p : String) (st : FileState)
    (hst : st = .planned ∨ st = .volatile) (hD : N step ∨ st = .volatile) :
    Preserves (JK All W N) (fun s => s.declareProduct cfg step p st) := by
  intro s s' hp h
  replace h : s.declareProduct cfg step p st = .ok s' := h
  refine ⟨?_, stable_keysNodup.toW.declareProduct_preserves Sub.top cfg step p st rfl s s' hp.2 h⟩
  obtain ⟨s1, h1, h⟩ := bind_ok_inv h
  have hcreate := declareFile_create h1
  have hp1 : JK All W N s1 := createFile_JK (fileKey p) (some step) st
    (by rcases hst with rfl | rfl <;> simp [NoHashState]) s s1 hp hcreate
  obtain ⟨nk, hfk⟩ := Option.isSome_iff_exists.1 (create_post hp.keys hcreate).1.has
  obtain ⟨hprod, hvol⟩ := created_product hp.keys hcreate hst hfk
  have hedge : EdgeOK s1 W { src := step, snk := fileKey p } nk :=
    ⟨((create_post hp.keys hcreate).1.cr nk hfk).symm, hprod,
      fun _ _ hs => hD.elim (fun hn => absurd hs (hp1.1.2 step hn)) hvol⟩
  obtain ⟨_, _, rfl⟩ := insertDep_ok (addSourceChecked_ok h).2
  exact (leafJ All W N).flagDepEndpoints _ step (fileKey p) (hp1.1.addDep step (fileKey p) fun _ _ => ⟨nk, hfk, hedge⟩)

theorem not_succ_modify_pending (t : KState) (k : Key) (g : Node → Node) (hkey : ∀ n, n.key = k → (g n).key = k)
    (hp : ∀ n, (g n).sstate = .pending) : ¬ Succ (t.modify k g) k := by
  intro hs
  obtain ⟨m', hm', hst⟩ := sstateOf_eq_some.1 hs.2
  rw [find?_modify_self t k g hkey] at hm'
  obtain ⟨m, -, rfl⟩ := Option.map_eq_some_iff.1 hm'
  rw [hp m] at hst; cases hst

theorem create_step_not_succ {s s' : KState} {k : Key} {creator : Option Key} {i : StepInit} (hku : KeysUnique s)
    (h : s.create k creator (.step i) = .ok s') : ¬ Succ s' k := by
  obtain ⟨_, _, t, e, _, _, ht⟩ := create_post hku h
  unfold KState.initRow at ht
  simp only [pure, Except.pure, Except.ok.injEq] at ht
  subst ht
  unfold KState.initStepRow
  exact not_succ_modify_pending t k _ (fun _ hn => hn) (fun _ => rfl)

/-! The hand-over of `register_static_tree`: the files handed over to the new tree are static (`treeGuard`), so no
edge ends in them (an edge into a file finds a product state), and rewriting their creator is harmless. -/

theorem handOverRow_J {s : KState} (hJ : J X W N s) (k tk : Key)
    (hk : ∀ m, s.find? k = some m → ¬ IsProduct m.fstate) :
    J X W N (s.modify k fun n => { n with creator := some tk }) := by
  refine hJ.mono (fun d' h _ _ => ⟨d', h, rfl, rfl⟩) ?_ fun q h =>
    h.of_modify (g := fun n => { n with creator := some tk }) (fun _ hn => hn) fun _ _ hs => hs
  intro q f hkind hx hf ⟨d', hd', hdq⟩
  by_cases hq : q = k
  · obtain ⟨f', hf', _, hprod, _⟩ := hJ.1 d' hd' (hdq ▸ hkind) (hdq ▸ hx)
    rw [hdq, hq] at hf'
    exact absurd hprod (hk f' hf')
  · refine ⟨f, ?_, .inl rfl, .inl rfl⟩
    rw [find?_modify_ne s k q (fun n => { n with creator := some tk }) (fun _ hn => hn) hq]; exact hf

theorem handOver_J (tk : Key) (hs : List Key) :
    ∀ s : KState, J X W N s → (∀ k ∈ hs, ∀ m, s.find? k = some m → ¬ IsProduct m.fstate) → J X W N (s.handOver tk hs) := by
  unfold KState.handOver
  induction hs with
  | nil => intro s hJ _; exact hJ
  | cons k ks ih =>
    intro s hJ hst
    simp only [List.foldl_cons]
    refine ih _ (handOverRow_J hJ k tk (hst k List.mem_cons_self)) ?_
    intro q hq m hm
    rw [find?_modify s k q (fun n => { n with creator := some tk }) (fun _ hn => hn)] at hm
    cases hfq : s.find? q with
    | none => rw [hfq] at hm; cases hm
    | some m0 =>
      rw [hfq] at hm
      simp only [Option.map_some, Option.some.injEq] at hm
      have := hst q (List.mem_cons_of_mem _ hq) m0 hfq
      rw [← hm]
      split <;> exact this

end

section
open StepupModel.Generated

theorem hashTransitions_built : ∀ e ∈ hashTransitions, e.1.2.1 = .built →
    (e.2.1 = .planned ∨ e.2.1 = .outdated) ∧ (e.2.2 = some .updated ∨ e.2.2 = some .deleted) ∧
      (e.2.2 = some .deleted → e.2.1 = .planned) := by decide

/-- No transition starts in VOLATILE, so the record is that of a BUILT file. -/
theorem rec_of_done {s : KState} {cause : Cause} {u : String × Option Nat} {r : HashRec} {n : Node}
    (h : s.hashRec cause u = .ok r) (hn : s.find? r.key = some n) (hd : Done n.fstate) :
    (r.newState = .planned ∨ r.newState = .outdated) ∧ (r.action = some .updated ∨ r.action = some .deleted) ∧
      (r.action = some .deleted → r.newState = .planned) := by
  obtain ⟨n', hn', hl, hk, _⟩ := hashRec_ok h
  rw [← hk, hn] at hn'; cases hn'
  rcases hd with hb | hv
  · exact lookupTransition_of_table hashTransitions_built hl hb
  · exact absurd hv (lookupTransition_of_table hashTransitions_domain hl).2.1

theorem not_succ_of_notDone {s : KState} {c : Key} (h : NotDone s c) : ¬ Succ s c := by
  intro hs
  rcases h _ hs.2 with h | h | h <;> cases h

theorem pendCreator_notDone {s0 t t' : KState} {B c : Key} (hsoft : SoftRel s0 t) {n : Node} (hn : s0.find? B = some n)
    (hc : n.creator = some c) (hsucc : Succ s0 c) (h : t.pendCreator B = .ok t') : NotDone t' c := by
  have hrel := hsoft.find? B
  rw [hn] at hrel
  cases hfb : t.find? B with
  | none => rw [hfb] at hrel; exact hrel.elim
  | some m =>
    have hmc : m.creator = some c := (hsoft.creator_eq hn hfb).trans hc
    have hhas : t.has c = true := by
      obtain ⟨x, hx, -⟩ := sstateOf_eq_some.1 hsucc.2
      exact (optRel_isSome (hsoft.find? c)).trans (congrArg Option.isSome hx)
    have hcs := creatorStep_of_creator hfb hmc hsucc.1 hhas
    obtain ⟨hnone, _⟩ | ⟨c', hc', h⟩ := pendCreator_ok h
    · rw [hcs] at hnone; cases hnone
    · cases hcs.symm.trans hc'
      exact markStepPending_notDone t.fuel t t' c h

theorem writes_last (B : Key) : ∀ (recs : List HashRec) (s s1 : KState) (x0 : FileState), s.fstateOf B = some x0 →
    recs.foldlM (fun st r => st.writeFile r.key r.newState (some r.newHash)) s = .ok s1 →
    (∃ r ∈ recs, r.key = B ∧ s1.fstateOf B = some r.newState) ∨ ((∀ r ∈ recs, r.key ≠ B) ∧ s1.fstateOf B = some x0) := by
  intro recs
  induction recs with
  | nil => intro s s1 x0 h0 h; cases h; exact .inr ⟨fun _ hr => (nomatch hr), h0⟩
  | cons a as ih =>
    intro s s1 x0 h0 h
    rw [List.foldlM_cons] at h
    obtain ⟨b1, hw, h⟩ := bind_ok_inv h
    have heff := (writeFile_effect s b1 a.key _ _ hw).1 B
    by_cases hak : a.key = B
    · rw [if_pos hak.symm, hak, h0] at heff
      rcases ih b1 s1 a.newState heff h with ⟨r, hr, h1⟩ | ⟨_, h1⟩
      · exact .inl ⟨r, List.mem_cons_of_mem _ hr, h1⟩
      · exact .inl ⟨a, List.mem_cons_self, hak, h1⟩
    · rw [if_neg fun e => hak e.symm, h0] at heff
      rcases ih b1 s1 x0 heff h with ⟨r, hr, h1⟩ | ⟨hne, h1⟩
      · exact .inl ⟨r, List.mem_cons_of_mem _ hr, h1⟩
      · exact .inr ⟨fun r hr => (List.mem_cons.1 hr).elim (fun e => e ▸ hak) (hne r), h1⟩

/-- A written output `B` of a SUCCEEDED step `c` gets its owner marked.  Follow the last record `r` of `B`: it leads to PLANNED or OUTDATED, which is
the state of `B` from the end of the writes on, with the action `updated`, or `deleted` and then PLANNED; in both
cases the action of `r`, when it runs, marks `c` pending (`pendCreator`), which all later actions keep. -/
theorem owner_marked {s s1 s2 s3 s' : KState} {cause : Cause} {recs : List HashRec} (hku : KeysUnique s)
    (hspec : ∀ r ∈ recs, ∃ u, s.hashRec cause u = .ok r)
    (h1 : recs.foldlM (fun st r => st.writeFile r.key r.newState (some r.newHash)) s = .ok s1)
    (h2 : (recs.filter fun r => r.action = some .updated).foldlM (fun st r => st.handleUpdated r.key) s1 = .ok s2)
    (h3 : (recs.filter fun r => r.action = some .deleted).foldlM (fun st r => st.handleDeleted r.key) s2 = .ok s3)
    (h : (recs.filter fun r => r.action = some .completed).foldlM (fun st r => st.markConsumersPending r.key) s3 = .ok s')
    {B c : Key} {n : Node} (hfn : s.find? B = some n) (hnc : n.creator = some c) (hsucc : Succ s c)
    (hdone : Done n.fstate) {r0 : HashRec} (hr0 : r0 ∈ recs) (hr0k : r0.key = B) : NotDone s' c := by
  have hS1 : SP s s1 := (SP.leaves s).toW.writeFiles_keep rfl (fun r : HashRec => r.key) (·.newState)
    (fun r => some r.newHash) recs s s1 (SP.refl hku) (fun r hr n hn => by
      obtain ⟨u, hu⟩ := hspec r hr
      obtain ⟨m, hm, hrole⟩ := hashRec_role hu
      rw [hm] at hn
      exact Option.some.inj hn ▸ hrole) h1
  obtain ⟨r, hr, hrk, hx1⟩ : ∃ r ∈ recs, r.key = B ∧ s1.fstateOf B = some r.newState :=
    (writes_last B recs s s1 n.fstate (fstateOf_of_find hfn) h1).resolve_right
      fun hne => hne.1 r0 hr0 hr0k
  obtain ⟨u, hu⟩ := hspec r hr
  obtain ⟨hpo, hact, hdel⟩ := rec_of_done hu (hrk ▸ hfn) hdone
  have hQ := propInv_otherFile B (some r.newState) (by rcases hpo with e | e <;> rw [e] <;> nofun)
  have hN := propInv_notDone c
  let Pre : KState → Prop := fun st => SP s st ∧ st.fstateOf B = some r.newState
  have mark : ∀ b b', Pre b → b.pendCreator B = .ok b' → NotDone b' c := fun b b' hb hab =>
    pendCreator_notDone hb.1.2 hfn hnc hsucc hab
  have keepC : NotDone s3 c → NotDone s' c := fun h3' =>
    foldlM_keeps _ _ _ (fun b a b' _ hb hab => markConsumersPending_inv hN b b' a.key hb hab) s3 s' h3' h
  have preU : ∀ (b : KState) (a : HashRec) (b' : KState), Pre b → b.handleUpdated a.key = .ok b' → Pre b' :=
    fun b a b' hb hab => ⟨(SP.leaves _).toW.handleUpdated_preserves (by decide) a.key b b' hb.1 hab,
      handleUpdated_of hQ.pend a.key b b' hb.2 hab⟩
  rcases hact with ha | ha
  · -- `r` runs in the loop of the `updated` actions
    refine keepC (foldlM_keeps _ _ _ (fun b a b' _ hb hab => handleDeleted_of hN.pend a.key b b' hb hab) s2 s3 ?_ h3)
    refine foldlM_reach Pre (fun st => NotDone st c) (fun st (a : HashRec) => st.handleUpdated a.key) r preU ?_
      (fun b a b' hb hab => handleUpdated_of hN.pend a.key b b' hb hab) _
      (List.mem_filter.2 ⟨hr, by simpa using ha⟩) s1 s2 ⟨hS1, hx1⟩ h2
    intro b b' hb hab
    rw [hrk] at hab
    have hfs : b.fileState? B = some r.newState := hb.2
    obtain ⟨hc, _⟩ | ⟨_, hab⟩ | ⟨_, hc, _⟩ := handleUpdated_ok hab
    · rw [hfs] at hc; rcases hpo with e | e <;> rw [e] at hc <;> cases hc
    · exact mark b b' hb hab
    · exact absurd (hpo.imp (fun e => by rw [hfs, e]) fun e => by rw [hfs, e]) hc
  · -- `r` runs in the loop of the `deleted` actions, and `B` is PLANNED
    refine keepC ?_
    refine foldlM_reach Pre (fun st => NotDone st c) (fun st (a : HashRec) => st.handleDeleted a.key) r
      (fun b a b' hb hab => ⟨(SP.leaves _).toW.handleDeleted_preserves (by decide) a.key b b' hb.1 hab,
        handleDeleted_of hQ.pend a.key b b' hb.2 hab⟩) ?_
      (fun b a b' hb hab => handleDeleted_of hN.pend a.key b b' hb hab) _
      (List.mem_filter.2 ⟨hr, by simpa using ha⟩) s2 s3
      (foldlM_keeps Pre _ _ (fun b a b' _ => preU b a b') s1 s2 ⟨hS1, hx1⟩ h2) h3
    intro b b' hb hab
    rw [hrk] at hab
    obtain ⟨b1, ⟨hc, _⟩ | ⟨_, hc⟩, hab⟩ := handleDeleted_ok hab
    · exact absurd (show b.fileState? B = some .planned from hb.2.trans (congrArg some (hdel ha))) hc
    · exact markConsumersPending_inv hN b1 b' B (mark b b1 hb hc) hab

/-- `update_file_hashes`.  The `(done)` clause is waived for the edges into the written
files during the request and for the steps that are not SUCCEEDED at the start; at the end, a SUCCEEDED owner of
a written file would have been SUCCEEDED all along, contradicting `owner_marked`. -/
theorem updateFileHashes_JK (updates : List (String × Option Nat)) (cause : Cause) (s s' : KState)
    (hp : Inv4 s) (h : s.updateFileHashes updates cause = .ok s') : Inv4 s' := by
  -- the steps that are not SUCCEEDED at the start stay so
  refine hp.withN (¬ Succ s ·) (fun _ hq => hq) fun hp0 => ?_
  refine ⟨?_, stable_keysNodup.toW.updateFileHashes_preserves Sub.top updates cause s s' hp.2 h⟩
  have hsoft : SoftRel s s' :=
    ((SP.leaves s).toW.updateFileHashes_preserves (by decide) updates cause s s' (SP.refl hp.keys) h).2
  rcases updateFileHashes_ok h with rfl | ⟨recs, s1, s2, s3, hspec, h1, h2, h3, h⟩
  · exact hp0.1
  let Wk : Key → Key → Prop := fun _ b => ∃ r ∈ recs, r.key = b
  let N0 : Key → Prop := fun q => NoN q ∨ ¬ Succ s q
  have hrec : ∀ r ∈ recs, ∃ n, s.find? r.key = some n ∧ r.newState.role? = n.fstate.role? := fun r hr => by
    obtain ⟨u, hu⟩ := hspec r hr
    exact hashRec_role hu
  have hw : JK All Wk N0 s1 ∧ SP s s1 := by
    refine foldlM_keeps (fun st => JK All Wk N0 st ∧ SP s st)
      (fun st (r : HashRec) => st.writeFile r.key r.newState (some r.newHash)) recs
      (fun st r st' hr hst hwr => ?_) s s1
      ⟨hp0.weaken (fun _ h => h) (fun _ _ h => h.elim) fun _ h => h, SP.refl hp.keys⟩ h1
    obtain ⟨n, hn, hrole⟩ := hrec r hr
    have hrm : ∀ m, st.find? r.key = some m → r.newState.role? = m.fstate.role? := by
      intro m hm
      rw [hrole, hst.2.2.role_eq hn hm]
    refine ⟨writeFile_JK hst.1 ?_ hwr, (SP.leaves _).writeFile_preserves r.key r.newState _ st st' hst.2 hrm hwr⟩
    intro m hm d hd hdk hkind _
    refine ⟨?_, fun _ hnw _ => absurd ⟨r, hr, hdk.symm⟩ hnw⟩
    obtain ⟨f, hf, _, hprod, _⟩ := hst.1.1.1 d hd (hdk ▸ hkind) trivial
    rw [hdk, hm] at hf; cases hf
    exact (isProduct_of_role (hrm m hm)).2 hprod
  have M := jkW All Wk N0
  have hJ' : JK All Wk N0 s' :=
    foldlM_preserves _ _ _ (fun (r : HashRec) => M.markConsumersPending_preserves (by decide) r.key) s3 s'
      (foldlM_preserves _ _ _ (fun (r : HashRec) => M.handleDeleted_preserves (by decide) r.key) s2 s3
        (foldlM_preserves _ _ _ (fun (r : HashRec) => M.handleUpdated_preserves (by decide) r.key) s1 s2 hw.1 h2) h3) h
  -- dropping the waiver
  refine hJ'.1.unwaive fun d hd hkind hwv _ f hf hcr hsucc' => ?_
  exfalso
  obtain ⟨r0, hr0, hr0k⟩ := hwv
  -- the owner was SUCCEEDED all along
  have hsucc : Succ s d.src := Classical.byContradiction fun hns => hJ'.1.2 d.src (.inr hns) hsucc'
  have hrel := hsoft.find? d.snk
  rw [hf] at hrel
  cases hfn : s.find? d.snk with
  | none => rw [hfn] at hrel; exact hrel.elim
  | some n =>
    have hnc : n.creator = some d.src := (hsoft.creator_eq hfn hf).symm.trans hcr
    obtain ⟨n', hn', _, _, hdone⟩ := hp.1.1 d (hsoft.deps ▸ hd) hkind trivial
    rw [hfn] at hn'; cases hn'
    exact not_succ_of_notDone (owner_marked hp.keys hspec h1 h2 h3 h hfn hnc hsucc (hdone hnc (fun h => h) hsucc) hr0 hr0k)
      hsucc'

end

end StepupModel.K.SuccOut
