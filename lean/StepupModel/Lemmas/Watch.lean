import StepupModel.P.Watch
import StepupModel.Lemmas.Cond
/-!
# The two sets of `Watcher.record_change` as a function on paths (C14)

What one arm of `record_change` does to membership is said for any pair of sets.  `Inv s a`: the sets
`s` hold what `a` says path by path; then every arm overrides `a` at the paths it touches, so after any
events `a p` is the last relevant event of `p` (`inv_recordAll`).  Separately: no path is recorded twice.

After the fold: membership in the lists that `run_once` and a restart compute from the sets, without unfolding them.
-/
namespace StepupModel.P.Watch

section
variable {α : Type}

/-- The two sets say, path by path, what `a` says: `some true` = in `updated`, `some false` = in
`deleted`, `none` = in neither. -/
def Inv (s : Sets α) (a : α → Option Bool) : Prop :=
  ∀ p, (p ∈ s.updated ↔ a p = some true) ∧ (p ∈ s.deleted ↔ a p = some false)

theorem inv_congr {s : Sets α} {a a' : α → Option Bool} (h : Inv s a) (he : ∀ p, a p = a' p) : Inv s a' :=
  fun p => he p ▸ h p

variable [DecidableEq α] {s : Sets α} {a : α → Option Bool}

theorem mem_add (x y : α) (l : List α) : y ∈ add x l ↔ y = x ∨ y ∈ l := by
  unfold add
  by_cases h : x ∈ l
  · rw [if_pos h]; exact ⟨Or.inr, fun h' => h'.elim (fun e => e ▸ h) id⟩
  · rw [if_neg h, List.mem_append, List.mem_singleton, or_comm]

theorem mem_discard (x y : α) (l : List α) : y ∈ discard x l ↔ y ∈ l ∧ y ≠ x := by
  simp [discard, List.mem_filter]

theorem nodup_add (x : α) (l : List α) (h : l.Nodup) : (add x l).Nodup := by
  unfold add
  by_cases hx : x ∈ l
  · rw [if_pos hx]; exact h
  · rw [if_neg hx]
    exact List.nodup_append.2 ⟨h, List.pairwise_singleton _ x, fun a ha b hb e => hx (List.mem_singleton.1 hb ▸ e ▸ ha)⟩

theorem nodup_discard (x : α) (l : List α) (h : l.Nodup) : (discard x l).Nodup := h.filter _

theorem mem_delStep (s : Sets α) (x p : α) :
    (p ∈ (if x ∉ s.deleted then markDeleted s x else s).deleted ↔ p ∈ s.deleted ∨ p = x) ∧
    (p ∈ (if x ∉ s.deleted then markDeleted s x else s).updated ↔ p ∈ s.updated ∧ (p = x → p ∈ s.deleted)) := by
  by_cases hx : x ∈ s.deleted
  · rw [if_neg fun h => h hx]
    exact ⟨⟨Or.inl, fun h => h.elim id fun e => e ▸ hx⟩, fun h => ⟨h, fun e => e ▸ hx⟩, fun h => h.1⟩
  · rw [if_pos hx, markDeleted, mem_add, mem_discard, or_comm]
    exact ⟨Iff.rfl, and_congr_right fun _ => ⟨fun hne e => absurd e hne, fun h e => hx (e ▸ h e)⟩⟩

theorem mem_updStep (s : Sets α) (x p : α) :
    (p ∈ (if x ∉ s.updated then markUpdated s x else s).updated ↔ p ∈ s.updated ∨ p = x) ∧
    (p ∈ (if x ∉ s.updated then markUpdated s x else s).deleted ↔ p ∈ s.deleted ∧ (p = x → p ∈ s.updated)) := by
  by_cases hx : x ∈ s.updated
  · rw [if_neg fun h => h hx]
    exact ⟨⟨Or.inl, fun h => h.elim id fun e => e ▸ hx⟩, fun h => ⟨h, fun e => e ▸ hx⟩, fun h => h.1⟩
  · rw [if_pos hx, markUpdated, mem_add, mem_discard, or_comm]
    exact ⟨Iff.rfl, and_congr_right fun _ => ⟨fun hne e => absurd e hne, fun h e => hx (e ▸ h e)⟩⟩

theorem mem_delLoop (L : List α) : ∀ (s : Sets α) (p : α),
    (p ∈ (delLoop L s).deleted ↔ p ∈ s.deleted ∨ p ∈ L) ∧
    (p ∈ (delLoop L s).updated ↔ p ∈ s.updated ∧ (p ∈ L → p ∈ s.deleted)) := by
  unfold delLoop
  induction L with
  | nil =>
    exact fun s p => ⟨⟨Or.inl, fun h => h.elim id fun h => nomatch h⟩, fun h => ⟨h, fun h => nomatch h⟩, fun h => h.1⟩
  | cons x xs ih =>
    intro s p
    obtain ⟨d, u⟩ := mem_delStep s x p
    rw [List.foldl_cons, (ih _ p).1, (ih _ p).2, d, u, or_assoc, List.mem_cons]
    refine ⟨Iff.rfl, fun ⟨⟨hu, he⟩, hm⟩ => ⟨hu, fun h => h.elim he fun h => (hm h).elim id he⟩,
      fun ⟨hu, h⟩ => ⟨⟨hu, fun e => h (.inl e)⟩, fun hm => .inl (h (.inr hm))⟩⟩

theorem inv_delLoop (L : List α) (h : Inv s a) :
    Inv (delLoop L s) (fun p => if p ∈ L then some false else a p) := fun p => by
  obtain ⟨d, u⟩ := mem_delLoop L s p
  rw [d, u, (h p).1, (h p).2]
  by_cases hp : p ∈ L <;> simp +contextual [hp]

/-- The DELETED arm: `rel` is the workflow's answer for `x`. -/
theorem inv_deletedArm (h : Inv s a) (x : α) (rel : Bool) :
    Inv (if x ∉ s.deleted then (if rel then markDeleted s x else s) else s)
      (fun p => if x = p ∧ rel = true then some false else a p) := by
  cases rel with
  | false =>
    rw [show (if x ∉ s.deleted then (if false = true then markDeleted s x else s) else s) = s from ite_self s]
    exact inv_congr h fun p => (if_neg fun e => nomatch e.2).symm
  | true => exact inv_congr (inv_delLoop [x] h) fun p => by simp [eq_comm]

theorem inv_updatedArm (h : Inv s a) (x : α) (rel : Bool) :
    Inv (if x ∉ s.updated then (if rel then markUpdated s x else s) else s)
      (fun p => if x = p ∧ rel = true then some true else a p) := by
  cases rel with
  | false =>
    rw [show (if x ∉ s.updated then (if false = true then markUpdated s x else s) else s) = s from ite_self s]
    exact inv_congr h fun p => (if_neg fun e => nomatch e.2).symm
  | true =>
    intro p
    obtain ⟨u, d⟩ := mem_updStep s x p
    show (p ∈ (if x ∉ s.updated then markUpdated s x else s).updated ↔ _) ∧
      (p ∈ (if x ∉ s.updated then markUpdated s x else s).deleted ↔ _)
    rw [u, d, (h p).1, (h p).2]
    by_cases hp : x = p <;> simp +contextual [hp, eq_comm]

theorem inv_recordChange (v : View α) (h : Inv s a) (e : Event α) :
    Inv (recordChange v s e) (fun p => override (touches v e p) (a p)) := by
  obtain ⟨c, x, db⟩ := e
  cases c with
  | deleted =>
    refine inv_congr (inv_deletedArm h x (v.relevant db x)) fun p => ?_
    by_cases hp : x = p
    · subst hp; by_cases hr : v.relevant db x = true <;> simp [touches, override, hr]
    · simp [touches, override, hp]
  | updated =>
    refine inv_congr (inv_updatedArm h x (v.relevant db x)) fun p => ?_
    by_cases hp : x = p
    · subst hp; by_cases hr : v.relevant db x = true <;> simp [touches, override, hr]
    · simp [touches, override, hp]
  | deletedParent =>
    refine inv_congr (inv_delLoop (v.under db x) h) fun p => ?_
    by_cases hp : p ∈ v.under db x <;> simp [touches, override, hp]

theorem inv_recordAll (v : View α) (evs : List (Event α)) : ∀ {s : Sets α} {a : α → Option Bool}, Inv s a →
    Inv (recordAll v s evs) (fun p => lastRelevantFrom v (a p) evs p) := by
  induction evs with
  | nil => exact fun h => h
  | cons e es ih => exact fun h => ih (inv_recordChange v h e)

theorem nodup_recordChange (v : View α) (s : Sets α) (e : Event α) (hu : s.updated.Nodup) (hd : s.deleted.Nodup) :
    (recordChange v s e).updated.Nodup ∧ (recordChange v s e).deleted.Nodup := by
  let P (s' : Sets α) : Prop := s'.updated.Nodup ∧ s'.deleted.Nodup
  have del {s' : Sets α} (h : P s') (x : α) : P (if x ∉ s'.deleted then markDeleted s' x else s') :=
    ite_both P ⟨nodup_discard _ _ h.1, nodup_add _ _ h.2⟩ h
  obtain ⟨c, x, db⟩ := e
  cases c with
  | deleted =>
    exact ite_ind P (fun _ => ite_ind P (fun _ => ⟨nodup_discard _ _ hu, nodup_add _ _ hd⟩) fun _ => ⟨hu, hd⟩)
      fun _ => ⟨hu, hd⟩
  | updated =>
    exact ite_ind P (fun _ => ite_ind P (fun _ => ⟨nodup_add _ _ hu, nodup_discard _ _ hd⟩) fun _ => ⟨hu, hd⟩)
      fun _ => ⟨hu, hd⟩
  | deletedParent =>
    exact foldl_ind P _ (v.under db x) (fun _ y _ h => del h y) ⟨hu, hd⟩

theorem nodup_recordAll (v : View α) (evs : List (Event α)) (s : Sets α) (hu : s.updated.Nodup) (hd : s.deleted.Nodup) :
    (recordAll v s evs).updated.Nodup ∧ (recordAll v s evs).deleted.Nodup :=
  foldl_ind (fun s => s.updated.Nodup ∧ s.deleted.Nodup) _ evs (fun s e _ h => nodup_recordChange v s e h.1 h.2)
    ⟨hu, hd⟩

end

open StepupModel.K

variable {α : Type}

namespace FileRec

theorem rescannable_iff (r : FileRec) :
    r.rescannable = true ↔ r.attached = true ∧ r.state ≠ .planned ∧ r.state ≠ .volatile := by
  simp only [rescannable, Bool.and_eq_true, decide_eq_true_eq, and_assoc]

theorem restartScans_iff (r : FileRec) :
    r.restartScans = true ↔ r.rescannable = true ∨
      (r.attached = false ∧ (r.state = .confirmed ∨ r.state = .missing ∨ r.state = .unconfirmed)) := by
  simp only [restartScans, Bool.or_eq_true, Bool.and_eq_true, Bool.not_eq_true', decide_eq_true_eq, or_assoc]

end FileRec

/-- Both lists of hash results are computed path by path from the node of the path. -/
theorem mem_filterMap_node {β : Type} {node : α → Option FileRec} {F : α → FileRec → Option β} {l : List α} {x : β} :
    x ∈ l.filterMap (fun p => match node p with | some r => F p r | none => none) ↔
      ∃ p r, p ∈ l ∧ node p = some r ∧ F p r = some x := by
  rw [List.mem_filterMap]
  refine exists_congr fun p => ?_
  cases node p with
  | none => exact ⟨fun h => (nomatch h.2), fun h => h.elim fun _ h => (nomatch h.2.1)⟩
  | some r => exact ⟨fun h => ⟨r, h.1, rfl, h.2⟩, fun h => h.elim fun _ h => ⟨h.1, Option.some.inj h.2.1 ▸ h.2.2⟩⟩

theorem mem_watchApplied {node : α → Option FileRec} {disk : α → Option Nat} {s : Sets α} {x : Applied α} :
    x ∈ watchApplied node disk s ↔
      ∃ p r, (p ∈ s.updated ∨ p ∈ s.deleted) ∧ node p = some r ∧ r.rescannable = true ∧ disk p ≠ r.hash ∧
        x = ⟨p, .external, disk p⟩ := by
  refine mem_filterMap_node.trans (exists_congr fun p => exists_congr fun r => ?_)
  rw [List.mem_append, Option.ite_none_right_eq_some, Option.some.injEq, and_assoc, @eq_comm _ x]

theorem mem_restartApplied {paths : List α} {node : α → Option FileRec} {disk : α → Option Nat} {x : Applied α} :
    x ∈ restartApplied paths node disk ↔
      ∃ p r, p ∈ paths ∧ node p = some r ∧ r.restartScans = true ∧
        (r.state = .unconfirmed ∧ x = ⟨p, .confirmed, disk p⟩ ∨
         r.state ≠ .unconfirmed ∧ disk p ≠ r.hash ∧ x = ⟨p, .external, disk p⟩) := by
  refine mem_filterMap_node.trans (exists_congr fun p => exists_congr fun r => ?_)
  rw [Option.ite_none_right_eq_some, @eq_comm _ x, @eq_comm _ x]
  by_cases hu : r.state = .unconfirmed
  · rw [if_pos hu, Option.some.injEq]
    exact and_congr_right fun _ => and_congr_right fun _ => and_congr_right fun _ =>
      ⟨fun h => .inl ⟨hu, h⟩, fun h => h.elim (·.2) fun h => absurd hu h.1⟩
  · rw [if_neg hu, Option.ite_none_right_eq_some, Option.some.injEq]
    exact and_congr_right fun _ => and_congr_right fun _ => and_congr_right fun _ =>
      ⟨fun h => .inr ⟨hu, h⟩, fun h => h.elim (fun h => absurd h.1 hu) (·.2)⟩

def oneFile [DecidableEq α] (p : α) (r : FileRec) : α → Option FileRec := fun q => if q = p then some r else none

theorem oneFile_eq_some [DecidableEq α] {p q : α} {r r' : FileRec} : oneFile p r q = some r' ↔ q = p ∧ r' = r := by
  unfold oneFile
  split
  next h => exact ⟨fun e => ⟨h, (Option.some.inj e).symm⟩, fun e => e.2 ▸ rfl⟩
  next h => exact ⟨fun e => (nomatch e), fun e => absurd e.1 h⟩

/-- The verdicts "still there" and "gone" about a path of `updated` exclude each other. -/
theorem not_mem_vanished_of_mem_pruned {node : α → Option FileRec} {disk : α → Option Nat} {present : α → Bool}
    {s : Sets α} {p : α} (h : p ∈ prunedUpdated node disk present s) : p ∉ vanishedUpdated node disk present s := by
  intro hv
  have hk := (List.mem_filter.mp h).2
  have hk2 := (List.mem_filter.mp hv).2
  cases hn : node p with
  | none => simp only [hn] at hk hk2; simp [hk] at hk2
  | some r =>
    cases hr : r.rescannable <;> simp only [hn, hr, Bool.false_eq_true, if_false, if_true, Bool.and_eq_true] at hk hk2
    · simp [hk] at hk2
    · have a := hk.2
      have b := hk2.2
      cases hdp : disk p <;> simp [hdp] at a b

theorem mem_finalDeleted [DecidableEq α] {node : α → Option FileRec} {disk : α → Option Nat} {present : α → Bool}
    {s : Sets α} {p : α} :
    p ∈ finalDeleted node disk present s ↔ p ∈ s.deleted ∨ p ∈ vanishedUpdated node disk present s :=
  mem_append_filter_notMem

end StepupModel.P.Watch
