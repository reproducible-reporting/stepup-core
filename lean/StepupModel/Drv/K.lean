import StepupModel.K.Request
import StepupModel.K.MetaCheck
/-! Driver requests of the kernel model (`k <op> ...`); the only stateful part of the driver. -/
open StepupModel StepupModel.Proto StepupModel.K

namespace StepupModel.Drv.K

structure Session where
  st : KState := KState.init
  cfg : KConfig := {}
  lastErr : String := ""

def parseKey (tok : String) : Option Key :=
  match tok.splitOn ":" with
  | [k, l] => do
    let label ← unhex l
    match k with
    | "root" => some ⟨.root, label⟩
    | "file" => some ⟨.file, label⟩
    | "step" => some ⟨.step, label⟩
    | "st" => some ⟨.st, label⟩
    | _ => none
  | _ => none

def parseKeys (tok : String) : Option (List Key) :=
  if tok = "." then some [] else (tok.splitOn ",").mapM parseKey

def parsePairs (tok : String) : Option (List (String × String)) :=
  if tok = "." then some [] else (tok.splitOn ",").mapM fun e =>
    match e.splitOn "=" with
    | [a, b] => do pure (← unhex a, ← unhex b)
    | _ => none

def parseUnits (tok : String) : Option (List (String × Nat)) :=
  if tok = "." then some [] else (tok.splitOn ",").mapM fun e =>
    match e.splitOn "=" with
    | [a, b] => do pure (← unhex a, ← b.toNat?)
    | _ => none

def parseHashes (tok : String) : Option (List (String × Option Nat)) :=
  if tok = "." then some [] else (tok.splitOn ",").mapM fun e =>
    match e.splitOn "=" with
    | [a, b] => do
      let p ← unhex a
      if b = "~" then pure (p, none) else pure (p, some (← b.toNat?))
    | _ => none

def parsePatterns (tok : String) : Option (List (String × List String)) :=
  if tok = "." then some [] else (tok.splitOn ";").mapM fun e =>
    match e.splitOn ":" with
    | [p, ms] => do pure (← unhex p, ← unhexList ms)
    | _ => none

def parseNeed : String → Option Need
  | "OPTIONAL" => some .optional | "DEFAULT" => some .default | "TARGET" => some .target | "PLAN" => some .plan
  | _ => none

def parseCause : String → Option Cause
  | "EXTERNAL" => some .external | "SUCCEEDED" => some .succeeded | "FAILED" => some .failed
  | "CONFIRMED" => some .confirmed
  | _ => none

/-- Run a request body: on an error the state is unchanged (rollback). -/
def finish (sess : Session) (r : M (KState × String)) : Session × String :=
  match r with
  | .ok (st, out) => ({ sess with st := st }, s!"ok {out} {st.digest}")
  | .error e => ({ sess with lastErr := (match e with | .graph m => m | _ => e.name) },
      s!"err {e.name} {sess.st.digest}")

/-- Parse one `k <op> ...` line into a kernel request. -/
def parseReq : List String → Option Req
  | ["define", creator, cmd, wd, inp, env, out, vol, need, shell, safe, res, ovr] => do
    let d : StepDecl := { cmd := ← unhex cmd, workdir := ← unhex wd, inp := ← unhexList inp, env := ← unhexList env,
                          out := ← unhexList out, vol := ← unhexList vol, need := ← parseNeed need,
                          shell := shell = "1", safe := safe = "1", resources := ← parseUnits res,
                          overrides := ← parsePairs ovr }
    pure (.define (← parseKey creator) d)
  | ["amend", step, inp, env, out, vol, conc] => do
    pure (.amend (← parseKey step) (← unhexList inp) (← unhexList env) (← unhexList out) (← unhexList vol)
      (← parseKeys conc))
  | ["static", creator, paths] => do pure (.static (← parseKey creator) (← unhexList paths))
  | ["tree", creator, path] => do pure (.tree (← parseKey creator) (← unhex path))
  | ["declstatic", creator, trees, files, patterns] => do
    pure (.declStatic (← parseKey creator) (← unhexList trees) (← unhexList files) (← parsePatterns patterns))
  | ["nglob", step, pattern, found] => do pure (.nglob (← parseKey step) (← unhex pattern) (← unhexList found))
  | ["hashes", cause, upd] => do
    let c ← parseCause cause
    pure (.hashes (← parseHashes upd) c)
  | ["pop", choice] => do
    pure (.pop (← if choice = "~" then some none else (parseKey choice).map some))
  | ["update_meta"] => some .updateMeta
  | ["reset_rerun", step] => do pure (.resetRerun (← parseKey step))
  | ["completed", step, h, defer] => do
    let k ← parseKey step
    pure (.completed k (← if h = "~" then some none else h.toNat?.map some) (defer = "1"))
  | ["set_state", step, state] => do
    let k ← parseKey step
    let stt ← match state with
      | "PENDING" => some StepState.pending | "RUNNING" => some .running | "SUCCEEDED" => some .succeeded
      | "FAILED" => some .failed | "CHECKING" => some .checking | _ => none
    pure (.setState k stt)
  | ["delete_hash", step] => do pure (.deleteHash (← parseKey step))
  | ["mark_pending", step] => do pure (.markPending (← parseKey step))
  | ["hold", step] => do pure (.hold (← parseKey step))
  | ["release", step] => do pure (.release (← parseKey step))
  | ["detach", key] => do pure (.detach (← parseKey key))
  | ["revert_optional"] => some .revertOptional
  | ["delete_detached"] => some .deleteDetached
  | ["clear_queue"] => some .clearQueue
  | ["reset_interrupted"] => some .resetInterrupted
  | ["rescan_env"] => some .rescanEnv
  | ["reconcile"] => some .reconcile
  | ["check_consistency"] => some .checkConsistency
  | _ => none

def handle (sess : Session) : List String → Option (Session × String)
  | ["reset", cap, targets, dirs, avail, env] => do
    let cfg : KConfig := { deferCap := ← cap.toNat?, targets := ← unhexList targets, targetDirs := ← unhexList dirs,
                           available := ← parseUnits avail, env := ← parsePairs env }
    let sess : Session := { st := KState.init, cfg := cfg }
    pure (sess, s!"ok - {sess.st.digest}")
  | ["setenv", env] => do
    pure ({ sess with cfg := { sess.cfg with env := ← parsePairs env } }, s!"ok - {sess.st.digest}")
  | ["retarget", targets, dirs] => do
    pure ({ sess with cfg := { sess.cfg with targets := ← unhexList targets, targetDirs := ← unhexList dirs } },
      s!"ok - {sess.st.digest}")
  | ["cacheinv"] =>
    -- the hypothesis of the worklist theorems (`MetaAfter.CacheInvAfterW`, the flag discipline),
    -- evaluated on the model state; second digit: the strict form `CacheInvAfter`
    -- third digit: the discipline of `_update_meta_safe` (`MetaSafe.CacheInvSafeW`)
    pure (sess, (if StepupModel.K.MetaAfter.cacheInvAfterWB sess.st sess.cfg then "1" else "0") ++
                (if StepupModel.K.MetaAfter.cacheInvAfterB sess.st sess.cfg then "1" else "0") ++
                (if StepupModel.K.MetaSafe.cacheInvSafeWB sess.st then "1" else "0"))
  | ["dump"] => pure (sess, "|".intercalate sess.st.dumpLines)
  | ["lasterr"] => pure (sess, sess.lastErr)
  | toks => do
    let req ← parseReq toks
    pure (finish sess (sess.st.exec sess.cfg req))

end StepupModel.Drv.K
